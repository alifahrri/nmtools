import NmVerif.Index.Reduce
import NmVerif.Linalg
/-
  NmVerif.Index.ReduceTrace — MODEL of `view::trace` as the C++ composes it (property C08):

    include/nmtools/array/view/trace.hpp     trace(a, offset, axis1, axis2, dtype)
                                               = view::sum(view::diagonal(a, offset, axis1, axis2), ct<-1>, dtype, None, False)
    include/nmtools/array/view/diagonal.hpp  index::shape_diagonal / index::diagonal → `Linalg.shapeDiagonal`, `Linalg.diagonalIdx`
                                             (the mirrors written for C16; the same functions, not copies)
    the reduction                            → `Reduce.reduce` (this property's mirror of reduce_t)

  The diagonal is an array of possibly-undefined elements (`none` = the index map leaves the source shape), the sum
  runs over it with `optOp`, exactly as `Reduce.var` treats its intermediate array.
  SPEC: `Linalg.specTrace` (NumPy's definition on indices) folded with `foldNumpy` (`zero` for an empty diagonal).
  Core Lean only.
-/
namespace NmVerif.Reduce
open NmVerif

/-- element of an array at a signed multi-index; `none` = some coordinate is negative or outside the shape -/
def readAt {α : Type} (a : Arr α) (i : List Int) : Option α :=
  if (∀ x ∈ i, 0 ≤ x) ∧ InShape (i.map Int.toNat) a.shape then some (a.get (i.map Int.toNat)) else none

/-- `view::diagonal(a, offset, axis1, axis2)`: `none` = an axis is refused by `normalize_axis` and the empty optional is
    unwrapped, or both axes are the same one (`shape_diagonal` then writes one entry past its result) -/
def diagonal {α : Type} (a : Arr α) (offset axis1 axis2 : Int) : Option (Arr (Option α)) :=
  match normalizeAxis a.shape.length axis1, normalizeAxis a.shape.length axis2 with
  | some ax1, some ax2 =>
    if ax1 = ax2 then none
    else (Linalg.shapeDiagonal a.shape offset ax1 ax2).map (fun dsh =>
      ⟨dsh, fun d => readAt a (Linalg.diagonalIdx a.shape.length d offset ax1 ax2)⟩)
  | _, _ => none

/-- `view::trace(a, offset, axis1, axis2)` = `view::sum(view::diagonal(…), -1, None, None, False)`;
    `zero` = `add_t::identity()` (the value of the sum over an empty diagonal) -/
def trace {α : Type} (add : α → α → α) (zero : Option α) (a : Arr α) (offset axis1 axis2 : Int) : Option (Arr (Option α)) :=
  (diagonal a offset axis1 axis2).bind (fun dg =>
    (reduceId (zero.map some) (optOp add) none dg (some [-1]) false).map (fun r => ⟨r.shape, fun j => (r.get j).join⟩))

/-- NumPy `np.trace(a, offset, axis1, axis2)[j]`: the diagonal elements `a[…, i + max(-offset,0), …, i + max(offset,0), …]`,
    `i = 0 … len-1`, summed in that order; `zero` for an empty diagonal -/
def specTraceElem {α : Type} (add : α → α → α) (zero : Option α) (a : Arr α) (sp : Arr (List Idx)) (j : Idx) : Option α :=
  foldNumpy zero add none ((sp.get j).map a.get)

end NmVerif.Reduce
