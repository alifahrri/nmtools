import NmVerif.Index.Roll
/-
  NmVerif.Index.SlidingWindow — MODEL of include/nmtools/array/index/sliding_window.hpp (+ view/sliding_window.hpp).

  Stable names:
    `Index.shapeSlidingWindow src ws axes scalarW : Option Shape`   index::shape_sliding_window
    `Index.indexSlidingWindow d srcDim axes : Option Idx`            index::sliding_window
    `Index.slidingWindowView src ws axes scalarW : Option IxView`    view::sliding_window(a, window, axis)
        `ws`      window sizes (a scalar window is the one-element list with `scalarW = true`)
        `axes`    `none` = axis None, `some l` = int axis (one element) or axis list (raw, possibly negative)
  Facts mirrored:
    * dst rank = src rank + (1 for a scalar window, else len ws); window extents are appended;
    * scalar window, axis None: EVERY axis shrinks by `w - 1` but only ONE window axis is appended, whose offset is
      added to axis 0 (NumPy accepts this call for rank 1 only);
    * window list, axis None: `dst[i] = src[i] - (ws[i] - 1)`; axis list: `dst[axis_i] -= ws[i] - 1` on the normalised axes
      (repeated axes accumulate, as in NumPy); the index function adds `d[src_dim + a]` at the RAW axis through `nmtools::at`
      (Python-style wrap), so negative axes work;
    * no check `w ≤ extent` (`size_t` wrap; outside the scope, the model truncates at 0).
  Core Lean only.
-/
namespace NmVerif.Index

def shrinkAll (src : Shape) (ws : List Nat) : Shape := List.zipWith (fun e w => e - (w - 1)) src ws

def shrinkAxes : Shape → List Nat → List Nat → Shape
  | s, k :: ks, w :: ws =>
      match s[k]? with
      | some e => shrinkAxes (s.set k (e - (w - 1))) ks ws
      | none => s
  | s, _, _ => s

def shapeSlidingWindow (src : Shape) (ws : List Nat) (axes : Option (List Int)) (scalarW : Bool) : Option Shape :=
  match axes with
  | none =>
      if scalarW then some (src.map (fun e => e - (ws.headD 1 - 1)) ++ ws)
      else some (shrinkAll src ws ++ src.drop ws.length ++ ws)
  | some l =>
      (l.mapM (fun a => normalizeAxis1 a src.length)).map (fun ks => shrinkAxes src ks ws ++ ws)

/-- `res[at(axis, a)] += d[a + src_dim]` for every listed (raw) axis -/
def addWindowOffsets : Idx → List Int → List Nat → Option Idx
  | res, ax :: axes, o :: offs =>
      match atPy res ax with
      | some x => addWindowOffsets (setPy res ax (x + o)) axes offs
      | none => none
  | res, _, _ => some res

def indexSlidingWindow (d : Idx) (srcDim : Nat) (axes : Option (List Int)) : Option Idx :=
  let res := d.take srcDim
  let offs := d.drop srcDim
  match axes with
  | none => some (List.zipWith (· + ·) res (offs ++ List.replicate (srcDim - offs.length) 0))
  | some l => addWindowOffsets res l offs

def slidingWindowView (src : Shape) (ws : List Nat) (axes : Option (List Int)) (scalarW : Bool) : Option IxView :=
  (shapeSlidingWindow src ws axes scalarW).map (fun dst =>
    ⟨src, dst, fun d => some ((indexSlidingWindow d src.length axes).getD [u64 (-1)])⟩)

end NmVerif.Index
