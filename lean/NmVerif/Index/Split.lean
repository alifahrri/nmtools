import NmVerif.Index.SelCommon
/-
  NmVerif.Index.Split — MODEL of view::detail::split_args / view::split in include/nmtools/array/view/split.hpp.

  Stable names:
    `Index.splitBoundsSections n sections`, `Index.splitBoundsIndices n indices : List (Nat × Nat)`
                                                                per part the `(start, stop)` pair on the split axis
    `Index.splitViews src sections indices axis : Option (List IxView)`   view::split(a, indices_or_sections, axis)
  Facts mirrored:
    * `axis_ = axis >= 0 ? axis : dim + axis`;
    * sections `N`: `range = extent / N` (integer division, remainder dropped), part `i` = `[i·range, i·range + range)`;
    * index list: `N = len + 1`, part `i` = `[indices[i-1] (0 for i = 0), indices[i] (extent for the last))`, both
      stored into `size_t` and clamped to the extent (repaired: "split.index-beyond-extent");
    * every part is `apply_slice(a, pairs)` with `(0, shape[j])` off the axis.  The model gives the part the extent
      `stop - start` and the element map `d[axis] + start`, which is what the slice view does for `0 ≤ start ≤ stop ≤ extent`
      (C05's domain).
  Core Lean only.
-/
namespace NmVerif.Index

def splitBoundsSections (n sections : Nat) : List (Nat × Nat) :=
  (List.range sections).map (fun i => (i * (n / sections), i * (n / sections) + n / sections))

def splitBoundsIndices (n : Nat) (indices : List Int) : List (Nat × Nat) :=
  let cuts := indices.map (fun v => min (i2u v) n)
  List.zip (0 :: cuts) (cuts ++ [n])

def splitViews (src : Shape) (sections : Option Nat) (indices : List Int) (axis : Int) : Option (List IxView) :=
  let k := if axis ≥ 0 then axis.toNat else ((src.length : Int) + axis).toNat
  match src[k]? with
  | some n =>
      let bounds := match sections with
        | some N => splitBoundsSections n N
        | none => splitBoundsIndices n indices
      some (bounds.map (fun (st, sp) =>
        ⟨src, src.set k (min sp n - st), fun d => match d[k]? with
          | some x => some (d.set k (x + st))
          | none => some d⟩))
  | none => none

end NmVerif.Index
