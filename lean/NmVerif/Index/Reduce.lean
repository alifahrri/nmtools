import NmVerif.Basic
import NmVerif.Arr
/-
  NmVerif.Index.Reduce — MODEL and SPEC of reductions / accumulations (property C08; reused by C10/C12/C16/C17).

  MODEL mirrors, loop for loop (`List Nat` for every index container kind, `Option` = the C++ has UB here):
    include/nmtools/array/index/normalize_axis.hpp     normalize_axis           → normalizeAxis / normalizeAxes
    include/nmtools/array/index/remove_dims.hpp        remove_dims              → removeDimsLoop / removeDims
    include/nmtools/array/index/reduce.hpp             reduction_slices         → reductionSlicesLoop / reductionSlices
    include/nmtools/array/view/ufunc/reduce.hpp        reducer_t, reduce_t::operator(), reduce_t<None>
                                                                                → reducer / reduceElem / reduce
    include/nmtools/array/view/ufunc/accumulate.hpp    accumulate_t::operator() → accumulateSlices / accumulateElem / accumulate
    include/nmtools/array/view/ufunc.hpp               view::reduce with a run-time keepdims → the same function
                                                       (either<reduce(True), reduce(False)>, selected by the value)
  `apply_slice(array, {start,stop} pairs)` followed by `view::flatten` is modelled on the pairs reduction_slices
  produces (0 ≤ start < stop ≤ extent): shape `stop - start`, element `d ↦ start + d`, flat position k ↦ ndindex.

  SPEC: NumPy `ufunc.reduce` / `ufunc.accumulate`: result shape, and per result index the left fold of exactly
  the source elements whose non-reduced coordinates match, in increasing C order.

  Core Lean only (linked into the `driver` executable).
-/
namespace NmVerif.Reduce
open NmVerif

/-! ## MODEL -/

/-- axis argument of reduce: `none` = `None` (reduce everything); a single integer axis `k` is `some [k]` -/
abbrev AxisArg := Option (List Int)

/-- `index::normalize_axis(axis, ndim)` on one entry: Nothing unless `-ndim ≤ a < ndim`; negative ⇒ `ndim + a` -/
def normalizeAxis (ndim : Nat) (a : Int) : Option Nat :=
  if -(ndim : Int) ≤ a ∧ a < (ndim : Int) then
    some (if a < 0 then ((ndim : Int) + a).toNat else a.toNat)
  else none

/-- `index::normalize_axis` on an index array: element-wise, Nothing when any entry is invalid; no duplicate check -/
def normalizeAxes (ndim : Nat) : List Int → Option (List Nat)
  | [] => some []
  | a :: as =>
    match normalizeAxis ndim a, normalizeAxes ndim as with
    | some x, some xs => some (x :: xs)
    | _, _ => none

/-- `unwrap(normalize_axis(m_axis, dim))` as written in remove_dims / reduction_slices:
    outer `none` = an empty optional is dereferenced (UB, DESIGN F4); inner `none` = axis None -/
def unwrapAxes (ndim : Nat) : AxisArg → Option (Option (List Nat))
  | none => some none
  | some l => (normalizeAxes ndim l).map some

/-- the `in_axis(i)` lambda: None ⇒ true; index array ⇒ `len(where(== i, axis)) > 0` -/
def inAxis : Option (List Nat) → Nat → Bool
  | none, _ => true
  | some l, i => l.contains i

/-- the `for (i = 0; i < dim; i++)` loop of `remove_dims`, from position `i`, `p = in_axis` -/
def removeDimsLoop (p : Nat → Bool) (keep : Bool) : Nat → Shape → Shape
  | _, [] => []
  | i, s :: ss =>
    if p i && !keep then removeDimsLoop p keep (i+1) ss
    else (if p i then 1 else s) :: removeDimsLoop p keep (i+1) ss

/-- `index::remove_dims(shape, axis, keepdims)` for a resizable result.
    The result is first resized to `dim` (keepdims) or `dim - len(axis)`, then the loop writes one entry per
    surviving axis: with duplicated axes the loop writes past the end (UB → `none`). -/
def removeDims (shape : Shape) (axis : AxisArg) (keep : Bool) : Option Shape :=
  match unwrapAxes shape.length axis with
  | none => none
  | some ax =>
    let res := removeDimsLoop (inAxis ax) keep 0 shape
    let n := match ax with | none => shape.length | some l => l.length
    if keep then some res
    else if n ≤ shape.length ∧ res.length = shape.length - n then some res else none

/-- loop of `index::reduction_slices(indices, src_shape, axis, keepdims)`: position `i`, counter `ii` into
    `indices`; `none` = `at(indices, ii)` out of range -/
def reductionSlicesLoop (p : Nat → Bool) (keep : Bool) (d : Idx) : Nat → Nat → Shape → Option (List (Nat × Nat))
  | _, _, [] => some []
  | i, ii, s :: ss =>
    if p i then
      (reductionSlicesLoop p keep d (i+1) (if keep then ii+1 else ii) ss).map ((0, s) :: ·)
    else
      match d[ii]? with
      | none => none
      | some x => (reductionSlicesLoop p keep d (i+1) (ii+1) ss).map ((x, x+1) :: ·)

def reductionSlices (d : Idx) (shape : Shape) (axis : AxisArg) (keep : Bool) : Option (List (Nat × Nat)) :=
  match unwrapAxes shape.length axis with
  | none => none
  | some ax => reductionSlicesLoop (inAxis ax) keep d 0 0 shape

/-- shape of `apply_slice(array, pairs)` -/
def sliceShape (sl : List (Nat × Nat)) : Shape := sl.map (fun p => p.2 - p.1)

/-- source index read by `apply_slice(array, pairs)` at `d` -/
def sliceIndex : List (Nat × Nat) → Idx → Idx
  | p :: ps, x :: xs => (p.1 + x) :: sliceIndex ps xs
  | _, _ => []

/-- `reducer_t::operator()`: without initial `acc = at(array,0); for i in 1..size-1: acc = op(acc, at(array,i))`
    (`none`: `at(array,0)` of an empty array), with initial `acc = init; for i in 0..size-1` -/
def reducer {α : Type} (op : α → α → α) (init : Option α) (n : Nat) (elem : Nat → α) : Option α :=
  match init with
  | some i0 => some ((List.range n).foldl (fun acc i => op acc (elem i)) i0)
  | none =>
    if n = 0 then none
    else some ((List.range' 1 (n-1)).foldl (fun acc i => op acc (elem i)) (elem 0))

/-- `reducer_t::empty<result_t>(initial)`: the value of a reduction over no element — the initial value, else the
    identity of the op (`ident` = `op_type::identity()` when the functor has one: add 0, multiply 1), else an assert
    and, with NDEBUG, a value-initialised result (`none`) -/
def emptyFold {α : Type} (ident init : Option α) : Option α :=
  match init with
  | some i => some i
  | none => ident

/-- the fold of an `x` of `n` elements (`elem` = its elements in C order) as `reduce_t` / `accumulate_t` do it:
    nothing to fold (`n = 0`: some reduced axis has extent 0) → `reducer_t::empty`; else `unwrap(view::flatten(x))`
    (defined for `n > 0`) followed by `reducer_t::operator()` -/
def flattenReduce {α : Type} (ident : Option α) (op : α → α → α) (init : Option α) (n : Nat) (elem : Nat → α) : Option α :=
  if n = 0 then emptyFold ident init else reducer op init n elem

/-- element of `flatten(apply_slice(array, sl))` at flat position `k` -/
def slicedFlatElem {α : Type} (a : Arr α) (sl : List (Nat × Nat)) (k : Nat) : α :=
  a.get (sliceIndex sl (ndindex (sliceShape sl) k))

/-- `reduce_t::operator()(indices…)`: slice → (empty? →) flatten → reducer.
    `reduce_t<axis = None>` ignores the indices and folds `flatten(array)`.  `ident` = the identity of the functor, if it
    declares one. -/
def reduceElemId {α : Type} (ident : Option α) (op : α → α → α) (init : Option α) (a : Arr α) (axis : AxisArg) (keep : Bool)
    (d : Idx) : Option α :=
  match axis with
  | none => flattenReduce ident op init (prod a.shape) (fun k => a.get (ndindex a.shape k))
  | some _ =>
    match reductionSlices d a.shape axis keep with
    | none => none
    | some sl => flattenReduce ident op init (prod (sliceShape sl)) (slicedFlatElem a sl)

/-- the reduce view: shape (`none` = UB while computing it) and element function (`none` = UB) -/
def reduceId {α : Type} (ident : Option α) (op : α → α → α) (init : Option α) (a : Arr α) (axis : AxisArg) (keep : Bool) :
    Option (Arr (Option α)) :=
  (removeDims a.shape axis keep).map (fun s => ⟨s, reduceElemId ident op init a axis keep⟩)

/-- a functor without `identity()` (maximum, minimum, subtract, …, a test functor that reveals the fold order) -/
def reduceElem {α : Type} (op : α → α → α) (init : Option α) (a : Arr α) (axis : AxisArg) (keep : Bool) :
    Idx → Option α := reduceElemId none op init a axis keep

def reduce {α : Type} (op : α → α → α) (init : Option α) (a : Arr α) (axis : AxisArg) (keep : Bool) :
    Option (Arr (Option α)) :=
  (removeDims a.shape axis keep).map (fun s => ⟨s, reduceElem op init a axis keep⟩)

theorem reduce_eq_reduceId {α : Type} (op : α → α → α) (init : Option α) (a : Arr α) (axis : AxisArg) (keep : Bool) :
    reduce op init a axis keep = reduceId none op init a axis keep := rfl

/-- `accumulate_t::operator()`: `m_axis = axis; if (m_axis < 0) m_axis += dim` (NumPy's meaning of a negative axis;
    an axis outside `[-dim, dim)` is left as it is and matches no position) -/
def accumulateAxis (dim : Nat) (axis : Int) : Int := if axis < 0 then axis + (dim : Int) else axis

/-- loop of `accumulate_t::operator()`: `start = (i == m_axis) ? 0 : s; stop = s + 1` with `s = at(indices, i)`;
    the comparison is made in the signed common index type -/
def accumulateSlices (axis : Int) (d : Idx) : Nat → Shape → Option (List (Nat × Nat))
  | _, [] => some []
  | i, _ :: ss =>
    match d[i]? with
    | none => none
    | some s => (accumulateSlices axis d (i+1) ss).map ((if (i : Int) = axis then 0 else s, s+1) :: ·)

def accumulateElem {α : Type} (op : α → α → α) (a : Arr α) (axis : Int) (d : Idx) : Option α :=
  match accumulateSlices (accumulateAxis a.shape.length axis) d 0 a.shape with
  | none => none
  | some sl => flattenReduce none op none (prod (sliceShape sl)) (slicedFlatElem a sl)

/-- the accumulate view: source shape, running fold per element -/
def accumulate {α : Type} (op : α → α → α) (a : Arr α) (axis : Int) : Arr (Option α) :=
  ⟨a.shape, accumulateElem op a axis⟩

/-- `index::mean_divisor(shape, normalised axis)`: product of the reduced extents (`none`: `at` out of range) -/
def meanDivisor (shape : Shape) : Option (List Nat) → Option Nat
  | none => some (prod shape)
  | some l => l.foldl (fun acc k => match acc, shape[k]? with
      | some d, some e => some (d * e)
      | _, _ => none) (some 1)

/-! ### the named routines as the C++ composes them -/

/-- `view::maximum_t`: `t > u ? t : u` -/
def maximum {α : Type} [LT α] [DecidableRel (α := α) (· < ·)] (t u : α) : α := if u < t then t else u
/-- `view::minimum_t`: `t < u ? t : u` -/
def minimum {α : Type} [LT α] [DecidableRel (α := α) (· < ·)] (t u : α) : α := if t < u then t else u

/-- `view::sum(a, axis, dtype, initial, keepdims)` = `reduce(add_t{}, …)`; `add_t::identity()` = 0 -/
def sum {α : Type} [Add α] [OfNat α 0] (init : Option α) (a : Arr α) (axis : AxisArg) (keep : Bool) :=
  reduceId (some 0) (· + ·) init a axis keep
/-- `view::prod` = `reduce(multiply_t{}, …)`; `multiply_t::identity()` = 1 -/
def prodReduce {α : Type} [Mul α] [OfNat α 1] (init : Option α) (a : Arr α) (axis : AxisArg) (keep : Bool) :=
  reduceId (some 1) (· * ·) init a axis keep
/-- `view::amax` = `reduce_maximum` = `reduce(maximum_t{}, …)` -/
def amax {α : Type} [LT α] [DecidableRel (α := α) (· < ·)] (init : Option α) (a : Arr α) (axis : AxisArg) (keep : Bool) :=
  reduce maximum init a axis keep
/-- `view::amin` = `reduce_minimum` = `reduce(minimum_t{}, …)` -/
def amin {α : Type} [LT α] [DecidableRel (α := α) (· < ·)] (init : Option α) (a : Arr α) (axis : AxisArg) (keep : Bool) :=
  reduce minimum init a axis keep
/-- `view::cumsum(a, axis)` = `accumulate(add_t{}, a, axis)` -/
def cumsum {α : Type} [Add α] (a : Arr α) (axis : Int) := accumulate (· + ·) a axis
/-- `view::cumprod(a, axis)` = `accumulate(multiply_t{}, a, axis)` -/
def cumprod {α : Type} [Mul α] (a : Arr α) (axis : Int) := accumulate (· * ·) a axis

/-- `view::mean(array, axis, dtype, keepdims)` over abstract element operations:
    `m_axis = unwrap(normalize_axis(axis, dim))`, `divisor = mean_divisor(shape, m_axis)`,
    `divide(reduce_add(array, m_axis, dtype, None, keepdims), divisor)` (the normalised axis is normalised again
    inside reduce).  `divn x n` stands for `x / n` in the promoted element type. -/
def mean {α : Type} (add : α → α → α) (divn : α → Nat → α) (a : Arr α) (axis : AxisArg) (keep : Bool) :
    Option (Arr (Option α)) :=
  match unwrapAxes a.shape.length axis with
  | none => none
  | some ax =>
    match meanDivisor a.shape ax, reduce add none a (ax.map (fun l => l.map Int.ofNat)) keep with
    | some n, some v => some ⟨v.shape, fun j => (v.get j).map (fun x => divn x n)⟩
    | _, _ => none

/-- `view::vector_norm(array, axis, keepdims, ord)` over abstract element operations:
    `power(sum(power(fabs(array), ord), axis, None, None, keepdims), 1/ord)`;
    `pre = x ↦ |x|^ord`, `post = y ↦ y^(1/ord)` -/
def vectorNorm {α : Type} (add : α → α → α) (pre post : α → α) (a : Arr α) (axis : AxisArg) (keep : Bool) :
    Option (Arr (Option α)) :=
  (reduce add none (a.map pre) axis keep).map (fun v => ⟨v.shape, fun j => (v.get j).map post⟩)

/-! ## What the views read: not mirrors of C++ code, but the source indices the element functions go through, in fold order -/

/-- the source multi-indices `flatten(apply_slice(a, sl))` reads at flat positions `0 .. size-1`, in that order -/
def slicedReads (sl : List (Nat × Nat)) : List Idx :=
  (List.range (prod (sliceShape sl))).map (fun k => sliceIndex sl (ndindex (sliceShape sl) k))

/-- the source multi-indices `reduce_t::operator()(d…)` reads, in fold order (`none` = UB before any read) -/
def reduceReads (s : Shape) (axis : AxisArg) (keep : Bool) (d : Idx) : Option (List Idx) :=
  match axis with
  | none => some ((List.range (prod s)).map (ndindex s))
  | some _ => (reductionSlices d s axis keep).map slicedReads

/-- the source multi-indices `accumulate_t::operator()(d…)` reads, in fold order -/
def accumulateReads (s : Shape) (axis : Int) (d : Idx) : Option (List Idx) :=
  (accumulateSlices (accumulateAxis s.length axis) d 0 s).map slicedReads

/-! ## SPEC (NumPy) -/

/-- NumPy accepts axis entry `a` for rank `ndim` -/
def ValidAxis (ndim : Nat) (a : Int) : Prop := -(ndim : Int) ≤ a ∧ a < (ndim : Int)

instance (ndim : Nat) (a : Int) : Decidable (ValidAxis ndim a) := by unfold ValidAxis; exact inferInstance

/-- NumPy's normalisation of a valid axis: `a mod ndim` -/
def normAxis (ndim : Nat) (a : Int) : Nat := (a % (ndim : Int)).toNat

/-- the set of reduced axes -/
def axisSet (ndim : Nat) : AxisArg → List Nat
  | none => List.range ndim
  | some l => l.map (normAxis ndim)

/-- NumPy accepts the axis argument: entries in range, no axis named twice ("duplicate value in 'axis'") -/
def ValidAxes (ndim : Nat) : AxisArg → Prop
  | none => True
  | some l => (∀ a ∈ l, ValidAxis ndim a) ∧ (l.map (normAxis ndim)).Nodup

instance (ndim : Nat) (ax : AxisArg) : Decidable (ValidAxes ndim ax) := by
  unfold ValidAxes; cases ax <;> exact inferInstance

/-- every reduced axis has a positive extent (the other extents are unconstrained: they may be 0) -/
def PosAxes (s : Shape) (R : List Nat) : Prop := ∀ k ∈ R, ∀ e, s[k]? = some e → 0 < e

instance (s : Shape) (R : List Nat) : Decidable (PosAxes s R) :=
  decidable_of_iff (∀ k ∈ R, (s[k]?).all (0 < ·) = true) (by
    unfold PosAxes
    constructor
    · intro h k hk e he; have := h k hk; rw [he] at this; simpa using this
    · intro h k hk
      cases he : s[k]? with
      | none => rfl
      | some e => simpa using h k hk e he)

/-- NumPy result shape of a reduction over the axis set `R` -/
def specShape (s : Shape) (R : List Nat) (keep : Bool) : Shape :=
  if keep then s.zipIdx.map (fun q => if q.2 ∈ R then 1 else q.1)
  else (s.zipIdx.filter (fun q => !decide (q.2 ∈ R))).map (·.1)

/-- result index to which source index `i` contributes -/
def proj (R : List Nat) (keep : Bool) (i : Idx) : Idx :=
  if keep then i.zipIdx.map (fun q => if q.2 ∈ R then 0 else q.1)
  else (i.zipIdx.filter (fun q => !decide (q.2 ∈ R))).map (·.1)

/-- left fold starting from `init`, or from the first element when there is none
    (`none`: NumPy raises "zero-size array to reduction operation which has no identity") -/
def foldFirst {α : Type} (op : α → α → α) : Option α → List α → Option α
  | some i0, xs => some (xs.foldl op i0)
  | none, x :: xs => some (xs.foldl op x)
  | none, [] => none

/-- NumPy `ufunc.reduce` over a list of elements: a non-empty list is folded from the initial value or from its first
    element; the empty list gives the initial value, else the identity of the ufunc, else
    "zero-size array to reduction operation which has no identity" (`none`) -/
def foldNumpy {α : Type} (ident : Option α) (op : α → α → α) (init : Option α) : List α → Option α
  | [] => (match init with | some i => some i | none => ident)
  | x :: xs => foldFirst op init (x :: xs)

/-- the source multi-indices feeding result index `j`, in increasing C order -/
def addressed (s : Shape) (R : List Nat) (keep : Bool) (j : Idx) : List Idx :=
  (allIdx s).filter (fun i => proj R keep i == j)

/-- NumPy `op.reduce(a, axis, initial=init, keepdims=keep)[j]` -/
def specReduceElem {α : Type} (op : α → α → α) (init : Option α) (a : Arr α) (R : List Nat) (keep : Bool)
    (j : Idx) : Option α :=
  foldFirst op init ((addressed a.shape R keep j).map a.get)

/-- NumPy `op.reduce(a, axis, initial=init, keepdims=keep)[j]` of a ufunc with identity `ident` (`none`: it has none),
    for every shape, extents 0 included -/
def specReduceElemId {α : Type} (ident : Option α) (op : α → α → α) (init : Option α) (a : Arr α) (R : List Nat) (keep : Bool)
    (j : Idx) : Option α :=
  foldNumpy ident op init ((addressed a.shape R keep j).map a.get)

/-- NumPy `var(a, axis, ddof, keepdims)[j]`: with `G` the addressed elements, `μ = (Σ G) / |G|`,
    `(Σ_{x ∈ G} |x - μ|²) / (|G| - ddof)`; abstract element operations -/
def specVarElem {α : Type} (add sub : α → α → α) (sqabs : α → α) (divn : α → Nat → α) (a : Arr α) (R : List Nat)
    (keep : Bool) (ddof : Nat) (j : Idx) : Option α :=
  let G := addressed a.shape R keep j
  (foldFirst add none (G.map a.get)).bind (fun S =>
    (foldFirst add none (G.map (fun i => sqabs (sub (a.get i) (divn S G.length))))).map
      (fun x => divn x (G.length - ddof)))

/-- the source multi-indices feeding `accumulate(a, ax)[d]`: `d` with coordinate `ax` running over `0..d[ax]` -/
def accumAddressed (ax : Nat) (d : Idx) : Option (List Idx) :=
  match d[ax]? with
  | none => none
  | some m => some ((List.range (m+1)).map (fun x => d.set ax x))

/-- NumPy `op.accumulate(a, ax)[d]` = fold of `a[.., 0..d[ax], ..]` -/
def specAccumElem {α : Type} (op : α → α → α) (a : Arr α) (ax : Nat) (d : Idx) : Option α :=
  match accumAddressed ax d with
  | none => none
  | some l => foldFirst op none (l.map a.get)

/-! ## var / stddev: compositions that use the broadcasting index map (stated with `proj`) -/

/-- binary op on possibly-undefined operands (an undefined operand makes the result undefined) -/
def optOp {α : Type} (f : α → α → α) : Option α → Option α → Option α
  | some x, some y => some (f x y)
  | _, _ => none

/-- `view::var(array, axis, dtype, ddof, keepdims)` over abstract element operations:
    `a = mean(input, m_axis, dtype, True)`, `d = square(fabs(subtract(input, a)))`,
    `e = sum(d, m_axis, dtype, None, keepdims)`, `divide(e, mean_divisor(shape, m_axis) - ddof)`.
    `subtract(input, a)` broadcasts the keepdims mean against the input: the element at `i` reads the mean at `i`
    with every reduced coordinate set to 0 (that is what C06 proves of broadcast_to); `sqabs x = |x|²`. -/
def var {α : Type} (add sub : α → α → α) (sqabs : α → α) (divn : α → Nat → α) (a : Arr α) (axis : AxisArg)
    (ddof : Nat) (keep : Bool) : Option (Arr (Option α)) :=
  match unwrapAxes a.shape.length axis with
  | none => none
  | some ax =>
    let axis' : AxisArg := ax.map (fun l => l.map Int.ofNat)
    match mean add divn a axis' true, meanDivisor a.shape ax with
    | some m, some n =>
      let d : Arr (Option α) :=
        ⟨a.shape, fun i => (m.get (proj (axisSet a.shape.length axis') true i)).map (fun mu => sqabs (sub (a.get i) mu))⟩
      match reduce (optOp add) none d axis' keep with
      | none => none
      | some e => some ⟨e.shape, fun j => ((e.get j).join).map (fun x => divn x (n - ddof))⟩
    | _, _ => none

/-- `view::stddev` = `sqrt(var(…))` -/
def stddev {α : Type} (add sub : α → α → α) (sqabs sqrt : α → α) (divn : α → Nat → α) (a : Arr α) (axis : AxisArg)
    (ddof : Nat) (keep : Bool) : Option (Arr (Option α)) :=
  (var add sub sqabs divn a axis ddof keep).map (fun v => ⟨v.shape, fun j => (v.get j).map sqrt⟩)

/-! ## executable helpers for the driver -/

/-- array over an explicit row-major buffer (element `0` outside the buffer: never read on in-shape indices) -/
def arrOfData (s : Shape) (data : List Int) : Arr Int :=
  ⟨s, fun i => data.getD (computeOffset i (strides s)) 0⟩

/-- evaluate a view `Arr (Option α)` in C order; `none` if any element is UB -/
def evalFlat {α : Type} (v : Arr (Option α)) : Option (List α) :=
  (allIdx v.shape).mapM v.get

end NmVerif.Reduce
