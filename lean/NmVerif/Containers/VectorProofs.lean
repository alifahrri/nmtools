import NmVerif.Containers.Core
import NmVerif.Containers.Spec
import NmVerif.Containers.Vector
import NmVerif.Containers.Table
import NmVerif.Lemmas.ListBasics
/-
  Proofs about the `utl::vector` mirror: representation invariant, one summary per operation (`Vec.Does`: invariant,
  client-visible elements, effect on the allocator ledger), and the table of them, `vec_table`: the exact refinement of
  `std::vector` by every operation of the alphabet (`vec_sim`) and the ledger invariant (VectorLedger) are both read off it.
-/
namespace NmVerif.Containers
variable {α : Type}

theorem take_succ_set (l : List β) (n : Nat) (a : β) (h : n < l.length) :
    (l.set n a).take (n + 1) = l.take n ++ [a] := by
  rw [List.take_succ_eq_append_getElem (by simpa using h), List.getElem_set_self, List.take_set_of_le (Nat.le_refl n)]

theorem take_set_drop (l : List β) (i : Nat) (a : β) (as : List β) (hi : i < l.length) :
    (l.set i a).take (i + 1) ++ as ++ (l.set i a).drop (i + 1 + as.length)
      = l.take i ++ a :: as ++ l.drop (i + (as.length + 1)) := by
  have e2 : (l.set i a).drop (i + 1 + as.length) = l.drop (i + (as.length + 1)) := by
    rw [List.drop_set]
    have : i < i + 1 + as.length := by omega
    simp only [this, if_true]; congr 1; omega
  rw [take_succ_set _ _ _ hi, e2]; simp

theorem initRange_length (zero : α) (cells : List (Cell α)) (old n : Nat) (hn : n ≤ cells.length) :
    (initRange zero cells old n).length = cells.length := by
  fun_cases initRange zero cells old n
  · simp [List.length_take]; omega
  · rfl

theorem initRange_take_old (zero : α) (cells : List (Cell α)) (old n : Nat) (hn : n ≤ cells.length) :
    (initRange zero cells old n).take old = cells.take old := by
  fun_cases initRange zero cells old n
  · rw [List.append_assoc, List.take_left']
    simp [List.length_take]; omega
  · rfl

theorem initRange_view (zero : α) (cells : List (Cell α)) (old n : Nat) (hn : n ≤ cells.length) :
    (initRange zero cells old n).take n =
      if n ≤ old then (cells.take old).take n else cells.take old ++ List.replicate (n - old) (some zero) := by
  fun_cases initRange zero cells old n
  · rw [if_neg (by omega), List.take_left' (by simp [List.length_take]; omega)]
  · rw [if_pos (by omega), List.take_take, Nat.min_eq_left (by omega)]

namespace Vec

/-- representation invariant: a block is held, `cells` is that block, the logical size fits -/
structure Inv (v : Vec α) : Prop where
  blk : v.blk.isSome
  len : v.cells.length = v.cap
  le : v.size ≤ v.cap

theorem view_length (v : Vec α) (h : v.Inv) : v.view.length = v.size := by
  have := h.le
  simp [view, List.length_take, h.len]; omega

abbrev Does (old : Option Nat) (L : Ledger) (vw : List (Cell α)) (r : Vec α × Ledger) : Prop :=
  Containers.Does Vec.blk Vec.Inv Vec.view old L vw r

theorem resize_does (zero : α) (v : Vec α) (n : Nat) (L : Ledger) (h : v.Inv) :
    Does v.blk L (if n ≤ v.size then v.view.take n else v.view ++ List.replicate (n - v.size) (some zero))
      (v.resize zero n L) ∧ (v.resize zero n L).1.size = n := by
  obtain ⟨p, hp⟩ := Option.isSome_iff_exists.mp h.blk
  have h1 := h.len; have h2 := h.le
  unfold resize
  simp only [hp]
  by_cases hc : v.cap < n
  · have hn : ¬ n ≤ v.size := by omega
    have hd : decide (v.cells.length < v.size) = false := by simp; omega
    simp only [hc, if_true, hn, if_false, hd, Ledger.flagIf]
    refine ⟨⟨⟨by simp, by simp [List.length_take]; omega, by simp⟩, (EffP.alloc L).freeOld, ?_⟩, trivial⟩
    simp only [view]
    rw [List.take_of_length_le]
    simp [List.length_take]; omega
  · have hd : decide (v.size < n ∧ v.cells.length < n) = false := by simp; omega
    simp only [hc, if_false, hd, Ledger.flagIf]
    exact ⟨⟨⟨by simp, (initRange_length zero v.cells v.size n (by omega)).trans h.len, by simp; omega⟩, EffP.refl,
      initRange_view zero v.cells v.size n (by omega)⟩, trivial⟩

theorem copyFrom_does (v o : Vec α) (L : Ledger) (h : v.Inv) (ho : o.Inv) (hs : v.size = o.size) :
    Does v.blk L o.view (v.copyFrom o L) := by
  have h1 := h.len; have h2 := h.le; have h3 := ho.len; have h4 := ho.le
  have hc : decide (o.cells.length < v.size ∨ v.cells.length < v.size) = false := by simp; omega
  simp only [copyFrom, hc, Ledger.flagIf]
  refine ⟨⟨h.blk, (List.length_take_append_drop (by omega) (by omega)).trans h1, h.le⟩, EffP.refl, ?_⟩
  simp only [view, ← hs]
  exact List.take_left' (List.length_take_of_le (by omega))

theorem store_does (v : Vec α) (i : Nat) (c : Cell α) (L : Ledger) (h : v.Inv) (hi : i < v.size) :
    Does v.blk L (v.view.set i c) (v.store i c L) := by
  have hi' : i < v.cells.length := by have := h.len; have := h.le; omega
  simp only [store, hi', if_true]
  exact ⟨⟨h.blk, List.length_set.trans h.len, h.le⟩, EffP.refl, List.take_set⟩

theorem store_size (v : Vec α) (i : Nat) (c : Cell α) (L : Ledger) : (v.store i c L).1.size = v.size := by
  fun_cases store v i c L <;> rfl

theorem storeAll_does (as : List α) (v : Vec α) (i : Nat) (L : Ledger) (h : v.Inv) (hb : i + as.length ≤ v.size) :
    Does v.blk L (v.view.take i ++ as.map some ++ v.view.drop (i + as.length)) (storeAll v i as L) := by
  induction as generalizing v i L with
  | nil => exact (Does.refl h L).view_eq (by simp)
  | cons a as ih =>
    simp only [List.length_cons] at hb
    have d1 := store_does v i (some a) L h (by omega)
    refine (d1.trans (ih _ (i + 1) _ d1.inv (by rw [store_size]; omega))).view_eq ?_
    rw [d1.view]
    simpa using take_set_drop v.view i (some a) (as.map some) (by rw [view_length v h]; omega)

theorem mkDefault_does (L : Ledger) : Does none L [] (mkDefault (α := α) L) :=
  ⟨by constructor <;> simp [mkDefault], EffP.alloc L, rfl⟩

theorem mkSized_does (zero : α) (n : Nat) (L : Ledger) : Does none L (List.replicate n (some zero)) (mkSized zero n L) := by
  have g0 : Does none L [] (({ blk := some L.alloc.1, cells := List.replicate n none, size := 0, cap := n } : Vec α), L.alloc.2) :=
    ⟨⟨by simp, by simp, by simp⟩, EffP.alloc L, rfl⟩
  refine (g0.trans (resize_does zero _ n _ g0.inv).1).view_eq ?_
  by_cases hn : n = 0
  · subst hn; simp [view]
  · have : ¬ n ≤ 0 := by omega
    simp [this, view]

theorem assign_does (zero : α) (v o : Vec α) (L : Ledger) (h : v.Inv) (ho : o.Inv) :
    Does v.blk L o.view (assign zero v o L) :=
  let ⟨d1, hs⟩ := resize_does zero v o.size L h
  d1.trans (copyFrom_does _ o _ d1.inv ho hs)

/-- the copy constructor is, by definition, an assignment to a default-constructed vector (vector.hpp: `resize(other.size_)` +
    element loop) -/
theorem mkCopy_does (zero : α) (o : Vec α) (L : Ledger) (ho : o.Inv) : Does none L o.view (mkCopy zero o L) :=
  (mkDefault_does L).trans (assign_does zero _ o _ (mkDefault_does L).inv ho)

theorem mkCopy_size (zero : α) (o : Vec α) (L : Ledger) : (mkCopy zero o L).1.size = o.size :=
  (resize_does zero _ o.size _ (mkDefault_does L).inv).2

theorem mkVariadic_does (zero : α) (vs : List α) (L : Ledger) : Does none L (vs.map some) (mkVariadic zero vs L) := by
  have d0 := mkDefault_does (α := α) L
  obtain ⟨d1, h2⟩ := resize_does zero _ vs.length _ d0.inv
  replace d1 := d0.trans d1
  refine (d1.trans (storeAll_does vs _ 0 _ d1.inv (by omega))).view_eq ?_
  rw [List.drop_of_length_le (by rw [view_length _ d1.inv]; omega)]; simp

theorem resize_same (zero : α) (v : Vec α) (L : Ledger) (h : v.Inv) : v.resize zero v.size L = (v, L) := by
  obtain ⟨p, hp⟩ := Option.isSome_iff_exists.mp h.blk
  have h1 := h.len; have h2 := h.le
  cases v with
  | mk blk cells size cap =>
    simp only at hp h1 h2
    subst hp
    have : ¬ cap < size := by omega
    simp [resize, this, initRange, Ledger.flagIf]

theorem assignSelf_eq (zero : α) (v : Vec α) (L : Ledger) (h : v.Inv) : assignSelf zero v L = (v, L) := by
  have h1 := h.len; have h2 := h.le
  unfold assignSelf
  simp only [resize_same zero v L h, copyFrom, List.take_append_drop]
  have : ¬ (v.cells.length < v.size) := by omega
  simp [Ledger.flagIf, this]

theorem pushCell_does (zero : α) (v : Vec α) (c : Cell α) (L : Ledger) (h : v.Inv) :
    Does v.blk L (v.view ++ [c]) (pushCell zero v c L) := by
  have h1 := h.len; have h2 := h.le; have hv := view_length v h
  unfold pushCell
  split
  · -- full: reallocate to size+1, then overwrite the value-initialised last element
    obtain ⟨d1, hs⟩ := resize_does zero v (v.size + 1) L h
    refine (d1.trans (store_does _ _ c _ d1.inv (by omega))).view_eq ?_
    have hn : ¬ v.size + 1 ≤ v.size := by omega
    rw [hs, d1.view]
    simp only [hn, if_false, Nat.add_sub_cancel, Nat.add_sub_cancel_left]
    rw [List.set_append_right _ _ (by omega), hv]; simp
  · have hlen : v.size < v.cells.length := by omega
    have d1 : Does v.blk L (v.cells.take (v.size + 1)) (({ v with size := v.size + 1 } : Vec α), L) :=
      ⟨⟨h.blk, h.len, by simp; omega⟩, EffP.refl, rfl⟩
    refine (d1.trans (store_does _ _ c _ d1.inv (by simp))).view_eq ?_
    simp only [Nat.add_sub_cancel, view]
    rw [← List.take_set, take_succ_set _ _ _ hlen]

theorem pushAt_does (zero : α) (v : Vec α) (i : Nat) (L : Ledger) (h : v.Inv) (hi : i < v.size) :
    Does v.blk L (v.view ++ v.view[i]?.toList) (pushAt zero v i L) := by
  have h1 := h.len; have h2 := h.le
  have hil : i < v.cells.length := by omega
  simp only [pushAt, view, List.getElem?_take, if_pos hi, List.getElem?_eq_getElem hil, Option.toList_some]
  exact pushCell_does zero v _ L h

theorem read_led (v : Vec α) (i : Nat) (L : Ledger) (h : v.Inv) (hi : i < v.size) : (read v i L).2 = L := by
  have := h.le; have := h.len
  have hi' : i < v.cells.length := by omega
  simp [read, List.getElem?_eq_getElem hi']

theorem destroy_eff (x : Vec α) (L : Ledger) : EffP x.blk none L (x.destroy L) := by
  cases hp : x.blk <;> simp only [destroy, hp]
  · exact EffP.refl
  · exact EffP.free L _

/-- a temporary destroyed after the result was built from it -/
theorem Does.dropTemp {L : Ledger} {t r : Vec α × Ledger} {vw0 vw : List (Cell α)} (g0 : Does none L vw0 t)
    (d1 : Does none t.2 vw r) : Does none L vw (r.1, destroy t.1 r.2) := by
  obtain ⟨a, ha⟩ := Option.isSome_iff_exists.mp g0.inv.blk
  obtain ⟨b, hb⟩ := Option.isSome_iff_exists.mp d1.inv.blk
  refine ⟨d1.inv, ?_, d1.view⟩
  simp only [destroy, ha]
  have e0 := g0.eff; rw [ha] at e0
  have e1 := d1.eff; rw [hb] at e1
  rw [hb]; exact e0.trans e1.freeOld

end Vec

/-- exact refinement relation towards `std::vector` -/
def RVec (v : Vec α) (l : List α) : Prop := v.Inv ∧ v.view = l.map some

/-- every operation of the alphabet is inside the refinement domain -/
def vecOk : Option (List α) → Op α → Prop := fun _ _ => True

/-- every operation of `utl::vector` does what `std::vector`'s does -/
theorem vec_table (zero : α) : Table (vecImpl zero) Vec.blk Vec.Inv zero where
  size := Vec.view_length
  mkDefault := Vec.mkDefault_does
  mkSized := Vec.mkSized_does zero
  mkVariadic := Vec.mkVariadic_does zero
  mkCopy := Vec.mkCopy_does zero
  assign := Vec.assign_does zero
  assignSelf := Vec.assignSelf_eq zero
  -- the projection is reduced by hand: against the folded `(vecImpl zero).push x a L` the unifier unfolds `Vec.push` on the other
  -- side first, down to the `if`s of `store` (no other operation unfolds that deep)
  push a x L h := by dsimp only [vecImpl]; exact Vec.pushCell_does zero x (some a) L h
  pushAt i x := Vec.pushAt_does zero x i
  resize n x L h := (Vec.resize_does zero x n L h).1
  write i a x := Vec.store_does x i (some a)
  read i x := Vec.read_led x i
  destroy := Vec.destroy_eff

theorem vec_sim (zero : α) : Sim (vecImpl zero) (stdSpec zero) RVec vecOk := (vec_table zero).sim (fun _ _ => Iff.rfl) _

end NmVerif.Containers
