import NmVerif.Containers.VectorProofs
import NmVerif.Containers.LedgerInv
/-
  Ledger discipline of the `utl::vector` mirror: the world invariant `LInv`, in every state reached (`reach_linv`, from
  `vec_table` of VectorProofs), which is what the theorems of `Props/C19` about `utl::vector` quote.
  `LInv` is `LInvG Vec.blk Vec.Inv` written out for `Vec`, field by field (a structure of its own: `reach_linv` copies the
  eight fields).  `Eff` is `EffG` for an object that always owns a block (`new_src`: the same block or a fresh one; `EffG` also
  allows giving the block up).
-/
namespace NmVerif.Containers
variable {α : Type}

/-- effect on the ledger of an operation that turns an object owning block `old` into one owning `new`, in terms of sets (see
    `EffG`).  It stands with `Eff.of_eq` (an operation that leaves the allocator fields alone) and `Eff.toG` only; what the
    operations of `utl::vector` do to the ledger is the `eff` field of their `Vec.Does` (VectorProofs). -/
structure Eff (old new : Option Nat) (L L' : Ledger) : Prop where
  mono : L.allocs ≤ L'.allocs
  lost : L'.lost = L.lost
  events : L'.events = L.events
  freed : ∃ fs : List Nat, L'.freed = fs ++ L.freed ∧ fs.Nodup ∧
    (∀ b ∈ fs, (some b = old ∨ (L.allocs ≤ b ∧ b < L'.allocs)) ∧ some b ≠ new) ∧
    (∀ b, (some b = old ∨ (L.allocs ≤ b ∧ b < L'.allocs)) → some b = new ∨ b ∈ fs)
  new_src : new = old ∨ ∃ b, new = some b ∧ L.allocs ≤ b ∧ b < L'.allocs

theorem Eff.of_eq (o : Option Nat) {L L' : Ledger} (h1 : L'.allocs = L.allocs) (h2 : L'.freed = L.freed)
    (h3 : L'.lost = L.lost) (h4 : L'.events = L.events) : Eff o o L L' :=
  ⟨by omega, h3, h4, ⟨[], by simp [h2], by simp, by simp, by
    intro b hb; rcases hb with hb | hb
    · exact Or.inl hb
    · omega⟩, Or.inl rfl⟩

theorem Eff.toG {old new : Option Nat} {L L' : Ledger} (h : Eff old new L L') : EffG old new L L' :=
  ⟨h.mono, h.lost, h.events, h.freed, by
    intro p hp
    rcases h.new_src with e | ⟨q, e, hq, hq'⟩
    · left; rw [← e]; exact hp
    · right; rw [hp] at e; cases e; exact ⟨hq, hq'⟩⟩

/-- world invariant of the `utl::vector` machine; holds in every reachable state by `reach_linv` -/
structure LInv (w : World (Vec α)) : Prop where
  objInv : ∀ k x, w.objs k = some x → x.Inv
  owned : ∀ k x p, w.objs k = some x → x.blk = some p → p < w.led.allocs ∧ p ∉ w.led.freed
  distinct : ∀ k1 k2 x1 x2 p, k1 ≠ k2 → w.objs k1 = some x1 → w.objs k2 = some x2 → x1.blk = some p → x2.blk ≠ some p
  freedNodup : w.led.freed.Nodup
  freedLt : ∀ b ∈ w.led.freed, b < w.led.allocs
  accounted : ∀ b, b < w.led.allocs → b ∈ w.led.freed ∨ ∃ k x, w.objs k = some x ∧ x.blk = some b
  noEvents : w.led.events = []
  lostNil : w.led.lost = []

/-- `~vector()` on slot `s` keeps `LInv`, proved directly on the eight set-level fields.  `reach_linv` does not pass through it:
    along a history the destroy step is the last case of `step_linvp`, on the multiset identity. -/
theorem LInv.destroy {w : World (Vec α)} (hw : LInv w) (s : Nat) (x : Vec α) (hx : w.objs s = some x) :
    LInv (w.put s none (Vec.destroy x w.led)) := by
  obtain ⟨p, hp⟩ := Option.isSome_iff_exists.mp (hw.objInv s x hx).blk
  have hps := hw.owned s x p hx hp
  have hob : ∀ {k y}, (w.put s none (w.led.free p)).objs k = some y → k ≠ s ∧ w.objs k = some y := fun {k _} h =>
    if e : k = s then nomatch (if_pos e).symm.trans h else ⟨e, (if_neg e).symm.trans h⟩
  simp only [Vec.destroy, hp]
  refine ⟨fun k y h => hw.objInv k y (hob h).2, ?_, ?_, List.nodup_cons.2 ⟨hps.2, hw.freedNodup⟩, ?_, ?_, hw.noEvents, hw.lostNil⟩
  · intro k y q h hq
    obtain ⟨hk, h'⟩ := hob h
    refine ⟨(hw.owned k y q h' hq).1, fun hin => ?_⟩
    rcases List.mem_cons.1 hin with e | e
    · subst e; exact hw.distinct k s y x q hk h' hx hq hp
    · exact (hw.owned k y q h' hq).2 e
  · intro k1 k2 y1 y2 q hne h1 h2
    exact hw.distinct k1 k2 y1 y2 q hne (hob h1).2 (hob h2).2
  · intro b hb
    rcases List.mem_cons.1 hb with e | e
    · subst e; exact hps.1
    · exact hw.freedLt b e
  · intro b hb
    rcases hw.accounted b hb with h | ⟨k, y, h, hq⟩
    · exact Or.inl (List.mem_cons_of_mem _ h)
    · by_cases hk : k = s
      · subst hk; rw [hx] at h; cases h; rw [hp] at hq; cases hq; exact Or.inl List.mem_cons_self
      · exact Or.inr ⟨k, y, (if_neg hk).trans h, hq⟩

theorem reach_linv (zero : α) (h : List (Op α)) : LInv (run (vecImpl zero) World.empty h) :=
  let ⟨a, b, c, d, e, f, g, i⟩ := reach_linvg (vec_table zero) h
  ⟨a, b, c, d, e, f, g, i⟩

end NmVerif.Containers
