import NmVerif.Containers.Spec
import NmVerif.Containers.StaticVector
import NmVerif.Containers.VectorProofs
import NmVerif.Containers.LedgerSim
/-
  Proofs about the `utl::static_vector` / `utl::array` mirrors: refinement of the capacity-bounded list
  (`boundedSpec`) resp. of `std::array` (`arraySpec`), and "no out-of-bounds access".
-/
namespace NmVerif.Containers
variable {α : Type}

/-- object invariant of `static_vector<T,c>` -/
def SVec.Inv (c : Nat) (v : SVec α) : Prop := v.cells.length = c ∧ v.size ≤ c

/-- refinement relation of `static_vector<T,c>` towards the bounded list -/
structure RSVec (c : Nat) (v : SVec α) (l : List α) : Prop where
  len : v.cells.length = c
  le : v.size ≤ c
  view : v.view = l.map some

theorem RSVec.inv {c : Nat} {v : SVec α} {l : List α} (h : RSVec c v l) : SVec.Inv c v := ⟨h.len, h.le⟩

/-- the only guard: a variadic construction has at most `Capacity` arguments (more do not compile) -/
def svecSafeOk (c : Nat) : Op α → Prop
  | .ctorV _ vs => vs.length ≤ c
  | _ => True

def svecOk (c : Nat) : Option (List α) → Op α → Prop := fun _ => svecSafeOk c

namespace SVec

theorem view_length {c : Nat} {v : SVec α} (h : SVec.Inv c v) : v.view.length = v.size := by
  have := h.1; have := h.2; simp [SVec.view, List.length_take]; omega

/-- summary of an operation of `static_vector<T,c>`: invariant kept, ledger handed back, `vw` shown to the client -/
structure Does (c : Nat) (L : Ledger) (vw : List (Cell α)) (r : SVec α × Ledger) : Prop where
  inv : SVec.Inv c r.1
  led : r.2 = L
  view : r.1.view = vw

theorem Does.trans {c : Nat} {L : Ledger} {vw1 vw2 : List (Cell α)} {r1 r2 : SVec α × Ledger} (h1 : Does c L vw1 r1)
    (h2 : Does c r1.2 vw2 r2) : Does c L vw2 r2 :=
  ⟨h2.inv, h2.led.trans h1.led, h2.view⟩

theorem Does.view_eq {c : Nat} {L : Ledger} {vw vw' : List (Cell α)} {r : SVec α × Ledger} (d : Does c L vw r) (e : vw = vw') :
    Does c L vw' r := e ▸ d

theorem mkDefault_does (c : Nat) (zero : α) (L : Ledger) : Does c L [] (SVec.mkDefault c zero L) :=
  ⟨⟨List.length_replicate, Nat.zero_le c⟩, rfl, rfl⟩

theorem mkSized_does (c : Nat) (zero : α) (n : Nat) (L : Ledger) :
    Does c L (if n ≤ c then List.replicate n (some zero) else []) (SVec.mkSized c zero n L) := by
  by_cases hn : n ≤ c <;> simp only [SVec.mkSized, hn, if_true, if_false]
  · exact ⟨⟨List.length_replicate, hn⟩, rfl, by rw [SVec.view, List.take_replicate, Nat.min_eq_left hn]⟩
  · exact ⟨⟨List.length_replicate, Nat.zero_le c⟩, rfl, rfl⟩

theorem mkVariadic_does (c : Nat) (zero : α) (vs : List α) (L : Ledger) (h : vs.length ≤ c) :
    Does c L (vs.map some) (SVec.mkVariadic c zero vs L) := by
  refine ⟨⟨by simp [SVec.mkVariadic, List.length_take]; omega, h⟩, rfl, ?_⟩
  simp only [SVec.mkVariadic, SVec.view, List.take_take, Nat.min_eq_left h]
  rw [List.take_left' (by simp)]

theorem resize_does (c : Nat) (zero : α) (x : SVec α) (n : Nat) (L : Ledger) (h : SVec.Inv c x) (hn : n ≤ c) :
    Does c L (if n ≤ x.size then x.view.take n else x.view ++ List.replicate (n - x.size) (some zero)) (SVec.resize c zero x n L) ∧
      (SVec.resize c zero x n L).1.size = n := by
  obtain ⟨h1, h2⟩ := h
  have hc : decide (x.size < n ∧ x.cells.length < n) = false := by simp; omega
  simp only [SVec.resize, hn, if_true, hc, Ledger.flagIf]
  exact ⟨⟨⟨(initRange_length zero x.cells x.size n (by omega)).trans h1, hn⟩, rfl,
    initRange_view zero x.cells x.size n (by omega)⟩, trivial⟩

theorem copyFrom_does (c : Nat) (v o : SVec α) (L : Ledger) (hv : SVec.Inv c v) (ho : SVec.Inv c o) :
    Does c L (o.cells.take v.size) (SVec.copyFrom v o L) := by
  obtain ⟨h1, h2⟩ := hv; obtain ⟨h3, h4⟩ := ho
  have hc : decide (o.cells.length < v.size ∨ v.cells.length < v.size) = false := by simp; omega
  simp only [SVec.copyFrom, hc, Ledger.flagIf]
  refine ⟨⟨(List.length_take_append_drop (by omega) (by omega)).trans h1, h2⟩, rfl, ?_⟩
  exact List.take_left' (List.length_take_of_le (by omega))

theorem assign_does (c : Nat) (zero : α) (v o : SVec α) (L : Ledger) (hv : SVec.Inv c v) (ho : SVec.Inv c o) :
    Does c L o.view (SVec.assign c zero v o L) := by
  obtain ⟨d1, hs⟩ := resize_does c zero v o.size L hv ho.2
  exact d1.trans ((copyFrom_does c _ o _ d1.inv ho).view_eq (by rw [hs]; rfl))

theorem assignSelf_eq (c : Nat) (zero : α) (v : SVec α) (L : Ledger) (hv : SVec.Inv c v) :
    SVec.assignSelf c zero v L = (v, L) := by
  obtain ⟨h1, h2⟩ := hv
  have hr : SVec.resize c zero v v.size L = (v, L) := by
    simp [SVec.resize, h2, initRange, Ledger.flagIf]
  have hc' : ¬ v.cells.length < v.size := by omega
  simp [SVec.assignSelf, hr, SVec.copyFrom, Ledger.flagIf, hc']

theorem assignSelf_led (c : Nat) (zero : α) (v : SVec α) (L : Ledger) (hv : SVec.Inv c v) :
    (SVec.assignSelf c zero v L).2 = L := by
  rw [assignSelf_eq c zero v L hv]

theorem assignSelf_inv (c : Nat) (zero : α) (v : SVec α) (L : Ledger) (hv : SVec.Inv c v) :
    SVec.Inv c (SVec.assignSelf c zero v L).1 := by
  rw [assignSelf_eq c zero v L hv]; exact hv

theorem store_does (c : Nat) (v : SVec α) (i : Nat) (x : Cell α) (L : Ledger) (h : SVec.Inv c v) (hi : i < v.size) :
    Does c L (v.view.set i x) (v.store i x L) := by
  have hi' : i < v.cells.length := by have := h.1; have := h.2; omega
  simp only [SVec.store, hi', if_true]
  exact ⟨⟨List.length_set.trans h.1, h.2⟩, rfl, List.take_set⟩

/-- `push_back` of an already fetched cell: what `push` (`some a`) and `pushAt` (cell `i`) both do -/
def pushCell (c : Nat) (zero : α) (v : SVec α) (x : Cell α) (L : Ledger) : SVec α × Ledger :=
  if c < v.size + 1 then (v, L)
  else
    let r := resize c zero v (v.size + 1) L
    r.1.store (r.1.size - 1) x r.2

theorem pushCell_does (c : Nat) (zero : α) (v : SVec α) (x : Cell α) (L : Ledger) (hv : SVec.Inv c v) :
    Does c L (if c < v.size + 1 then v.view else v.view ++ [x]) (pushCell c zero v x L) := by
  by_cases hc : c < v.size + 1
  · simp only [pushCell, hc, if_true]; exact ⟨hv, rfl, rfl⟩
  · obtain ⟨d1, hs⟩ := resize_does c zero v (v.size + 1) L hv (by omega)
    have hn : ¬ v.size + 1 ≤ v.size := by omega
    have hl := view_length hv
    simp only [hn, if_false, Nat.add_sub_cancel_left] at d1
    simp only [pushCell, hc, if_false, hs, Nat.add_sub_cancel]
    refine (d1.trans (store_does c _ _ x _ d1.inv (by omega))).view_eq ?_
    rw [d1.view, List.set_append_right _ _ (by omega), hl]; simp

theorem pushAt_does (c : Nat) (zero : α) (v : SVec α) (i : Nat) (L : Ledger) (hv : SVec.Inv c v) (hi : i < v.size) :
    Does c L (if c < v.size + 1 then v.view else v.view ++ v.view[i]?.toList) (SVec.pushAt c zero v i L) := by
  have hil : i < v.cells.length := by have := hv.1; have := hv.2; omega
  rw [show SVec.pushAt c zero v i L = pushCell c zero v v.cells[i] L by
      simp only [SVec.pushAt, pushCell, List.getElem?_eq_getElem hil],
    show v.view[i]? = some v.cells[i] by rw [SVec.view, List.getElem?_take, if_pos hi, List.getElem?_eq_getElem hil]]
  exact pushCell_does c zero v _ L hv

theorem read_led (c : Nat) (v : SVec α) (i : Nat) (L : Ledger) (hv : SVec.Inv c v) (hi : i < v.size) :
    (SVec.read v i L).2 = L := by
  have hil : i < v.cells.length := by have := hv.1; have := hv.2; omega
  simp [SVec.read, List.getElem?_eq_getElem hil]

theorem Does.rsvec {c : Nat} {L : Ledger} {vw : List (Cell α)} {r : SVec α × Ledger} (d : Does c L vw r) {l : List α}
    (e : vw = l.map some) : RSVec c r.1 l := ⟨d.inv.1, d.inv.2, d.view.trans e⟩

end SVec

theorem RSVec.size_eq {c : Nat} {v : SVec α} {l : List α} (h : RSVec c v l) : v.size = l.length := by
  rw [← SVec.view_length h.inv, h.view, List.length_map]

theorem RSVec.push_view {c : Nat} {x : SVec α} {y : List α} (h : RSVec c x y) (a : α) :
    (if c < x.size + 1 then x.view else x.view ++ [some a]) = (if y.length + 1 ≤ c then y ++ [a] else y).map some := by
  rw [h.view, h.size_eq]
  by_cases hc : c < y.length + 1
  · simp [hc, Nat.not_le.2 hc]
  · simp [hc, Nat.not_lt.1 hc]

theorem svec_sim (c : Nat) (zero : α) : Sim (svecImpl c zero) (boundedSpec c zero) (RSVec c) (svecOk c) where
  size_eq := fun x y h => h.size_eq
  mkDefault := fun s L M _ => (SVec.mkDefault_does c zero L).rsvec rfl
  mkSized := fun s n L M _ => (SVec.mkSized_does c zero n L).rsvec (by simp only [boundedSpec]; split <;> simp)
  mkVariadic := fun s vs L M hok => (SVec.mkVariadic_does c zero vs L hok).rsvec (by simp only [boundedSpec, show vs.length ≤ c from hok, if_true])
  mkCopy := fun d s x y L M _ h => h
  assign := fun d s x y x' y' L M _ h h' => (SVec.assign_does c zero x x' L h.inv h'.inv).rsvec h'.view
  assignSelf := fun d x y L M _ h => by
    show RSVec c (SVec.assignSelf c zero x L).1 y
    rw [SVec.assignSelf_eq c zero x L h.inv]; exact h
  push := fun s a x y L M _ h => (SVec.pushCell_does c zero x (some a) L h.inv).rsvec (h.push_view a)
  pushAt := fun s i x y L M _ h hi => by
    have hi' : i < y.length := hi
    refine (SVec.pushAt_does c zero x i L h.inv (h.size_eq ▸ hi)).rsvec ?_
    simpa [boundedSpec, h.view, List.getElem?_eq_getElem hi'] using h.push_view y[i]
  resize := fun s n x y L M _ h => by
    by_cases hn : n ≤ c
    · refine (SVec.resize_does c zero x n L h.inv hn).1.rsvec ?_
      rw [h.view, h.size_eq]
      simp only [boundedSpec, hn, if_true, listResize]
      split <;> simp [List.map_take]
    · simp only [svecImpl, boundedSpec, SVec.resize, hn, if_false]; exact h
  write := fun s i a x y L M _ h hi =>
    (SVec.store_does c x i (some a) L h.inv (h.size_eq ▸ hi)).rsvec (by rw [h.view]; exact List.map_set.symm)

/-- the ledger is never touched: no heap, no out-of-bounds event -/
def Ledger.Untouched (L : Ledger) : Prop := L.allocs = 0 ∧ L.freed = [] ∧ L.events = []

theorem svec_fix (c : Nat) (zero : α) : LedFix (svecImpl c zero) (boundedSpec c zero) (RSVec c) (svecOk c) where
  mkDefault := fun s L _ => rfl
  mkSized := fun s n L _ => rfl
  mkVariadic := fun s vs L _ => rfl
  mkCopy := fun d s x y L _ _ => rfl
  assign := fun d s x y x' y' L _ h h' => (SVec.assign_does c zero x x' L h.inv h'.inv).led
  assignSelf := fun d x y L _ h => SVec.assignSelf_led c zero x L h.inv
  push := fun s a x y L _ h => (SVec.pushCell_does c zero x (some a) L h.inv).led
  pushAt := fun s i x y L _ h hi => (SVec.pushAt_does c zero x i L h.inv (h.size_eq ▸ hi)).led
  resize := fun s n x y L _ h => by
    by_cases hn : n ≤ c
    · exact (SVec.resize_does c zero x n L h.inv hn).1.led
    · simp only [svecImpl, SVec.resize, hn, if_false]
  write := fun s i a x y L _ h hi => (SVec.store_does c x i (some a) L h.inv (h.size_eq ▸ hi)).led
  read := fun s i x y L _ h hi => SVec.read_led c x i L h.inv (h.size_eq ▸ hi)
  destroy := fun s x y L _ _ => rfl

/-- refinement relation of `utl::array<T,n>` towards `std::array`: ALL `n` cells are those of the list (`size` is always `n`, no
    cell is hidden from the client) -/
structure RArr (n : Nat) (v : SVec α) (l : List α) : Prop where
  size : v.size = n
  len : l.length = n
  cells : v.cells = l.map some

theorem arr_sim (n : Nat) (zero : α) : Sim (arrImpl n zero) (arraySpec n zero) (RArr n) (fun _ _ => True) where
  size_eq := fun x y h => by
    show x.size = y.length
    rw [h.size, h.len]
  mkDefault := fun s L M _ => ⟨rfl, List.length_replicate, List.map_replicate.symm⟩
  mkSized := fun s k L M _ => ⟨rfl, List.length_replicate, List.map_replicate.symm⟩
  mkVariadic := fun s vs L M _ => ⟨rfl, List.length_take_of_le (by rw [List.length_append, List.length_replicate]; omega),
    by simp only [arraySpec, List.map_take, List.map_append, List.map_replicate]; rfl⟩
  mkCopy := fun d s x y L M _ h => h
  assign := fun d s x y x' y' L M _ _ h' => h'
  assignSelf := fun d x y L M _ h => h
  push := fun s a x y L M _ h => h
  pushAt := fun s i x y L M _ h _ => h
  resize := fun s k x y L M _ h => h
  write := fun s i a x y L M _ h hi => by
    have hi' : i < y.length := hi
    have hlen : i < x.cells.length := by rw [h.cells]; simpa using hi'
    simp only [arrImpl, arraySpec, SVec.write, SVec.store, hlen, if_true]
    exact ⟨h.size, by simpa using h.len, by simp [h.cells, List.map_set]⟩

end NmVerif.Containers
