import NmVerif.Containers.Either
/-
  Proofs about the `utl::either` / `utl::maybe` mirror: the active alternative and its value always equal the
  reference (`Sum`) — for every history, trivial or non-trivial left type — and the lifetime ledger facts.
  Every assignment has one summary (`Eith.EDoes`: the value read afterwards, the ledger for a trivial and for a non-trivial
  left type); the constructors from a value are assignments to raw storage.  The world-level lemmas take its projections.
-/
namespace NmVerif.Containers
variable {α β : Type}

/-- the ways `estep` can go; its slot look-ups and guards come as hypotheses -/
inductive EStepped (cfg : ECfg α β) (w : EWorld α β) : EOp α β → EWorld α β → Prop where
  | skip (op) : EStepped cfg w op w
  | mk (s) : w.objs s = none → EStepped cfg w (.mk s) (w.put s (some (Eith.mkDflt cfg w.led).1) (Eith.mkDflt cfg w.led).2)
  | mkL (s v) : w.objs s = none → EStepped cfg w (.mkL s v) (w.put s (some (Eith.mkL cfg v w.led).1) (Eith.mkL cfg v w.led).2)
  | mkR (s v) : w.objs s = none → EStepped cfg w (.mkR s v) (w.put s (some (Eith.mkR cfg v w.led).1) (Eith.mkR cfg v w.led).2)
  | copy (d s o) : w.objs d = none → w.objs s = some o →
      EStepped cfg w (.copy d s) (w.put d (some (Eith.mkCopy cfg o w.led).1) (Eith.mkCopy cfg o w.led).2)
  | assign (d s x o) : d ≠ s → w.objs d = some x → w.objs s = some o →
      EStepped cfg w (.assign d s) (w.put d (some (Eith.assign cfg x o w.led).1) (Eith.assign cfg x o w.led).2)
  | setL (s v x) : w.objs s = some x →
      EStepped cfg w (.setL s v) (w.put s (some (Eith.setL cfg x v w.led).1) (Eith.setL cfg x v w.led).2)
  | setR (s v x) : w.objs s = some x →
      EStepped cfg w (.setR s v) (w.put s (some (Eith.setR cfg x v w.led).1) (Eith.setR cfg x v w.led).2)
  | writeL (s v x) : w.objs s = some x → x.tagL = true →
      EStepped cfg w (.writeL s v)
        (w.put s (some (Eith.assignLeft cfg x (some v) w.led).1) (Eith.assignLeft cfg x (some v) w.led).2)
  | destroy (s x) : w.objs s = some x → EStepped cfg w (.destroy s) (w.put s none (Eith.destroy cfg x w.led))

theorem estepped (cfg : ECfg α β) (w : EWorld α β) (op : EOp α β) : EStepped cfg w op (estep cfg w op) := by
  -- every clause of `estep` is a constructor of `EStepped` (`skip` where the world comes back as it was)
  fun_cases estep cfg w op <;> constructor <;> assumption

/-- refinement relation: the client-visible alternative equals the reference value -/
def ERel (x : Eith α β) (y : Sum α β) : Prop := x.get = some y

def EWRel (w : EWorld α β) (v : Nat → Option (Sum α β)) : Prop := ∀ k, ORel ERel (w.objs k) (v k)

theorem ewrel_put {w : EWorld α β} {v : Nat → Option (Sum α β)} (h : EWRel w v) (k : Nat) {x : Eith α β} {y : Sum α β}
    (hxy : ERel x y) (L : Ledger) :
    EWRel (w.put k (some x) L) (fun j => if j = k then some y else v j) :=
  ORel.put h k (x := some x) (y := some y) hxy

theorem ERel.cases {x : Eith α β} {y : Sum α β} (h : ERel x y) :
    (x.tagL = true ∧ ∃ a, x.left.val = some a ∧ .inl a = y) ∨ (x.tagL = false ∧ ∃ b, x.right = some b ∧ .inr b = y) := by
  unfold ERel Eith.get at h
  split at h
  · exact .inl ⟨‹_›, Option.map_eq_some_iff.mp h⟩
  · exact .inr ⟨Bool.eq_false_iff.mpr ‹_›, Option.map_eq_some_iff.mp h⟩

/-- for `maybe` the right alternative is `nothing_t`, a one-point type -/
def ECfg.UnitRight (cfg : ECfg α β) : Prop := cfg.isMaybe = true → ∀ b : β, b = cfg.zeroR

theorem Eith.mkCopy_triv (cfg : ECfg α β) (hnt : cfg.nt = false) (o : Eith α β) (L : Ledger) :
    Eith.mkCopy cfg o L = ({ o with left := { o.left with live := false } }, L) := by
  simp [Eith.mkCopy, hnt]

/-- LEFT active: a left object is copy-constructed on storage `x` in which none is alive -/
theorem Eith.mkCopy_left (cfg : ECfg α β) (hnt : cfg.nt = true) (o : Eith α β) (L : Ledger) (ht : o.tagL = true) :
    ∃ x : Eith α β, x.left.live = false ∧
      Eith.mkCopy cfg o L = (let r := Eith.ctorLeft cfg x o.left.val L; ({ r.1 with tagL := true }, r.2)) := by
  cases hm : cfg.isMaybe
  · exact ⟨Eith.raw, rfl, by simp [Eith.mkCopy, hnt, hm, ht]⟩
  · exact ⟨{ (Eith.raw : Eith α β) with right := some cfg.zeroR }, rfl, by simp [Eith.mkCopy, hnt, hm, ht]⟩

/-- RIGHT active: nothing is constructed (`maybe` copies `Nothing`) -/
theorem Eith.mkCopy_right (cfg : ECfg α β) (hnt : cfg.nt = true) (o : Eith α β) (L : Ledger) (ht : o.tagL = false) :
    Eith.mkCopy cfg o L = ({ (Eith.raw : Eith α β) with right := if cfg.isMaybe then some cfg.zeroR else o.right }, L) := by
  cases hm : cfg.isMaybe <;> simp [Eith.mkCopy, hnt, hm, ht]

theorem mkCopy_rel (cfg : ECfg α β) (hu : cfg.UnitRight) (o : Eith α β) (y : Sum α β) (L : Ledger) (h : ERel o y) :
    ERel (Eith.mkCopy cfg o L).1 y := by
  cases hnt : cfg.nt with
  | false => rw [Eith.mkCopy_triv cfg hnt]; exact h
  | true =>
    rcases h.cases with ⟨ht, a, ha, rfl⟩ | ⟨ht, b, hb, rfl⟩
    · obtain ⟨x, _, e⟩ := Eith.mkCopy_left cfg hnt o L ht
      rw [e]; simp [ERel, Eith.get, Eith.ctorLeft, ha]
    · rw [Eith.mkCopy_right cfg hnt o L ht]
      cases hm : cfg.isMaybe
      · simp [ERel, Eith.get, Eith.raw, hb]
      · simp [ERel, Eith.get, Eith.raw]; exact (hu hm b).symm

namespace Eith

/-- left objects alive in the either -/
def leftCnt (x : Eith α β) : Nat := if x.tagL then 1 else 0

/-- summary of an operation on one object (`ob` = left objects alive in it before): the live flag follows the tag,
    no event, constructor / destructor counts follow the number of live left objects -/
structure EGood (ob : Nat) (L : Ledger) (r : Eith α β × Ledger) : Prop where
  live : r.1.left.live = r.1.tagL
  events : r.2.events = L.events
  count : (r.2.ctors : Int) - r.2.dtors = (L.ctors : Int) - L.dtors + leftCnt r.1 - ob

theorem ctorLeft_triv (cfg : ECfg α β) (hnt : cfg.nt = false) (x : Eith α β) (c : Cell α) (L : Ledger) :
    (ctorLeft cfg x c L).2 = L := by simp [ctorLeft, hnt]

theorem ctorLeft_good (cfg : ECfg α β) (hnt : cfg.nt = true) (x : Eith α β) (c : Cell α) (L : Ledger)
    (hx : x.left.live = false) :
    EGood 0 L (({ (ctorLeft cfg x c L).1 with tagL := true } : Eith α β), (ctorLeft cfg x c L).2) := by
  refine ⟨by simp [ctorLeft], by simp [ctorLeft, hnt, hx, Ledger.ctor], ?_⟩
  simp [ctorLeft, hnt, hx, Ledger.ctor, leftCnt]; omega

theorem destroyActive_triv (cfg : ECfg α β) (hnt : cfg.nt = false) (x : Eith α β) (L : Ledger) :
    (destroyActive cfg x L).2 = L := by unfold destroyActive; split <;> simp [hnt]

/-- `destroy_active()`, then RIGHT made active: as `assign_value(const right_t&)` and (ledger only) the destructor leave it -/
theorem destroyActive_good (cfg : ECfg α β) (hnt : cfg.nt = true) (x : Eith α β) (v : Cell β) (L : Ledger)
    (hx : x.left.live = x.tagL) :
    EGood (leftCnt x) L ({ (destroyActive cfg x L).1 with right := v, tagL := false }, (destroyActive cfg x L).2) := by
  cases ht : x.tagL with
  | true =>
    rw [ht] at hx
    refine ⟨by simp [destroyActive, ht], by simp [destroyActive, ht, hnt, hx, Ledger.dtor], ?_⟩
    simp [destroyActive, ht, hnt, hx, Ledger.dtor, leftCnt]; omega
  | false => exact ⟨by simpa [destroyActive, ht] using hx, by simp [destroyActive, ht], by simp [destroyActive, ht, leftCnt]⟩

/-- what an assignment to `x` does: the value the client reads afterwards (`g`), and the lifetime ledger — handed back for a
    trivial left type; for a non-trivial one, when the live flag of `x` follows its tag, `EGood` -/
structure EDoes (cfg : ECfg α β) (x : Eith α β) (L : Ledger) (g : Option (Sum α β)) (r : Eith α β × Ledger) : Prop where
  get : r.1.get = g
  triv : cfg.nt = false → r.2 = L
  good : cfg.nt = true → x.left.live = x.tagL → EGood (leftCnt x) L r

theorem assignLeft_does (cfg : ECfg α β) (x : Eith α β) (c : Cell α) (L : Ledger) (ht : x.tagL = true) :
    EDoes cfg x L (c.map Sum.inl) (assignLeft cfg x c L) :=
  ⟨by simp [Eith.get, assignLeft, ht], fun hnt => by simp [assignLeft, hnt], fun _ hx => by
    rw [ht] at hx
    exact ⟨by simp [assignLeft, hx, ht], by simp [assignLeft, hx], by simp [assignLeft, hx, leftCnt, ht]⟩⟩

theorem assignValueL_does (cfg : ECfg α β) (x : Eith α β) (c : Cell α) (L : Ledger) :
    EDoes cfg x L (c.map Sum.inl) (assignValueL cfg x c L) := by
  cases ht : x.tagL with
  | true =>
    simp only [assignValueL, ht, if_true]
    exact assignLeft_does cfg x c L ht
  | false =>
    simp only [assignValueL, ht, Bool.false_eq_true, if_false]
    refine ⟨by simp [Eith.get, ctorLeft], fun hnt => ctorLeft_triv cfg hnt x c L, fun hnt hx => ?_⟩
    exact (show leftCnt x = 0 by rw [leftCnt, ht]; rfl) ▸ ctorLeft_good cfg hnt x c L (ht ▸ hx)

/-- `destroy_active()` does nothing while RIGHT is active: the two branches of `assign_value(const right_t&)` are one -/
theorem assignValueR_eq (cfg : ECfg α β) (x : Eith α β) (v : Cell β) (L : Ledger) :
    assignValueR cfg x v L = ({ (destroyActive cfg x L).1 with right := v, tagL := false }, (destroyActive cfg x L).2) := by
  cases ht : x.tagL <;> simp [assignValueR, destroyActive, ht]

theorem assignValueR_does (cfg : ECfg α β) (x : Eith α β) (v : Cell β) (L : Ledger) :
    EDoes cfg x L (v.map Sum.inr) (assignValueR cfg x v L) :=
  assignValueR_eq cfg x v L ▸ ⟨by simp [Eith.get], (destroyActive_triv cfg · x L), (destroyActive_good cfg · x v L)⟩

theorem assign_does (cfg : ECfg α β) (x o : Eith α β) (L : Ledger) : EDoes cfg x L o.get (assign cfg x o L) := by
  cases ht : o.tagL <;> simp only [assign, ht, Bool.false_eq_true, if_false, if_true, Eith.get]
  · exact assignValueR_does cfg x _ L
  · exact assignValueL_does cfg x _ L

/-- `either()` / `maybe()` is a value assignment to raw storage (RIGHT-tagged, nothing alive).  So are the constructors from
    a value, and those by definition, hence without a lemma of their own: `mkL cfg v L` is `assignValueL cfg raw (some v) L`,
    `mkR cfg v L` is `assignValueR cfg raw (some v) L` -/
theorem mkDflt_does (cfg : ECfg α β) (L : Ledger) :
    EDoes cfg raw L (some (if cfg.isMaybe then .inr cfg.zeroR else .inl cfg.zeroL)) (mkDflt cfg L) := by
  unfold mkDflt
  split
  · exact assignValueR_does cfg raw (some cfg.zeroR) L
  · exact assignValueL_does cfg raw (some cfg.zeroL) L

theorem mkCopy_good (cfg : ECfg α β) (hnt : cfg.nt = true) (o : Eith α β) (L : Ledger) : EGood 0 L (mkCopy cfg o L) := by
  cases ht : o.tagL
  · rw [mkCopy_right cfg hnt o L ht]; exact (assignValueR_does cfg raw _ L).good hnt rfl
  · obtain ⟨x, hx, e⟩ := mkCopy_left cfg hnt o L ht
    rw [e]; exact ctorLeft_good cfg hnt x _ L hx

end Eith

/-- not through `EStepped`: in its `skip` case the reference has to skip as well, and `skip` does not say why `estep` did -/
theorem estep_rel (cfg : ECfg α β) (hu : cfg.UnitRight) {w : EWorld α β} {v : Nat → Option (Sum α β)} (h : EWRel w v)
    (op : EOp α β) : EWRel (estep cfg w op) (sstep cfg.isMaybe cfg.zeroL cfg.zeroR v op) := by
  -- `(h k).both` makes both sides' look-ups of slot `k` agree, so that `estep` and `sstep` take the same branch
  cases op <;> dsimp only [estep, sstep]
  case mk s => exact (h s).both (ewrel_put h s (Eith.mkDflt_does cfg _).get _) fun _ _ _ => h
  case mkL s a => exact (h s).both (ewrel_put h s (Eith.assignValueL_does cfg Eith.raw (some a) _).get _) fun _ _ _ => h
  case mkR s b => exact (h s).both (ewrel_put h s (Eith.assignValueR_does cfg Eith.raw (some b) _).get _) fun _ _ _ => h
  case copy d s =>
    exact (h d).both ((h s).both h fun _ _ hs => ewrel_put h d (mkCopy_rel cfg hu _ _ _ hs) _) fun _ _ _ => (h s).both h fun _ _ _ => h
  case assign d s =>
    rcases (h d).cases with ⟨hwd, hvd⟩ | ⟨xd, yd, hwd, hvd, _⟩ <;>
      rcases (h s).cases with ⟨hws, hvs⟩ | ⟨xs, ys, hws, hvs, hs⟩ <;> simp only [hwd, hvd, hws, hvs]
    · exact h
    · exact h
    · exact h
    · by_cases hds : d = s
      · -- `x = x`: the implementation returns at once, the reference writes back what is there
        subst hds
        simp only [if_true]
        intro j
        dsimp only
        split
        · rw [‹j = d›, hws]; exact hs
        · exact h j
      · simp only [hds, if_false]
        exact ewrel_put h d ((Eith.assign_does cfg _ _ _).get.trans hs) _
  case setL s a => exact (h s).both h fun _ _ _ => ewrel_put h s (Eith.assignValueL_does cfg _ (some a) _).get _
  case setR s b => exact (h s).both h fun _ _ _ => ewrel_put h s (Eith.assignValueR_does cfg _ (some b) _).get _
  case writeL s a =>
    refine (h s).both ?_ fun x y hs => ?_
    · exact h
    · rcases hs.cases with ⟨ht, _, _, rfl⟩ | ⟨ht, _, _, rfl⟩ <;> simp only [ht, if_true, Bool.false_eq_true, if_false]
      · exact ewrel_put h s (Eith.assignLeft_does cfg x (some a) _ ht).get _
      · exact h
  case read s => exact h
  case destroy s => exact (h s).both h fun _ _ _ => ORel.put h s (x := none) (y := none) trivial

theorem erun_rel (cfg : ECfg α β) (hu : cfg.UnitRight) (h : List (EOp α β)) {w : EWorld α β} {v : Nat → Option (Sum α β)}
    (hr : EWRel w v) : EWRel (erun cfg w h) (srun cfg.isMaybe cfg.zeroL cfg.zeroR v h) := by
  induction h generalizing w v with
  | nil => exact hr
  | cons op h ih => exact ih (estep_rel cfg hu hr op)

theorem estep_trivial_led (cfg : ECfg α β) (hnt : cfg.nt = false) (w : EWorld α β) (op : EOp α β) :
    (estep cfg w op).led = w.led := by
  have st := estepped cfg w op
  generalize estep cfg w op = w' at st
  cases st with
  | skip => rfl
  | mk s => exact (Eith.mkDflt_does cfg _).triv hnt
  | mkL s v => exact (Eith.assignValueL_does cfg Eith.raw (some v) _).triv hnt
  | mkR s v => rfl
  | copy d s o => show (Eith.mkCopy cfg o w.led).2 = _; rw [Eith.mkCopy_triv cfg hnt]
  | assign d s x o => exact (Eith.assign_does cfg x o _).triv hnt
  | setL s v x => exact (Eith.assignValueL_does cfg x (some v) _).triv hnt
  | setR s v x => exact (Eith.assignValueR_does cfg x (some v) _).triv hnt
  | writeL s v x _ ht => exact (Eith.assignLeft_does cfg x (some v) _ ht).triv hnt
  | destroy s x => exact Eith.destroyActive_triv cfg hnt x _

theorem erun_trivial_led (cfg : ECfg α β) (hnt : cfg.nt = false) (w : EWorld α β) (h : List (EOp α β)) :
    (erun cfg w h).led = w.led := by
  induction h generalizing w with
  | nil => rfl
  | cons op h ih => exact (ih _).trans (estep_trivial_led cfg hnt w op)

/-- the operation never puts a left value into an object (`mk` only for `maybe`: `either()` constructs a left value) -/
def neverLeft (cfg : ECfg α β) : EOp α β → Prop
  | .mkL _ _ | .setL _ _ | .writeL _ _ => False
  | .mk _ => cfg.isMaybe = true
  | _ => True

def EInvR (w : EWorld α β) : Prop := ∀ k x, w.objs k = some x → x.tagL = false

theorem einvr_put {w : EWorld α β} (h : EInvR w) (k : Nat) {r : Eith α β × Ledger} (hr : r.1.tagL = false ∧ r.2 = w.led) :
    EInvR (w.put k (some r.1) r.2) ∧ (w.put k (some r.1) r.2).led = w.led :=
  ⟨forall_put h k (fun _ e => Option.some.inj e ▸ hr.1), hr.2⟩

theorem Eith.assignValueR_of_right (cfg : ECfg α β) (x : Eith α β) (v : Cell β) (L : Ledger) (hx : x.tagL = false) :
    (Eith.assignValueR cfg x v L).1.tagL = false ∧ (Eith.assignValueR cfg x v L).2 = L := by simp [Eith.assignValueR, hx]

theorem Eith.mkCopy_of_right (cfg : ECfg α β) (o : Eith α β) (L : Ledger) (ho : o.tagL = false) :
    (Eith.mkCopy cfg o L).1.tagL = false ∧ (Eith.mkCopy cfg o L).2 = L := by
  cases hnt : cfg.nt
  · rw [Eith.mkCopy_triv cfg hnt]; exact ⟨ho, rfl⟩
  · rw [Eith.mkCopy_right cfg hnt o L ho]; exact ⟨rfl, rfl⟩

theorem estep_neverLeft (cfg : ECfg α β) {w : EWorld α β} (h : EInvR w) (op : EOp α β) (hok : neverLeft cfg op) :
    EInvR (estep cfg w op) ∧ (estep cfg w op).led = w.led := by
  have st := estepped cfg w op
  generalize estep cfg w op = w' at st
  cases st with
  | skip => exact ⟨h, rfl⟩
  | mk s => exact einvr_put h s (by rw [Eith.mkDflt, if_pos (show cfg.isMaybe = true from hok)]; exact ⟨rfl, rfl⟩)
  | mkL s v => exact hok.elim
  | mkR s v => exact einvr_put h s ⟨rfl, rfl⟩
  | copy d s o _ hs => exact einvr_put h d (Eith.mkCopy_of_right cfg o _ (h s o hs))
  | assign d s x o _ hd hs =>
    exact einvr_put h d (by rw [Eith.assign, h s o hs]; exact Eith.assignValueR_of_right cfg x _ _ (h d x hd))
  | setL s v x => exact hok.elim
  | setR s v x hs => exact einvr_put h s (Eith.assignValueR_of_right cfg x _ _ (h s x hs))
  | writeL s v x => exact hok.elim
  | destroy s x hs =>
    exact ⟨forall_put h s (x := none) (fun _ => nofun), by rw [EWorld.put, Eith.destroy, Eith.destroyActive, h s x hs]; rfl⟩

theorem erun_neverLeft (cfg : ECfg α β) (h : List (EOp α β)) {w : EWorld α β} (hw : EInvR w)
    (hok : ∀ op ∈ h, neverLeft cfg op) : EInvR (erun cfg w h) ∧ (erun cfg w h).led = w.led := by
  induction h generalizing w with
  | nil => exact ⟨hw, rfl⟩
  | cons op h ih =>
    obtain ⟨h1, h2⟩ := estep_neverLeft cfg hw op (hok op List.mem_cons_self)
    exact (ih h1 (fun o ho => hok o (List.mem_cons_of_mem _ ho))).imp_right (·.trans h2)

end NmVerif.Containers
