import NmVerif.Containers.Core
import NmVerif.Containers.Spec
/-
  NmVerif.Containers.Table — what ONE operation of a container kind does, generic in the kind (every object owns at most one
  block, `blkOf`).  `EffP` is its effect on the ledger as one permutation identity — the new block and the blocks freed are a
  permutation of the old block and the fresh ones —, so that effects compose by appending (`EffP.trans`).  `Does` is the
  per-operation summary (invariant kept, `EffP`, the elements the client sees), `Table` the table of them for a kind that behaves
  like `std::vector`.  Two things are read off a `Table`: the refinement of `stdSpec` (`Table.sim`, here) and the ledger invariant
  in every reachable state (`step_linvp`, LedgerInv).
-/
namespace NmVerif.Containers

/-- the block ids handed out between `L` and `L'` -/
def fresh (L L' : Ledger) : List Nat := List.range' L.allocs (L'.allocs - L.allocs)

structure EffP (old new : Option Nat) (L L' : Ledger) : Prop where
  mono : L.allocs ≤ L'.allocs
  lost : L'.lost = L.lost
  events : L'.events = L.events
  freed : ∃ fs : List Nat, L'.freed = fs ++ L.freed ∧ (new.toList ++ fs).Perm (old.toList ++ fresh L L')

theorem range'_split {a b c : Nat} (h1 : a ≤ b) (h2 : b ≤ c) :
    List.range' a (c - a) = List.range' a (b - a) ++ List.range' b (c - b) := by
  obtain ⟨m, rfl⟩ := Nat.exists_eq_add_of_le h1
  obtain ⟨n, rfl⟩ := Nat.exists_eq_add_of_le h2
  rw [Nat.add_assoc, Nat.add_sub_cancel_left, Nat.add_sub_cancel_left, ← Nat.add_assoc, Nat.add_sub_cancel_left,
    List.range'_append_1]

theorem fresh_append {L1 L2 L3 : Ledger} (h1 : L1.allocs ≤ L2.allocs) (h2 : L2.allocs ≤ L3.allocs) :
    fresh L1 L3 = fresh L1 L2 ++ fresh L2 L3 := range'_split h1 h2

theorem EffP.refl {o : Option Nat} {L : Ledger} : EffP o o L L :=
  ⟨Nat.le_refl _, rfl, rfl, [], rfl, by simp [fresh]⟩

theorem EffP.alloc (L : Ledger) : EffP none (some L.alloc.1) L L.alloc.2 :=
  ⟨by simp [Ledger.alloc], rfl, rfl, [], rfl, by simp [fresh, Ledger.alloc]⟩

theorem EffP.free (L : Ledger) (p : Nat) : EffP (some p) none L (L.free p) :=
  ⟨Nat.le_refl _, rfl, rfl, [p], rfl, by simp [fresh, Ledger.free]⟩

/-- effects compose; no side condition -/
theorem EffP.trans {a b c : Option Nat} {L1 L2 L3 : Ledger} (h1 : EffP a b L1 L2) (h2 : EffP b c L2 L3) : EffP a c L1 L3 := by
  obtain ⟨fs1, hf1, p1⟩ := h1.freed
  obtain ⟨fs2, hf2, p2⟩ := h2.freed
  refine ⟨Nat.le_trans h1.mono h2.mono, h2.lost.trans h1.lost, h2.events.trans h1.events, fs2 ++ fs1,
    by rw [hf2, hf1, List.append_assoc], ?_⟩
  rw [fresh_append h1.mono h2.mono, ← List.append_assoc, ← List.append_assoc]
  -- (c ++ fs2) ++ fs1 ~ (b ++ fresh₂₃) ++ fs1 ~ (b ++ fs1) ++ fresh₂₃ ~ (a ++ fresh₁₂) ++ fresh₂₃
  refine ((p2.append_right fs1).trans ?_).trans (p1.append_right _)
  rw [List.append_assoc, List.append_assoc]
  exact List.Perm.append_left _ List.perm_append_comm

/-- the old block freed after the new one was built -/
theorem EffP.freeOld {p b : Nat} {L L' : Ledger} (h : EffP none (some b) L L') : EffP (some p) (some b) L (L'.free p) := by
  obtain ⟨fs, hf, pm⟩ := h.freed
  refine ⟨h.mono, h.lost, h.events, p :: fs, by simp [Ledger.free, hf], ?_⟩
  have : fresh L (L'.free p) = fresh L L' := rfl
  simpa [this] using (List.perm_middle.trans (pm.cons p))

/-- the one summary of an operation that turns an object owning block `old` (`none`: a constructor, or an object without a
    block) into `r.1`: invariant kept, ledger effect, what the client sees of the result -/
structure Does (blkOf : σ → Option Nat) (P : σ → Prop) (view : σ → List (Cell α)) (old : Option Nat) (L : Ledger)
    (vw : List (Cell α)) (r : σ × Ledger) : Prop where
  inv : P r.1
  eff : EffP old (blkOf r.1) L r.2
  view : view r.1 = vw

theorem Does.refl {blkOf : σ → Option Nat} {P : σ → Prop} {view : σ → List (Cell α)} {x : σ} (h : P x) (L : Ledger) :
    Does blkOf P view (blkOf x) L (view x) (x, L) := ⟨h, EffP.refl, rfl⟩

theorem Does.trans {blkOf : σ → Option Nat} {P : σ → Prop} {view : σ → List (Cell α)} {a : Option Nat} {L : Ledger}
    {vw1 vw2 : List (Cell α)} {r1 r2 : σ × Ledger} (d1 : Does blkOf P view a L vw1 r1)
    (d2 : Does blkOf P view (blkOf r1.1) r1.2 vw2 r2) : Does blkOf P view a L vw2 r2 :=
  ⟨d2.inv, d1.eff.trans d2.eff, d2.view⟩

theorem Does.view_eq {blkOf : σ → Option Nat} {P : σ → Prop} {view : σ → List (Cell α)} {a : Option Nat} {L : Ledger}
    {vw vw' : List (Cell α)} {r : σ × Ledger} (d : Does blkOf P view a L vw r) (e : vw = vw') : Does blkOf P view a L vw' r :=
  e ▸ d

/-- a container kind every operation of which does, to the elements the client sees, what the operation of `std::vector`
    does -/
structure Table (I : Impl σ α) (blkOf : σ → Option Nat) (P : σ → Prop) (zero : α) : Prop where
  size : ∀ x, P x → (I.view x).length = I.size x
  mkDefault : ∀ L, Does blkOf P I.view none L [] (I.mkDefault L)
  mkSized : ∀ n L, Does blkOf P I.view none L (List.replicate n (some zero)) (I.mkSized n L)
  mkVariadic : ∀ vs L, Does blkOf P I.view none L (vs.map some) (I.mkVariadic vs L)
  mkCopy : ∀ x L, P x → Does blkOf P I.view none L (I.view x) (I.mkCopy x L)
  assign : ∀ x y L, P x → P y → Does blkOf P I.view (blkOf x) L (I.view y) (I.assign x y L)
  assignSelf : ∀ x L, P x → I.assignSelf x L = (x, L)
  push : ∀ a x L, P x → Does blkOf P I.view (blkOf x) L (I.view x ++ [some a]) (I.push x a L)
  pushAt : ∀ i x L, P x → i < I.size x →
    Does blkOf P I.view (blkOf x) L (I.view x ++ (I.view x)[i]?.toList) (I.pushAt x i L)
  resize : ∀ n x L, P x → Does blkOf P I.view (blkOf x) L
    (if n ≤ I.size x then (I.view x).take n else I.view x ++ List.replicate (n - I.size x) (some zero)) (I.resize x n L)
  write : ∀ i a x L, P x → i < I.size x → Does blkOf P I.view (blkOf x) L ((I.view x).set i (some a)) (I.write x i a L)
  read : ∀ i x L, P x → i < I.size x → (I.read x i L).2 = L
  destroy : ∀ x L, EffP (blkOf x) none L (I.destroy x L)

/-- such a kind refines `std::vector`, for any relation that says "well formed, and the elements shown are those of the list" -/
theorem Table.sim {I : Impl σ α} {blkOf : σ → Option Nat} {P : σ → Prop} {zero : α} (T : Table I blkOf P zero)
    {R : σ → List α → Prop} (hR : ∀ x l, R x l ↔ P x ∧ I.view x = l.map some) (ok : Option (List α) → Op α → Prop) :
    Sim I (stdSpec zero) R ok := by
  have mk : ∀ {old L vw} {r : σ × Ledger} {l : List α}, Does blkOf P I.view old L vw r → vw = l.map some → R r.1 l :=
    fun d e => (hR _ _).2 ⟨d.inv, d.view.trans e⟩
  have inv : ∀ {x l}, R x l → P x := fun h => ((hR _ _).1 h).1
  have vw : ∀ {x l}, R x l → I.view x = l.map some := fun h => ((hR _ _).1 h).2
  have sz : ∀ {x l}, R x l → I.size x = l.length := fun h => by
    rw [← T.size _ (inv h), vw h, List.length_map]
  exact {
    size_eq := fun x y h => sz h
    mkDefault := fun s L M _ => mk (T.mkDefault L) rfl
    mkSized := fun s n L M _ => mk (T.mkSized n L) List.map_replicate.symm
    mkVariadic := fun s vs L M _ => mk (T.mkVariadic vs L) rfl
    mkCopy := fun d s x y L M _ h => mk (T.mkCopy x L (inv h)) (vw h)
    assign := fun d s x y x' y' L M _ h h' => mk (T.assign x x' L (inv h) (inv h')) (vw h')
    assignSelf := fun d x y L M _ h => by rw [T.assignSelf x L (inv h)]; exact h
    push := fun s a x y L M _ h => mk (T.push a x L (inv h)) (by rw [vw h]; simp [stdSpec])
    pushAt := fun s i x y L M _ h hi =>
      have hi' : i < y.length := hi
      mk (T.pushAt i x L (inv h) (sz h ▸ hi)) (by rw [vw h]; simp [stdSpec, List.getElem?_eq_getElem hi'])
    resize := fun s n x y L M _ h => mk (T.resize n x L (inv h)) (by
      rw [(vw h), sz h]
      simp only [stdSpec, listResize]
      split <;> simp [List.map_take])
    write := fun s i a x y L M _ h hi =>
      mk (T.write i a x L (inv h) (sz h ▸ hi)) (by rw [vw h]; exact List.map_set.symm) }

end NmVerif.Containers
