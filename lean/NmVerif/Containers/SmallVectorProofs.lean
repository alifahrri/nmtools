import NmVerif.Containers.Spec
import NmVerif.Containers.SmallVector
import NmVerif.Containers.VectorProofs
import NmVerif.Containers.StaticVectorProofs
/-
  Proofs about the `small_vector` mirror: one summary per operation (`Small.Does`: invariant, client-visible elements, effect
  on the block of the heap part), built through two injections — a result in static mode from the `static_vector` summary
  (`StaticResult`, `Does.st`), a result in heap mode from `Vec.Does` (`Does.dy`) — and the table of them, `small_table`:
  `small_sim` (it holds exactly what `std::vector` holds, in static mode, in heap mode and across the switch, for every operation
  of the alphabet) and the ledger invariant are both read off it.
-/
namespace NmVerif.Containers
variable {α : Type}

/-- refinement relation: the active part refines the list -/
def RSmall (c : Nat) (x : Small α) (l : List α) : Prop :=
  if x.tagS then RSVec c x.st l else RVec x.dy l

/-- every operation of the alphabet is inside the refinement domain -/
def smallOk (_c : Nat) : Option (List α) → Op α → Prop := fun _ _ => True

instance decSmallOk (c : Nat) (st : Option (List α)) (op : Op α) : Decidable (smallOk c st op) := by
  simp only [smallOk]; infer_instance

theorem listResize_nil (zero : α) (n : Nat) : listResize zero ([] : List α) n = List.replicate n zero := by
  cases n <;> simp [listResize]

theorem listResize_succ (zero : α) (y : List α) : listResize zero y (y.length + 1) = y ++ [zero] := by
  have : ¬ y.length + 1 ≤ y.length := by omega
  simp [listResize, this]

namespace Small

theorem view_dyn (x : Small α) (ht : x.tagS = false) : x.view = x.dy.view := by simp [view, ht]
theorem view_st (x : Small α) (ht : x.tagS = true) : x.view = x.st.view := by simp [view, ht]

/-- representation invariant: the active part is well formed -/
def Inv (c : Nat) (x : Small α) : Prop := (x.tagS = true → SVec.Inv c x.st) ∧ (x.tagS = false → x.dy.Inv)

/-- the block owned by the object: that of its heap vector, none in static mode -/
def blk (x : Small α) : Option Nat := if x.tagS then none else x.dy.blk

theorem inv_st {c : Nat} {x : Small α} (ht : x.tagS = true) (h : SVec.Inv c x.st) : Inv c x :=
  ⟨fun _ => h, fun e => (by rw [ht] at e; cases e)⟩
theorem inv_dy {c : Nat} {x : Small α} (ht : x.tagS = false) (h : x.dy.Inv) : Inv c x :=
  ⟨fun e => (by rw [ht] at e; cases e), fun _ => h⟩
theorem blk_st {x : Small α} (ht : x.tagS = true) : blk x = none := by simp [blk, ht]
theorem blk_dy {x : Small α} (ht : x.tagS = false) : blk x = x.dy.blk := by simp [blk, ht]

abbrev Does (c : Nat) (old : Option Nat) (L : Ledger) (vw : List (Cell α)) (r : Small α × Ledger) : Prop :=
  Containers.Does Small.blk (Small.Inv c) Small.view old L vw r

/-- the result is in static mode and its static part is the result of a `static_vector` operation -/
structure StaticResult (c : Nat) (L : Ledger) (vw : List (Cell α)) (r : Small α × Ledger) : Prop where
  tag : r.1.tagS = true
  does : SVec.Does c L vw (r.1.st, r.2)

theorem StaticResult.led {c : Nat} {L : Ledger} {vw : List (Cell α)} {r : Small α × Ledger} (s : StaticResult c L vw r) :
    r.2 = L := s.does.led

/-- a result in static mode owns no block and leaves the ledger alone -/
theorem Does.st {c : Nat} {old : Option Nat} {L : Ledger} {vw : List (Cell α)} {r : Small α × Ledger}
    (ho : old = none) (s : StaticResult c L vw r) : Does c old L vw r :=
  ⟨inv_st s.tag s.does.inv, by rw [s.led, blk_st s.tag, ho]; exact EffP.refl, (view_st r.1 s.tag).trans s.does.view⟩

/-- a result in heap mode whose heap part and ledger are the result `p` of a `Vec` operation.  `p` is a variable of the statement:
    stated on the pair `(r.1.dy, r.2)`, every call makes the unifier unfold the `Vec` operation down to its `if`s in search of that
    pair before it tries eta -/
theorem Does.dy {c : Nat} {old old' : Option Nat} {L : Ledger} {vw : List (Cell α)} {y : Small α} {p : Vec α × Ledger}
    (ho : old = old') (d : Vec.Does old' L vw p) (ht : y.tagS = false) (hy : y.dy = p.1) : Does c old L vw (y, p.2) :=
  ⟨inv_dy ht (hy ▸ d.inv), by subst ho; rw [blk_dy ht, hy]; exact d.eff, (view_dyn y ht).trans (hy ▸ d.view)⟩

theorem rsmall_iff {c : Nat} {x : Small α} {l : List α} : RSmall c x l ↔ Inv c x ∧ x.view = l.map some := by
  cases ht : x.tagS
  · simp only [RSmall, Inv, view, ht, Bool.false_eq_true, if_false, RVec, false_imp_iff, true_imp_iff, true_and]
  · simp only [RSmall, Inv, view, ht, if_true, SVec.Inv, true_imp_iff, Bool.true_eq_false, false_imp_iff, and_true]
    exact ⟨fun h => ⟨⟨h.len, h.le⟩, h.view⟩, fun h => ⟨h.1.1, h.1.2, h.2⟩⟩

theorem view_length {c : Nat} {x : Small α} (h : Inv c x) : x.view.length = x.size := by
  cases ht : x.tagS
  · simpa [view, size, ht] using Vec.view_length _ (h.2 ht)
  · simpa [view, size, ht] using SVec.view_length (h.1 ht)

theorem mkSized_static (c : Nat) (zero : α) (n : Nat) (L : Ledger) (hn : n < c) :
    StaticResult c L (List.replicate n (some zero)) (mkSized c zero n L) := by
  have hf : SVec.Inv c (freshSt c zero) := ⟨List.length_replicate, Nat.zero_le c⟩
  have d1 := SVec.assign_does c zero _ _ L hf hf
  have hs0 : (SVec.assign c zero (freshSt c zero) (freshSt c zero) L).1.size = 0 := by
    rw [← SVec.view_length d1.inv, d1.view]; rfl
  simp only [mkSized, hn, if_true]
  refine ⟨rfl, (d1.trans (SVec.resize_does c zero _ n _ d1.inv (by omega)).1).view_eq ?_⟩
  rw [d1.view, hs0]
  cases n <;> simp [freshSt, SVec.view]

theorem resize_static (c : Nat) (zero : α) (x : Small α) (n : Nat) (L : Ledger) (ht : x.tagS = true)
    (h : Inv c x) (hn : n ≤ c) :
    StaticResult c L (if n ≤ x.st.size then x.st.view.take n else x.st.view ++ List.replicate (n - x.st.size) (some zero))
      (resize c zero x n L) := by
  simp only [resize, ht, if_true, hn]
  exact ⟨rfl, (SVec.resize_does c zero _ n L (h.1 ht) hn).1⟩

theorem assign_static (c : Nat) (zero : α) (x o : Small α) (L : Ledger) (ht : x.tagS = true) (ht' : o.tagS = true)
    (h : Inv c x) (ho : Inv c o) : StaticResult c L o.st.view (assign c zero x o L) := by
  simp only [assign, ht, ht', bne_self_eq_false, Bool.false_eq_true, if_false, if_true]
  exact ⟨rfl, SVec.assign_does c zero _ _ L (h.1 ht) (ho.1 ht')⟩

theorem push_static (c : Nat) (zero : α) (x : Small α) (a : α) (L : Ledger) (ht : x.tagS = true) (h : Inv c x)
    (hc : ¬ x.size = c) : StaticResult c L (x.st.view ++ [some a]) (push c zero x a L) := by
  have hnc : ¬ c < x.st.size + 1 := by have := (h.1 ht).2; simp only [size, ht, if_true] at hc; omega
  simp only [push, hc, if_false, ht, if_true]
  exact ⟨rfl, (SVec.pushCell_does c zero _ (some a) L (h.1 ht)).view_eq (by simp only [hnc, if_false])⟩

theorem pushAt_static (c : Nat) (zero : α) (x : Small α) (i : Nat) (L : Ledger) (ht : x.tagS = true)
    (h : Inv c x) (hc : ¬ x.size = c) (hi : i < x.size) :
    StaticResult c L (x.st.view ++ x.st.view[i]?.toList) (pushAt c zero x i L) := by
  have hnc : ¬ c < x.st.size + 1 := by have := (h.1 ht).2; simp only [size, ht, if_true] at hc; omega
  simp only [pushAt, hc, if_false, ht, if_true]
  exact ⟨rfl, (SVec.pushAt_does c zero x.st i L (h.1 ht) (by simpa [size, ht] using hi)).view_eq (by simp only [hnc, if_false])⟩

theorem mkDefault_does (c : Nat) (zero : α) (L : Ledger) : Does c none L [] (mkDefault c zero L) :=
  Does.st rfl ⟨rfl, SVec.mkDefault_does c zero L⟩

/-- `small_vector(n)`, `n ≥ DIM`: a heap vector of `n` value-initialised elements; the temporary default vector is destroyed
    after its copy was built, then `resize(n)` -/
theorem mkSized_dyn_does (c : Nat) (zero : α) (n : Nat) (L : Ledger) (hn : ¬ n < c) :
    (mkSized c zero n L).1.tagS = false ∧
    Vec.Does none L (List.replicate n (some zero)) ((mkSized c zero n L).1.dy, (mkSized c zero n L).2) := by
  simp only [mkSized, hn, if_false]
  have g0 := Vec.mkDefault_does (α := α) L
  have d1 := Vec.mkCopy_does zero (Vec.mkDefault (α := α) L).1 (Vec.mkDefault (α := α) L).2 g0.inv
  refine ⟨trivial, ((Vec.Does.dropTemp g0 d1).trans (Vec.resize_does zero _ n _ d1.inv).1).view_eq ?_⟩
  rw [d1.view, Vec.mkCopy_size]
  cases n <;> simp [Vec.mkDefault, Vec.view]

theorem mkSized_does (c : Nat) (zero : α) (n : Nat) (L : Ledger) :
    Does c none L (List.replicate n (some zero)) (mkSized c zero n L) := by
  by_cases hn : n < c
  · exact Does.st rfl (mkSized_static c zero n L hn)
  · obtain ⟨ht, d⟩ := mkSized_dyn_does c zero n L hn
    exact Does.dy rfl d ht rfl

/-- `resize(n)` is `std::vector::resize` in every mode; across the switch (`n > DIM` in static mode) the temporary
    `small_vector(n)`, patched with the old elements, is destroyed after the heap vector of `*this` was copy-constructed from it -/
theorem resize_does (c : Nat) (zero : α) (x : Small α) (n : Nat) (L : Ledger) (h : Inv c x) :
    Does c (blk x) L (if n ≤ x.size then x.view.take n else x.view ++ List.replicate (n - x.size) (some zero))
      (resize c zero x n L) := by
  cases ht : x.tagS with
  | true =>
    have hs := h.1 ht
    simp only [view, size, ht, if_true]
    by_cases hn : n ≤ c
    · exact Does.st (blk_st ht) (resize_static c zero x n L ht h hn)
    · obtain ⟨_, dnb⟩ := mkSized_dyn_does c zero n L (by omega)
      simp only [resize, ht, if_true, hn, if_false]
      generalize mkSized c zero n L = nb at dnb
      have hl : nb.1.dy.cells.length = nb.1.dy.cap := dnb.inv.len
      have hle : nb.1.dy.size ≤ nb.1.dy.cap := dnb.inv.le
      have := hs.1; have := hs.2
      have hsz : nb.1.dy.size = n := by simpa [dnb.view] using (Vec.view_length _ dnb.inv).symm
      have hflag : decide (x.st.cells.length < x.st.size ∨ nb.1.dy.cells.length < x.st.size) = false := by simp; omega
      have hns : ¬ n ≤ x.st.size := by omega
      simp only [hflag, Ledger.flagIf, Bool.false_eq_true, if_false, hns]
      -- the temporary with the copied prefix: the old elements, then the temporary's value-initialised cells
      have dpatch : Vec.Does none L (x.st.view ++ List.replicate (n - x.st.size) (some zero))
          (({ nb.1.dy with cells := x.st.cells.take x.st.size ++ nb.1.dy.cells.drop x.st.size } : Vec α), nb.2) := by
        refine ⟨⟨dnb.inv.blk, (List.length_take_append_drop (by omega) (by omega)).trans hl, dnb.inv.le⟩, dnb.eff, ?_⟩
        have hv : nb.1.dy.cells.take n = List.replicate n (some zero) := by simpa only [Vec.view, hsz] using dnb.view
        have hdrop : (nb.1.dy.cells.drop x.st.size).take (n - x.st.size) = List.replicate (n - x.st.size) (some zero) := by
          rw [← List.drop_take, hv]; simp
        simp only [Vec.view, hsz, SVec.view]
        rw [List.take_append, List.length_take, Nat.min_eq_left (by omega), hdrop, List.take_of_length_le (by simp; omega)]
      exact Does.dy (blk_st ht) (Vec.Does.dropTemp dpatch ((Vec.mkCopy_does zero _ _ dpatch.inv).view_eq dpatch.view)) rfl rfl
  | false =>
    simp only [view, size, resize, ht, Bool.false_eq_true, if_false]
    exact Does.dy (blk_dy ht) (Vec.resize_does zero x.dy n L (h.2 ht)).1 rfl rfl

theorem resize_size (c : Nat) (zero : α) (x : Small α) (n : Nat) (L : Ledger) (h : Inv c x) :
    (resize c zero x n L).1.size = n := by
  have d := resize_does c zero x n L h
  have := view_length h
  rw [← view_length d.inv, d.view]
  split <;> simp [List.length_take] <;> omega

theorem write_eq_storeCell (x : Small α) (i : Nat) (a : α) (L : Ledger) :
    write x i a L = storeCell x i (some a) L := by
  cases ht : x.tagS <;> simp [write, storeCell, ht, SVec.write, Vec.write]

theorem storeCell_size (x : Small α) (i : Nat) (v : Cell α) (L : Ledger) : (storeCell x i v L).1.size = x.size := by
  cases ht : x.tagS
  · simp only [storeCell, ht, Bool.false_eq_true, if_false, size, Vec.store]; split <;> rfl
  · simp only [storeCell, ht, if_true, size, SVec.store]; split <;> rfl

theorem storeCell_tag (x : Small α) (i : Nat) (v : Cell α) (L : Ledger) : (storeCell x i v L).1.tagS = x.tagS := by
  cases ht : x.tagS <;> simp [storeCell, ht]

theorem storeCell_does (c : Nat) (x : Small α) (i : Nat) (v : Cell α) (L : Ledger) (h : Inv c x) (hi : i < x.size) :
    Does c (blk x) L (x.view.set i v) (storeCell x i v L) := by
  cases ht : x.tagS <;> simp only [view, size, storeCell, ht, Bool.false_eq_true, if_false, if_true] at hi ⊢
  · exact Does.dy (blk_dy ht) (Vec.store_does x.dy i v L (h.2 ht) hi) rfl rfl
  · exact Does.st (blk_st ht) ⟨rfl, SVec.store_does c x.st i v L (h.1 ht) hi⟩

theorem storeCell_led (c : Nat) (x : Small α) (i : Nat) (v : Cell α) (L : Ledger) (h : Inv c x) (hi : i < x.size) :
    (storeCell x i v L).2 = L := by
  cases ht : x.tagS <;> simp only [size, storeCell, ht, Bool.false_eq_true, if_false, if_true] at hi ⊢
  · have := (h.2 ht).len; have := (h.2 ht).le
    rw [Vec.store, if_pos (by omega)]
  · exact (SVec.store_does c x.st i v L (h.1 ht) hi).led

/-- the element writes `at(i) = vᵢ` of the variadic constructor; besides the summary: they hand the ledger back and keep the
    mode, which `mkVariadic_static` (SmallVectorLedger) needs -/
theorem storeAll_does (c : Nat) (as : List α) (x : Small α) (i : Nat) (L : Ledger) (h : Inv c x) (hb : i + as.length ≤ x.size) :
    Does c (blk x) L (x.view.take i ++ as.map some ++ x.view.drop (i + as.length)) (storeAll x i as L) ∧
    (storeAll x i as L).2 = L ∧ (storeAll x i as L).1.tagS = x.tagS := by
  induction as generalizing x i L with
  | nil => exact ⟨(Does.refl h L).view_eq (by simp), rfl, rfl⟩
  | cons a as ih =>
    simp only [List.length_cons] at hb
    simp only [storeAll, write_eq_storeCell]
    have d1 := storeCell_does c x i (some a) L h (by omega)
    obtain ⟨d2, hl, ht⟩ := ih _ (i + 1) _ d1.inv (by rw [storeCell_size]; omega)
    refine ⟨(d1.trans d2).view_eq ?_, hl.trans (storeCell_led c x i _ L h (by omega)), ht.trans (storeCell_tag x i _ L)⟩
    rw [d1.view]
    simpa using take_set_drop x.view i (some a) (as.map some) (by rw [view_length h]; omega)

/-- at size DIM: `resize(DIM+1)`, then the write of element DIM, whatever the mode -/
theorem grow_store_does (c : Nat) (zero : α) (x : Small α) (v : Cell α) (L : Ledger) (h : Inv c x) (hc : x.size = c) :
    Does c (blk x) L (x.view ++ [v]) (storeCell (resize c zero x (c + 1) L).1 c v (resize c zero x (c + 1) L).2) := by
  have hv := view_length h
  have d1 := resize_does c zero x (c + 1) L h
  refine (d1.trans (storeCell_does c _ c v _ d1.inv (by rw [resize_size c zero x (c + 1) L h]; omega))).view_eq ?_
  have hn : ¬ c + 1 ≤ x.size := by omega
  rw [d1.view]
  simp only [hn, if_false]
  rw [List.set_append_right _ _ (by omega), hv, hc]; simp

theorem push_does (c : Nat) (zero : α) (x : Small α) (a : α) (L : Ledger) (h : Inv c x) :
    Does c (blk x) L (x.view ++ [some a]) (push c zero x a L) := by
  by_cases hc : x.size = c
  · simp only [push, hc, if_true, write_eq_storeCell]
    exact grow_store_does c zero x _ L h hc
  · cases ht : x.tagS with
    | true =>
      simp only [view, ht, if_true]
      exact Does.st (blk_st ht) (push_static c zero x a L ht h hc)
    | false =>
      simp only [view, push, hc, ht, Bool.false_eq_true, if_false]
      exact Does.dy (blk_dy ht) (Vec.pushCell_does zero x.dy _ L (h.2 ht)) rfl rfl

/-- the cell `x[i]` refers to, looked up in the active part, is element `i` of what the client sees -/
theorem cells_getElem? {x : Small α} {i : Nat} (hi : i < x.size) :
    (if x.tagS then x.st.cells else x.dy.cells)[i]? = x.view[i]? := by
  cases ht : x.tagS <;> simp only [size, ht, Bool.false_eq_true, if_false, if_true] at hi <;>
    simp [view, ht, SVec.view, Vec.view, hi]

theorem pushAt_does (c : Nat) (zero : α) (x : Small α) (i : Nat) (L : Ledger) (h : Inv c x) (hi : i < x.size) :
    Does c (blk x) L (x.view ++ x.view[i]?.toList) (pushAt c zero x i L) := by
  have hv := view_length h
  by_cases hc : x.size = c
  · have hiv : i < x.view.length := by omega
    simp only [pushAt, hc, if_true, cells_getElem? hi, List.getElem?_eq_getElem hiv, Option.toList_some]
    exact grow_store_does c zero x _ L h hc
  · cases ht : x.tagS with
    | true =>
      simp only [view, ht, if_true]
      exact Does.st (blk_st ht) (pushAt_static c zero x i L ht h hc hi)
    | false =>
      simp only [view, pushAt, hc, ht, Bool.false_eq_true, if_false]
      exact Does.dy (blk_dy ht) (Vec.pushAt_does zero x.dy i L (h.2 ht) (by simpa [size, ht] using hi)) rfl rfl

theorem mkCopy_does (c : Nat) (zero : α) (o : Small α) (L : Ledger) (h : Inv c o) : Does c none L o.view (mkCopy c zero o L) := by
  cases ht : o.tagS <;> simp only [view, mkCopy, ht, Bool.false_eq_true, if_false, if_true]
  · exact Does.dy rfl (Vec.mkCopy_does zero o.dy L (h.2 ht)) rfl rfl
  · exact Does.st rfl ⟨rfl, h.1 ht, rfl, rfl⟩

/-- heap → static destroys the heap vector, static → heap copy-constructs one -/
theorem assign_does (c : Nat) (zero : α) (x o : Small α) (L : Ledger) (h : Inv c x) (ho : Inv c o) :
    Does c (blk x) L o.view (assign c zero x o L) := by
  cases ht : x.tagS <;> cases ht' : o.tagS <;> simp only [view, ht', Bool.false_eq_true, if_false, if_true]
  · simp only [assign, ht, ht', bne_self_eq_false, Bool.false_eq_true, if_false]
    exact Does.dy (blk_dy ht) (Vec.assign_does zero x.dy o.dy L (h.2 ht) (ho.2 ht')) rfl rfl
  · simp only [assign, ht, ht', Bool.bne_true, Bool.not_false, if_true]
    refine ⟨inv_st rfl (ho.1 ht'), ?_, rfl⟩
    show EffP (blk x) none L _; rw [blk_dy ht]; exact Vec.destroy_eff x.dy L
  · simp only [assign, ht, ht', Bool.bne_false, if_true, Bool.false_eq_true, if_false]
    exact Does.dy (blk_st ht) (Vec.mkCopy_does zero o.dy L (ho.2 ht')) rfl rfl
  · exact Does.st (blk_st ht) (assign_static c zero x o L ht ht' h ho)

theorem mkVariadic_does (c : Nat) (zero : α) (vs : List α) (L : Ledger) : Does c none L (vs.map some) (mkVariadic c zero vs L) := by
  have d0 := mkDefault_does c zero L
  have d1 := d0.trans (resize_does c zero (mkDefault c zero L).1 vs.length (mkDefault c zero L).2 d0.inv)
  have hsz := resize_size c zero (mkDefault c zero L).1 vs.length (mkDefault c zero L).2 d0.inv
  have hv := view_length d1.inv
  refine (d1.trans (storeAll_does c vs _ 0 _ d1.inv (by omega)).1).view_eq ?_
  rw [List.drop_of_length_le (by rw [hv]; omega)]; simp

theorem read_led (c : Nat) (x : Small α) (i : Nat) (L : Ledger) (h : Inv c x) (hi : i < x.size) : (read x i L).2 = L := by
  cases ht : x.tagS <;> simp only [size, read, ht, Bool.false_eq_true, if_false, if_true] at hi ⊢
  · exact Vec.read_led _ i _ (h.2 ht) hi
  · exact SVec.read_led c _ i _ (h.1 ht) hi

theorem destroy_eff (x : Small α) (L : Ledger) : EffP (blk x) none L (destroy x L) := by
  cases ht : x.tagS <;> simp only [destroy, blk, ht, Bool.false_eq_true, if_false, if_true]
  · exact Vec.destroy_eff x.dy L
  · exact EffP.refl

end Small

theorem RSmall.inv {c : Nat} {x : Small α} {l : List α} (h : RSmall c x l) : Small.Inv c x := (Small.rsmall_iff.1 h).1

theorem RSmall.size_eq {c : Nat} {x : Small α} {l : List α} (h : RSmall c x l) : x.size = l.length := by
  rw [← Small.view_length h.inv, (Small.rsmall_iff.1 h).2, List.length_map]

/-- every operation of `small_vector` does what `std::vector`'s does, in static mode, in heap mode and across the switch -/
theorem small_table (c : Nat) (zero : α) : Table (smallImpl c zero) Small.blk (Small.Inv c) zero where
  size _ := Small.view_length
  mkDefault := Small.mkDefault_does c zero
  mkSized := Small.mkSized_does c zero
  mkVariadic := Small.mkVariadic_does c zero
  mkCopy := Small.mkCopy_does c zero
  assign := Small.assign_does c zero
  assignSelf _ _ _ := rfl
  push a x := Small.push_does c zero x a
  pushAt i x := Small.pushAt_does c zero x i
  resize n x := Small.resize_does c zero x n
  write i a x L h hi := by
    show Small.Does c _ L _ (Small.write x i a L)
    rw [Small.write_eq_storeCell]; exact Small.storeCell_does c x i (some a) L h hi
  read i x := Small.read_led c x i
  destroy := Small.destroy_eff

theorem small_sim (c : Nat) (zero : α) : Sim (smallImpl c zero) (stdSpec zero) (RSmall c) (smallOk c) :=
  (small_table c zero).sim (fun _ _ => Small.rsmall_iff) _

end NmVerif.Containers
