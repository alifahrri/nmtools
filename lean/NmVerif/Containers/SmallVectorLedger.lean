import NmVerif.Containers.SmallVectorProofs
import NmVerif.Containers.LedgerSim
/-
  Ledger theorems for the `small_vector` mirror.

  * static mode never touches the heap: on histories in which every object stays in static mode
    (`smallStaticOk`, decided on the reference run: sized construction below DIM, at most DIM values, resizes up to
    DIM, pushes only below DIM) the ledger is handed back unchanged by every operation (`small_static_fix`).
  * the parts of the exact allocator cost of the static → heap switch (`Ledger.fp`; `Vec.resize_fp`, `Vec.mkCopy_fp`,
    `Small.mkSized_cost`); the cost itself is `smallVector_switch_cost` of `Props/C19`.
  * what single operations of the two parts do to `Ledger.bal` and to the block (`Vec.*_bal*`, `*_blk`, `SVec.*_bal`): the
    operation-by-operation form of the balance, as `Bal` (LedgerSim) states it; the world-level balance is `LInvP.count`.
-/
namespace NmVerif.Containers
variable {α : Type}

/-- every object stays in static mode: `small_vector(n)` with `n < DIM` (`n = DIM` already takes the heap branch,
    small_vector.hpp:44), at most DIM values, `resize(n)` with `n ≤ DIM`, `push_back` only on objects holding fewer than
    DIM elements (an inapplicable `pushAt`, `i ≥ size()`, is skipped and therefore allowed).  The conditions on
    `push` / `pushAt` look at the reference-side state of the target object. -/
def smallStaticOk (c : Nat) : Option (List α) → Op α → Prop
  | _, .ctorN _ n => n < c
  | _, .ctorV _ vs => vs.length ≤ c
  | _, .resize _ n => n ≤ c
  | some l, .push _ _ => l.length < c
  | some l, .pushAt _ i => i < l.length → l.length < c
  | _, _ => True

instance decSmallStaticOk (c : Nat) (st : Option (List α)) (op : Op α) : Decidable (smallStaticOk c st op) := by
  cases st <;> cases op <;> simp only [smallStaticOk] <;> infer_instance

def RStat (c : Nat) (x : Small α) (l : List α) : Prop := x.tagS = true ∧ RSmall c x l

namespace Vec

theorem resize_bal_raw (zero : α) (v : Vec α) (n : Nat) (L : Ledger) (h : v.blk = none) :
    (v.resize zero n L).2.bal = L.bal + 1 := by
  unfold resize
  simp only [h]
  exact Ledger.bal_alloc L

theorem resize_blk (zero : α) (v : Vec α) (n : Nat) (L : Ledger) : (v.resize zero n L).1.blk.isSome := by
  fun_cases resize zero v n L <;> simp [*]

theorem copyFrom_bal (v o : Vec α) (L : Ledger) : (v.copyFrom o L).2.bal = L.bal := by
  simp only [copyFrom]; exact Ledger.bal_flagIf _ _ _

theorem copyFrom_blk (v o : Vec α) (L : Ledger) : (v.copyFrom o L).1.blk = v.blk := rfl

theorem store_blk (v : Vec α) (i : Nat) (x : Cell α) (L : Ledger) : (v.store i x L).1.blk = v.blk := by
  fun_cases store v i x L <;> rfl

theorem assign_bal_raw (zero : α) (v o : Vec α) (L : Ledger) (h : v.blk = none) : (assign zero v o L).2.bal = L.bal + 1 := by
  simp only [assign]; rw [copyFrom_bal, resize_bal_raw zero v _ L h]

end Vec

namespace SVec

theorem resize_bal (c : Nat) (zero : α) (x : SVec α) (n : Nat) (L : Ledger) : (SVec.resize c zero x n L).2.bal = L.bal := by
  fun_cases SVec.resize c zero x n L
  · exact Ledger.bal_flagIf _ _ _
  · rfl

theorem copyFrom_bal (v o : SVec α) (L : Ledger) : (SVec.copyFrom v o L).2.bal = L.bal := by
  simp only [SVec.copyFrom]; exact Ledger.bal_flagIf _ _ _

theorem assignSelf_bal (c : Nat) (zero : α) (v : SVec α) (L : Ledger) : (SVec.assignSelf c zero v L).2.bal = L.bal := by
  simp only [SVec.assignSelf]; rw [copyFrom_bal, resize_bal]

end SVec

namespace Small

/-- blocks owned by the object -/
def own (x : Small α) : Nat := if x.tagS then 0 else 1

theorem own_eq {c : Nat} {x : Small α} (h : Inv c x) : own x = (blk x).isSome.toNat := by
  cases ht : x.tagS with
  | true => simp [own, blk, ht]
  | false => simp [own, blk, ht, (h.2 ht).blk]

theorem mkVariadic_static (c : Nat) (zero : α) (vs : List α) (L : Ledger) (hn : vs.length ≤ c) :
    (mkVariadic c zero vs L).1.tagS = true ∧ (mkVariadic c zero vs L).2 = L := by
  have d0 := (mkDefault_does c zero L).inv
  have s := resize_static c zero _ vs.length L rfl d0 hn
  obtain ⟨_, hl, ht⟩ := storeAll_does c vs _ 0 _ (inv_st s.tag s.does.inv) (by rw [resize_size c zero _ _ L d0]; omega)
  exact ⟨ht.trans s.tag, hl.trans s.led⟩

end Small

theorem small_static_sim (c : Nat) (zero : α) :
    Sim (smallImpl c zero) (stdSpec zero) (RStat c) (smallStaticOk c) where
  size_eq := fun x y h => h.2.size_eq
  mkDefault := fun s L M hok => ⟨rfl, (small_sim c zero).mkDefault s L M trivial⟩
  mkSized := fun s n L M hok => ⟨(Small.mkSized_static c zero n L hok).tag, (small_sim c zero).mkSized s n L M trivial⟩
  mkVariadic := fun s vs L M hok => ⟨(Small.mkVariadic_static c zero vs L hok).1, (small_sim c zero).mkVariadic s vs L M trivial⟩
  mkCopy := fun d s x y L M hok h => ⟨by simp [smallImpl, Small.mkCopy, h.1], (small_sim c zero).mkCopy d s x y L M trivial h.2⟩
  assign := fun d s x y x' y' L M hok h h' =>
    ⟨(Small.assign_static c zero x x' L h.1 h'.1 h.2.inv h'.2.inv).tag,
      (small_sim c zero).assign d s x y x' y' L M trivial h.2 h'.2⟩
  assignSelf := fun d x y L M hok h => h
  push := fun s a x y L M hok h =>
    have hlt : y.length < c := hok
    ⟨(Small.push_static c zero x a L h.1 h.2.inv (by have := h.2.size_eq; omega)).tag,
      (small_sim c zero).push s a x y L M trivial h.2⟩
  pushAt := fun s i x y L M hok h hi =>
    have hlt : y.length < c := hok hi
    have hsz := h.2.size_eq
    ⟨(Small.pushAt_static c zero x i L h.1 h.2.inv (by omega) (by rw [hsz]; exact hi)).tag,
      (small_sim c zero).pushAt s i x y L M trivial h.2 hi⟩
  resize := fun s n x y L M hok h =>
    ⟨(Small.resize_static c zero x n L h.1 h.2.inv hok).tag, (small_sim c zero).resize s n x y L M trivial h.2⟩
  write := fun s i a x y L M hok h hi =>
    ⟨by show (Small.write x i a L).1.tagS = true; rw [Small.write_eq_storeCell, Small.storeCell_tag]; exact h.1,
      (small_sim c zero).write s i a x y L M trivial h.2 hi⟩

theorem small_static_fix (c : Nat) (zero : α) :
    LedFix (smallImpl c zero) (stdSpec zero) (RStat c) (smallStaticOk c) where
  mkDefault := fun s L _ => rfl
  mkSized := fun s n L hok => (Small.mkSized_static c zero n L hok).led
  mkVariadic := fun s vs L hok => (Small.mkVariadic_static c zero vs L hok).2
  mkCopy := fun d s x y L _ h => by simp only [smallImpl, Small.mkCopy, h.1, if_true]
  assign := fun d s x y x' y' L _ h h' => (Small.assign_static c zero x x' L h.1 h'.1 h.2.inv h'.2.inv).led
  assignSelf := fun d x y L _ h => rfl
  push := fun s a x y L hok h =>
    have hlt : y.length < c := hok
    (Small.push_static c zero x a L h.1 h.2.inv (by have := h.2.size_eq; omega)).led
  pushAt := fun s i x y L hok h hi =>
    have hlt : y.length < c := hok hi
    have hsz := h.2.size_eq
    (Small.pushAt_static c zero x i L h.1 h.2.inv (by omega) (by rw [hsz]; exact hi)).led
  resize := fun s n x y L hok h => (Small.resize_static c zero x n L h.1 h.2.inv hok).led
  write := fun s i a x y L _ h hi => by
    show (Small.write x i a L).2 = L
    rw [Small.write_eq_storeCell]
    exact Small.storeCell_led c x i _ L h.2.inv (by rw [h.2.size_eq]; exact hi)
  read := fun s i x y L _ h hi => Small.read_led c x i L h.2.inv (by rw [h.2.size_eq]; exact hi)
  destroy := fun s x y L _ h => by simp [smallImpl, Small.destroy, h.1]

/-- the allocator footprint of the ledger -/
def Ledger.fp (L : Ledger) : Nat × List Nat × List Nat := (L.allocs, L.freed, L.lost)

theorem Ledger.fp_flag (L : Ledger) (e : Event) : (L.flag e).fp = L.fp := rfl
theorem Ledger.fp_flagIf (L : Ledger) (b : Bool) (e : Event) : (L.flagIf b e).fp = L.fp := by cases b <;> rfl

namespace Vec
theorem copyFrom_fp (v o : Vec α) (L : Ledger) : (v.copyFrom o L).2.fp = L.fp := by
  simp only [copyFrom]; exact Ledger.fp_flagIf _ _ _

/-- footprint of `resize` on a vector holding block `p`: a reallocation (new block, `p` freed) exactly when the capacity is exceeded -/
theorem resize_fp (zero : α) (v : Vec α) (n : Nat) (L : Ledger) (p : Nat) (hp : v.blk = some p) :
    (v.resize zero n L).2.fp = (if v.cap < n then (L.allocs + 1, p :: L.freed, L.lost) else L.fp) ∧
    (v.resize zero n L).1.blk = some (if v.cap < n then L.allocs else p) := by
  unfold resize
  simp only [hp]
  split
  · cases hd : decide (v.cells.length < v.size) <;> simp [Ledger.fp, Ledger.free, Ledger.flagIf, Ledger.alloc, Ledger.flag]
  · exact ⟨Ledger.fp_flagIf _ _ _, rfl⟩

/-- cost of `vector(const vector&)`: a block of 4, reallocated when more than 4 elements are copied -/
theorem mkCopy_fp (zero : α) (o : Vec α) (L : Ledger) :
    (mkCopy zero o L).2.fp =
      (if 4 < o.size then (L.allocs + 2, L.allocs :: L.freed, L.lost) else (L.allocs + 1, L.freed, L.lost)) ∧
    (mkCopy zero o L).1.blk = some (if 4 < o.size then L.allocs + 1 else L.allocs) := by
  simp only [mkCopy, copyFrom_fp, copyFrom_blk]
  exact resize_fp zero (mkDefault L).1 o.size (mkDefault L).2 L.allocs rfl
end Vec

namespace Small

/-- cost of `small_vector(n)`, `n ≥ DIM`: the temporary default vector, its copy inside the union and (for
    `n > 4`) the reallocation by `resize(n)` -/
theorem mkSized_cost (c : Nat) (zero : α) (n : Nat) (L : Ledger) (hn : ¬ n < c) :
    (mkSized c zero n L).2.fp =
      (if 4 < n then (L.allocs + 3, (L.allocs + 1) :: L.allocs :: L.freed, L.lost) else (L.allocs + 2, L.allocs :: L.freed, L.lost)) ∧
    (mkSized c zero n L).1.dy.blk = some (if 4 < n then L.allocs + 2 else L.allocs + 1) ∧ (mkSized c zero n L).1.dy.size = n := by
  by_cases h4 : 4 < n <;>
    simp [mkSized, hn, Vec.mkDefault, Vec.mkCopy, Vec.resize, Ledger.alloc, Ledger.flagIf, Vec.copyFrom,
      Vec.destroy, Ledger.free, h4, Ledger.fp, initRange]

end Small
end NmVerif.Containers
