import NmVerif.Containers.LedgerInv
/-
  NmVerif.Containers.LedgerSim — the allocation ledger along histories (property C19):

  * `AllOk` is decidable when the per-operation condition is (so that the domains of the theorems can be
    evaluated on concrete histories by `decide`).
  * `LedFix` / `run_ledfix`: a simulation whose implementation-side operations all hand the ledger back (on the states
    related to the reference, for the operations `ok` allows) never touches it.
  * Conservation of blocks, `LInvP.count`: the two sides of the permutation `LInvP` (LedgerInv) have the same length, which
    reads `allocs = |freed| + number of live objects owning a block` (`ownSum`).
  Core Lean only.
-/
namespace NmVerif.Containers

instance decAllOk (J : Impl τ α) (ok : Option τ → Op α → Prop) [∀ st op, Decidable (ok st op)] :
    (v : World τ) → (h : List (Op α)) → Decidable (AllOk J ok v h)
  | _, [] => isTrue trivial
  | v, op :: h =>
    match (inferInstance : Decidable (ok (v.objs op.target) op)), decAllOk J ok (step J v op) h with
    | isTrue h1, isTrue h2 => isTrue ⟨h1, h2⟩
    | isFalse h1, _ => isFalse (fun hh => h1 hh.1)
    | _, isFalse h2 => isFalse (fun hh => h2 hh.2)

/-- per-operation obligations: on states related to the reference (`R`) and operations allowed by `ok`, the
    implementation-side operation hands the ledger back as it received it -/
structure LedFix (I : Impl σ α) (J : Impl τ α) (R : σ → τ → Prop) (ok : Option τ → Op α → Prop) : Prop where
  mkDefault : ∀ s L, ok none (.ctor s) → (I.mkDefault L).2 = L
  mkSized : ∀ s n L, ok none (.ctorN s n) → (I.mkSized n L).2 = L
  mkVariadic : ∀ s vs L, ok none (.ctorV s vs) → (I.mkVariadic vs L).2 = L
  mkCopy : ∀ d s x y L, ok none (.copy d s) → R x y → (I.mkCopy x L).2 = L
  assign : ∀ d s x y x' y' L, ok (some y) (.assign d s) → R x y → R x' y' → (I.assign x x' L).2 = L
  assignSelf : ∀ d x y L, ok (some y) (.assign d d) → R x y → (I.assignSelf x L).2 = L
  push : ∀ s a x y L, ok (some y) (.push s a) → R x y → (I.push x a L).2 = L
  pushAt : ∀ s i x y L, ok (some y) (.pushAt s i) → R x y → i < J.size y → (I.pushAt x i L).2 = L
  resize : ∀ s n x y L, ok (some y) (.resize s n) → R x y → (I.resize x n L).2 = L
  write : ∀ s i a x y L, ok (some y) (.write s i a) → R x y → i < J.size y → (I.write x i a L).2 = L
  read : ∀ s i x y L, ok (some y) (.read s i) → R x y → i < J.size y → (I.read x i L).2 = L
  destroy : ∀ s x y L, ok (some y) (.destroy s) → R x y → I.destroy x L = L

theorem step_ledfix {I : Impl σ α} {J : Impl τ α} {R : σ → τ → Prop} {ok : Option τ → Op α → Prop}
    (S : Sim I J R ok) (F : LedFix I J R ok) {w : World σ} {v : World τ} (h : WRel R w v) (op : Op α)
    (hok : ok (v.objs op.target) op) : (step I w op).led = w.led := by
  have st := stepped I w op
  generalize step I w op = w' at st
  cases st with
  | skip => rfl
  | mkDefault s hs => exact F.mkDefault s _ (h.none hs ▸ hok)
  | mkSized s n hs => exact F.mkSized s n _ (h.none hs ▸ hok)
  | mkVariadic s vs hs => exact F.mkVariadic s vs _ (h.none hs ▸ hok)
  | mkCopy d s x hd hs =>
    obtain ⟨y, _, hr⟩ := h.some hs
    exact F.mkCopy d s x y _ (h.none hd ▸ hok) hr
  | assign d s x x' _ hd hs =>
    obtain ⟨y, hv, hr⟩ := h.some hd
    obtain ⟨y', _, hr'⟩ := h.some hs
    exact F.assign d s x y x' y' _ (hv ▸ hok) hr hr'
  | assignSelf d x hd =>
    obtain ⟨y, hv, hr⟩ := h.some hd
    exact F.assignSelf d x y _ (hv ▸ hok) hr
  | push s a x hs =>
    obtain ⟨y, hv, hr⟩ := h.some hs
    exact F.push s a x y _ (hv ▸ hok) hr
  | pushAt s i x hs hi =>
    obtain ⟨y, hv, hr⟩ := h.some hs
    exact F.pushAt s i x y _ (hv ▸ hok) hr (S.size_eq _ _ hr ▸ hi)
  | resize s n x hs =>
    obtain ⟨y, hv, hr⟩ := h.some hs
    exact F.resize s n x y _ (hv ▸ hok) hr
  | write s i a x hs hi =>
    obtain ⟨y, hv, hr⟩ := h.some hs
    exact F.write s i a x y _ (hv ▸ hok) hr (S.size_eq _ _ hr ▸ hi)
  | read s i x hs hi =>
    obtain ⟨y, hv, hr⟩ := h.some hs
    exact F.read s i x y _ (hv ▸ hok) hr (S.size_eq _ _ hr ▸ hi)
  | destroy s x hs =>
    obtain ⟨y, hv, hr⟩ := h.some hs
    exact F.destroy s x y _ (hv ▸ hok) hr

theorem run_ledfix {I : Impl σ α} {J : Impl τ α} {R : σ → τ → Prop} {ok : Option τ → Op α → Prop}
    (S : Sim I J R ok) (F : LedFix I J R ok) (h : List (Op α)) {w : World σ} {v : World τ} (hr : WRel R w v)
    (hok : AllOk J ok v h) : (run I w h).led = w.led ∧ WRel R (run I w h) (run J v h) := by
  induction h generalizing w v with
  | nil => exact ⟨rfl, hr⟩
  | cons op h ih =>
    simp only [run]
    have := ih (step_sim S hr op hok.1) hok.2
    exact ⟨by rw [this.1]; exact step_ledfix S F hr op hok.1, this.2⟩

/-- blocks handed out and neither freed nor dropped -/
def Ledger.bal (L : Ledger) : Int := (L.allocs : Int) - L.freed.length - L.lost.length

theorem Ledger.bal_flagIf (L : Ledger) (b : Bool) (e : Event) : (L.flagIf b e).bal = L.bal := by
  cases b <;> rfl
theorem Ledger.bal_alloc (L : Ledger) : L.alloc.2.bal = L.bal + 1 := by
  simp only [Ledger.bal, Ledger.alloc]; omega
theorem Ledger.bal_lose (L : Ledger) (b : Nat) : (L.lose b).bal = L.bal - 1 := by
  simp only [Ledger.bal, Ledger.lose, List.length_cons]; omega

/-- the balance operation by operation: `P` is kept and `Ledger.bal` changes by the change of the number of blocks the object
    owns.  No container kind is given a table of this record: the balance of a whole world is `LInvP.count`, which comes with
    the `Table` a kind needs anyway. -/
structure Bal (I : Impl σ α) (P : σ → Prop) (own : σ → Nat) : Prop where
  mkDefault : ∀ L, P (I.mkDefault L).1 ∧ (I.mkDefault L).2.bal = L.bal + own (I.mkDefault L).1
  mkSized : ∀ n L, P (I.mkSized n L).1 ∧ (I.mkSized n L).2.bal = L.bal + own (I.mkSized n L).1
  mkVariadic : ∀ vs L, P (I.mkVariadic vs L).1 ∧ (I.mkVariadic vs L).2.bal = L.bal + own (I.mkVariadic vs L).1
  mkCopy : ∀ x L, P x → P (I.mkCopy x L).1 ∧ (I.mkCopy x L).2.bal = L.bal + own (I.mkCopy x L).1
  assign : ∀ x y L, P x → P y → P (I.assign x y L).1 ∧ (I.assign x y L).2.bal = L.bal + own (I.assign x y L).1 - own x
  assignSelf : ∀ x L, P x → P (I.assignSelf x L).1 ∧ (I.assignSelf x L).2.bal = L.bal + own (I.assignSelf x L).1 - own x
  push : ∀ a x L, P x → P (I.push x a L).1 ∧ (I.push x a L).2.bal = L.bal + own (I.push x a L).1 - own x
  pushAt : ∀ i x L, P x → i < I.size x → P (I.pushAt x i L).1 ∧ (I.pushAt x i L).2.bal = L.bal + own (I.pushAt x i L).1 - own x
  resize : ∀ n x L, P x → P (I.resize x n L).1 ∧ (I.resize x n L).2.bal = L.bal + own (I.resize x n L).1 - own x
  write : ∀ i a x L, P x → i < I.size x → P (I.write x i a L).1 ∧ (I.write x i a L).2.bal = L.bal + own (I.write x i a L).1 - own x
  read : ∀ i x L, P x → i < I.size x → (I.read x i L).2.bal = L.bal
  destroy : ∀ x L, P x → (I.destroy x L).bal = L.bal - own x

def countO (own : σ → Nat) : Option σ → Nat
  | some x => own x
  | none => 0

/-- number of blocks owned by the objects in slots `0 … N-1` -/
def ownSum (own : σ → Nat) (w : World σ) (N : Nat) : Nat := ((List.range N).map (fun k => countO own (w.objs k))).sum

theorem sum_range_congr (f g : Nat → Nat) (N : Nat) (h : ∀ k, k < N → g k = f k) :
    ((List.range N).map g).sum = ((List.range N).map f).sum :=
  congrArg List.sum (List.map_congr_left (fun k hk => h k (List.mem_range.1 hk)))

theorem sum_range_update (f g : Nat → Nat) (t N : Nat) (ht : t < N) (h : ∀ k, k ≠ t → g k = f k) :
    ((List.range N).map g).sum + f t = ((List.range N).map f).sum + g t := by
  induction N with
  | zero => omega
  | succ N ih =>
    simp only [List.range_succ, List.map_append, List.sum_append, List.map_cons, List.map_nil, List.sum_cons, List.sum_nil]
    by_cases htN : t = N
    · subst htN
      rw [sum_range_congr f g t (fun k hk => h k (by omega))]
      omega
    · have := ih (by omega)
      rw [h N (fun e => htN e.symm)]
      omega

theorem length_filterMap_eq_sum (f : Nat → Option β) (l : List Nat) :
    (l.filterMap f).length = (l.map (fun k => (f k).isSome.toNat)).sum := by
  induction l with
  | nil => rfl
  | cons a l ih => cases h : f a <;> simp [h, ih]; omega

theorem LInvP.count {blkOf : σ → Option Nat} {P : σ → Prop} {N : Nat} {w : World σ} (hw : LInvP blkOf P N w)
    (own : σ → Nat) (hown : ∀ x, P x → own x = (blkOf x).isSome.toNat) :
    w.led.allocs = w.led.freed.length + ownSum own w N := by
  have := hw.perm.length_eq
  rw [List.length_append, List.length_range, ownedBlocks, length_filterMap_eq_sum] at this
  rw [← this, ownSum]
  congr 2
  refine List.map_congr_left (fun k _ => ?_)
  cases hx : w.objs k with
  | none => rfl
  | some x => exact (hown x (hw.objInv k x hx)).symm

theorem sum_range_eq_zero (f : Nat → Nat) (N : Nat) (h : ∀ k, k < N → f k = 0) : ((List.range N).map f).sum = 0 := by
  rw [sum_range_congr (fun _ => 0) f N h]; simp [List.map_const']

theorem ownSum_dead {own : σ → Nat} {w : World σ} {N : Nat} (h : ∀ k, w.objs k = none) : ownSum own w N = 0 :=
  sum_range_eq_zero _ N (fun k _ => by rw [h k]; rfl)

end NmVerif.Containers
