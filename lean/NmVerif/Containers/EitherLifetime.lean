import NmVerif.Containers.EitherProofs
import NmVerif.Containers.LedgerSim
/-
  Lifetime discipline of the repaired `utl::either` / `utl::maybe` mirror for a non-trivial left type: in every
  reachable state a left object is alive exactly in the objects whose tag is LEFT, no lifetime error is ever
  recorded, and constructor runs − destructor runs = number of live LEFT-tagged objects.
-/
namespace NmVerif.Containers
variable {α β : Type}

/-- `N` bounds the slots in use: the balance is counted over the slots `0 … N-1` -/
def ELife (N : Nat) (w : EWorld α β) : Prop :=
  (∀ k x, w.objs k = some x → x.left.live = x.tagL) ∧ w.led.events = [] ∧
  (w.led.ctors : Int) - w.led.dtors = ((List.range N).map (fun k => countO Eith.leftCnt (w.objs k))).sum

theorem elife_put {N : Nat} {w : EWorld α β} (h : ELife N w) (k : Nat) (hk : k < N) (x : Option (Eith α β)) (L : Ledger)
    (hx : ∀ y, x = some y → y.left.live = y.tagL) (he : L.events = w.led.events)
    (hc : (L.ctors : Int) - L.dtors = (w.led.ctors : Int) - w.led.dtors + countO Eith.leftCnt x - countO Eith.leftCnt (w.objs k)) :
    ELife N (w.put k x L) := by
  refine ⟨forall_put h.1 k hx, he.trans h.2.1, hc.trans ?_⟩
  have hs := sum_range_update (fun j => countO Eith.leftCnt (w.objs j)) (fun j => countO Eith.leftCnt ((w.put k x L).objs j)) k N hk
    (fun j hj => congrArg _ (if_neg hj))
  -- the sum changes in slot `k` only (`hs`): by the new count minus the old one, as the balance does (`hc`)
  rw [h.2.2, Int.sub_eq_iff_eq_add, ← Int.natCast_add, ← Int.natCast_add, hs, show (w.put k x L).objs k = x from if_pos rfl]

/-- `elife_put` for an operation summarised by `EGood` -/
theorem elife_upd {N : Nat} {w : EWorld α β} (h : ELife N w) {k : Nat} (hk : k < N) {x : Option (Eith α β)}
    (hx : w.objs k = x) {r : Eith α β × Ledger} (g : Eith.EGood (countO Eith.leftCnt x) w.led r) :
    ELife N (w.put k (some r.1) r.2) :=
  elife_put h k hk _ _ (fun _ e => Option.some.inj e ▸ g.live) g.events (by rw [hx]; exact g.count)

theorem estep_life (cfg : ECfg α β) (hnt : cfg.nt = true) {N : Nat} {w : EWorld α β} (h : ELife N w) (op : EOp α β)
    (hN : op.target < N) : ELife N (estep cfg w op) := by
  have st := estepped cfg w op
  generalize estep cfg w op = w' at st
  cases st with
  | skip => exact h
  | mk s hs => exact elife_upd h hN hs ((Eith.mkDflt_does cfg _).good hnt rfl)
  | mkL s v hs => exact elife_upd h hN hs ((Eith.assignValueL_does cfg Eith.raw (some v) _).good hnt rfl)
  | mkR s v hs => exact elife_upd h hN hs ((Eith.assignValueR_does cfg Eith.raw (some v) _).good hnt rfl)
  | copy d s o hd => exact elife_upd h hN hd (Eith.mkCopy_good cfg hnt o _)
  | assign d s x o _ hd => exact elife_upd h hN hd ((Eith.assign_does cfg x o _).good hnt (h.1 d x hd))
  | setL s v x hs => exact elife_upd h hN hs ((Eith.assignValueL_does cfg x (some v) _).good hnt (h.1 s x hs))
  | setR s v x hs => exact elife_upd h hN hs ((Eith.assignValueR_does cfg x (some v) _).good hnt (h.1 s x hs))
  | writeL s v x hs ht => exact elife_upd h hN hs ((Eith.assignLeft_does cfg x (some v) _ ht).good hnt (h.1 s x hs))
  | destroy s x hs =>
    have g := Eith.destroyActive_good cfg hnt x none w.led (h.1 s x hs)
    exact elife_put h s hN none _ (fun _ => nofun) g.events (by rw [hs]; exact g.count)

theorem erun_life (cfg : ECfg α β) (hnt : cfg.nt = true) {N : Nat} (h : List (EOp α β)) {w : EWorld α β} (hw : ELife N w)
    (hN : ∀ op ∈ h, op.target < N) : ELife N (erun cfg w h) := by
  induction h generalizing w with
  | nil => exact hw
  | cons op h ih => exact ih (estep_life cfg hnt hw op (hN op List.mem_cons_self)) (fun o ho => hN o (List.mem_cons_of_mem _ ho))

theorem elife_empty (N : Nat) : ELife N (EWorld.empty : EWorld α β) := by
  refine ⟨fun _ _ hx => (by cases hx), rfl, ?_⟩
  rw [sum_range_eq_zero (fun k => countO Eith.leftCnt ((EWorld.empty : EWorld α β).objs k)) N (fun _ _ => rfl)]; rfl

end NmVerif.Containers
