/-
  NmVerif.Containers.Core — L3 state machines for the STL-free containers (property C19).

  * `Ledger`   the allocation ledger of the counting allocator (`nmtools_malloc` / `nmtools_free`,
               utl/vector.hpp:48-61): block ids are handed out in order, every `free` is logged, a block whose
               last pointer is dropped without `free` goes to the ghost list `lost`, UB-class events
               (out-of-bounds cell access, read of freed memory, assignment into unconstructed storage …) are logged.
               No mirror of the repaired code calls `Ledger.lose` or flags `uaf`: `lost = []` holds of every run by
               construction, and a leak shows as a block neither freed nor owned (`LInvG.accounted`), not in `lost`.
  * `Op`       the operation alphabet of the property text on numbered object slots.
  * `Impl`     the per-object semantics of one container kind (each op threads the ledger).
  * `World`    any number of object slots (`none` = no live object) + the ledger; `step`, `run` over histories.
  * `Stepped`  the ways a step can go: every world-level theorem (`step_frame`, `step_sim`; `step_ledfix` of LedgerSim,
               `step_linvp` of LedgerInv) is a case analysis on it, one case per operation.
  * `Sim`      per-operation obligations of a refinement `WRel R` of a reference semantics; `run_sim` → the `*_refines` theorems.

  Core Lean only (linked into the driver).
-/
namespace NmVerif.Containers

/-- a memory cell of element type `α`; `none` = indeterminate (never initialised / freed memory) -/
abbrev Cell (α : Type) := Option α

inductive Event where
  | oob            -- buffer cell index outside the allocated block / fixed array
  | uaf            -- read through a pointer into a freed block
  | uninitAssign   -- `operator=` invoked on storage whose lifetime never began
  | overLive       -- placement-new over a live object (its destructor never ran)
  | destroyDead    -- destructor call on storage without a live object
  deriving DecidableEq, Repr

structure Ledger where
  allocs : Nat := 0
  freed : List Nat := []
  lost : List Nat := []
  events : List Event := []
  /-- element objects of the counting non-trivial type constructed / destroyed by the containers -/
  ctors : Nat := 0
  dtors : Nat := 0
  deriving Repr

namespace Ledger
def alloc (L : Ledger) : Nat × Ledger := (L.allocs, { L with allocs := L.allocs + 1 })
def free (L : Ledger) (b : Nat) : Ledger := { L with freed := b :: L.freed }
def lose (L : Ledger) (b : Nat) : Ledger := { L with lost := b :: L.lost }
def flag (L : Ledger) (e : Event) : Ledger := { L with events := e :: L.events }
def flagIf (L : Ledger) (c : Bool) (e : Event) : Ledger := if c then L.flag e else L
def ctor (L : Ledger) : Ledger := { L with ctors := L.ctors + 1 }
def dtor (L : Ledger) : Ledger := { L with dtors := L.dtors + 1 }
end Ledger

/-- the value-initialisation loop `for i in old … n-1: buffer[i] = T{}` on a block / fixed buffer `cells` -/
def initRange (zero : α) (cells : List (Cell α)) (old n : Nat) : List (Cell α) :=
  if old < n then cells.take old ++ List.replicate (n - old) (some zero) ++ cells.drop n else cells

/-- operation alphabet on numbered object slots -/
inductive Op (α : Type) where
  | ctor (s : Nat)
  | ctorN (s n : Nat)
  | ctorV (s : Nat) (vs : List α)
  | copy (d s : Nat)
  | assign (d s : Nat)
  | push (s : Nat) (v : α)
  | pushAt (s i : Nat)           -- `x.push_back(x[i])`: argument aliases the container
  | resize (s n : Nat)
  | write (s i : Nat) (v : α)
  | read (s i : Nat)
  | destroy (s : Nat)
  deriving Repr

/-- the slot an operation acts on -/
def Op.target : Op α → Nat
  | .ctor s | .ctorN s _ | .ctorV s _ | .copy s _ | .assign s _ | .push s _ | .pushAt s _
  | .resize s _ | .write s _ _ | .read s _ | .destroy s => s

/-- per-object semantics of one container kind -/
structure Impl (σ α : Type) where
  mkDefault : Ledger → σ × Ledger
  mkSized : Nat → Ledger → σ × Ledger
  mkVariadic : List α → Ledger → σ × Ledger
  mkCopy : σ → Ledger → σ × Ledger
  /-- `dst = src` for two distinct objects -/
  assign : σ → σ → Ledger → σ × Ledger
  /-- `x = x` -/
  assignSelf : σ → Ledger → σ × Ledger
  push : σ → α → Ledger → σ × Ledger
  pushAt : σ → Nat → Ledger → σ × Ledger
  resize : σ → Nat → Ledger → σ × Ledger
  write : σ → Nat → α → Ledger → σ × Ledger
  read : σ → Nat → Ledger → Cell α × Ledger
  destroy : σ → Ledger → Ledger
  size : σ → Nat
  /-- what the client sees: elements `0 … size-1` -/
  view : σ → List (Cell α)

structure World (σ : Type) where
  objs : Nat → Option σ
  led : Ledger

def World.empty : World σ := { objs := fun _ => none, led := {} }

def World.put (w : World σ) (k : Nat) (x : Option σ) (L : Ledger) : World σ :=
  { objs := fun j => if j = k then x else w.objs j, led := L }

/-- one operation; operations a client may not perform (constructing into a live slot, using a dead one,
    element index ≥ size()) are skipped -/
def step (I : Impl σ α) (w : World σ) (op : Op α) : World σ :=
  match op with
  | .ctor s =>
    match w.objs s with
    | none => let r := I.mkDefault w.led; w.put s (some r.1) r.2
    | some _ => w
  | .ctorN s n =>
    match w.objs s with
    | none => let r := I.mkSized n w.led; w.put s (some r.1) r.2
    | some _ => w
  | .ctorV s vs =>
    match w.objs s with
    | none => let r := I.mkVariadic vs w.led; w.put s (some r.1) r.2
    | some _ => w
  | .copy d s =>
    match w.objs d, w.objs s with
    | none, some x => let r := I.mkCopy x w.led; w.put d (some r.1) r.2
    | _, _ => w
  | .assign d s =>
    match w.objs d, w.objs s with
    | some x, some y =>
      let r := if d = s then I.assignSelf x w.led else I.assign x y w.led
      w.put d (some r.1) r.2
    | _, _ => w
  | .push s v =>
    match w.objs s with
    | some x => let r := I.push x v w.led; w.put s (some r.1) r.2
    | none => w
  | .pushAt s i =>
    match w.objs s with
    | some x => if i < I.size x then let r := I.pushAt x i w.led; w.put s (some r.1) r.2 else w
    | none => w
  | .resize s n =>
    match w.objs s with
    | some x => let r := I.resize x n w.led; w.put s (some r.1) r.2
    | none => w
  | .write s i v =>
    match w.objs s with
    | some x => if i < I.size x then let r := I.write x i v w.led; w.put s (some r.1) r.2 else w
    | none => w
  | .read s i =>
    match w.objs s with
    | some x => if i < I.size x then { w with led := (I.read x i w.led).2 } else w
    | none => w
  | .destroy s =>
    match w.objs s with
    | some x => w.put s none (I.destroy x w.led)
    | none => w

def run (I : Impl σ α) (w : World σ) : List (Op α) → World σ
  | [] => w
  | op :: h => run I (step I w op) h

theorem run_append (I : Impl σ α) (w : World σ) (h₁ h₂ : List (Op α)) :
    run I w (h₁ ++ h₂) = run I (run I w h₁) h₂ := by
  induction h₁ generalizing w with
  | nil => rfl
  | cons op h ih => simp [run, ih]

/-- the client-side validity test `step` applies (for the driver's trace: skipped operations are marked) -/
def Op.valid (I : Impl σ α) (w : World σ) : Op α → Bool
  | .ctor s | .ctorN s _ | .ctorV s _ => (w.objs s).isNone
  | .copy d s => (w.objs d).isNone && (w.objs s).isSome
  | .assign d s => (w.objs d).isSome && (w.objs s).isSome
  | .push s _ | .resize s _ | .destroy s => (w.objs s).isSome
  | .pushAt s i | .write s i _ | .read s i =>
    match w.objs s with
    | some x => decide (i < I.size x)
    | none => false

/-- the ways `step` can go; its slot look-ups and guards come as hypotheses -/
inductive Stepped (I : Impl σ α) (w : World σ) : Op α → World σ → Prop where
  | skip (op) : op.valid I w = false → Stepped I w op w
  | mkDefault (s) : w.objs s = none →
      Stepped I w (.ctor s) (w.put s (some (I.mkDefault w.led).1) (I.mkDefault w.led).2)
  | mkSized (s n) : w.objs s = none →
      Stepped I w (.ctorN s n) (w.put s (some (I.mkSized n w.led).1) (I.mkSized n w.led).2)
  | mkVariadic (s vs) : w.objs s = none →
      Stepped I w (.ctorV s vs) (w.put s (some (I.mkVariadic vs w.led).1) (I.mkVariadic vs w.led).2)
  | mkCopy (d s x) : w.objs d = none → w.objs s = some x →
      Stepped I w (.copy d s) (w.put d (some (I.mkCopy x w.led).1) (I.mkCopy x w.led).2)
  | assign (d s x y) : d ≠ s → w.objs d = some x → w.objs s = some y →
      Stepped I w (.assign d s) (w.put d (some (I.assign x y w.led).1) (I.assign x y w.led).2)
  | assignSelf (d x) : w.objs d = some x →
      Stepped I w (.assign d d) (w.put d (some (I.assignSelf x w.led).1) (I.assignSelf x w.led).2)
  | push (s a x) : w.objs s = some x →
      Stepped I w (.push s a) (w.put s (some (I.push x a w.led).1) (I.push x a w.led).2)
  | pushAt (s i x) : w.objs s = some x → i < I.size x →
      Stepped I w (.pushAt s i) (w.put s (some (I.pushAt x i w.led).1) (I.pushAt x i w.led).2)
  | resize (s n x) : w.objs s = some x →
      Stepped I w (.resize s n) (w.put s (some (I.resize x n w.led).1) (I.resize x n w.led).2)
  | write (s i a x) : w.objs s = some x → i < I.size x →
      Stepped I w (.write s i a) (w.put s (some (I.write x i a w.led).1) (I.write x i a w.led).2)
  | read (s i x) : w.objs s = some x → i < I.size x →
      Stepped I w (.read s i) { w with led := (I.read x i w.led).2 }
  | destroy (s x) : w.objs s = some x → Stepped I w (.destroy s) (w.put s none (I.destroy x w.led))

theorem stepped (I : Impl σ α) (w : World σ) (op : Op α) : Stepped I w op (step I w op) := by
  fun_cases step I w op
  case case1 => exact .mkDefault _ ‹_›
  case case3 => exact .mkSized _ _ ‹_›
  case case5 => exact .mkVariadic _ _ ‹_›
  case case7 => exact .mkCopy _ _ _ ‹_› ‹_›
  case case9 d s x y _ _ r =>
    by_cases hds : d = s
    · subst hds; simp only [r, if_true]; exact .assignSelf d _ ‹_›
    · simp only [r, hds, if_false]; exact .assign d s _ _ hds ‹_› ‹_›
  case case11 => exact .push _ _ _ ‹_›
  case case13 => exact .pushAt _ _ _ ‹_› ‹_›
  case case16 => exact .resize _ _ _ ‹_›
  case case18 => exact .write _ _ _ _ ‹_› ‹_›
  case case21 => exact .read _ _ _ ‹_› ‹_›
  case case24 => exact .destroy _ _ ‹_›
  -- the catch-all clauses of `copy` and `assign`
  case case8 d s _ | case10 d s _ => exact .skip _ (by cases hd : w.objs d <;> cases hs : w.objs s <;> simp_all [Op.valid])
  -- every other clause returns `w`: a look-up or an index guard failed
  all_goals exact .skip _ (by simp [Op.valid, *])

theorem step_frame {I : Impl σ α} {w : World σ} {op : Op α} {k : Nat} (hk : op.target ≠ k) :
    (step I w op).objs k = w.objs k := by
  have st := stepped I w op
  generalize step I w op = w' at st
  cases st with
  | skip | read => rfl
  | _ => exact if_neg (fun e => hk e.symm)

theorem run_frame {I : Impl σ α} {w : World σ} {h : List (Op α)} {k : Nat} (hk : ∀ op ∈ h, op.target ≠ k) :
    (run I w h).objs k = w.objs k := by
  induction h generalizing w with
  | nil => rfl
  | cons op h ih =>
    simp only [run]
    rw [ih (fun o ho => hk o (List.mem_cons_of_mem _ ho))]
    exact step_frame (hk op List.mem_cons_self)

/-- stated on the slot function `Nat → Option σ` (`World.objs`, `EWorld.objs`, the reference of `sstep`), so that both world
    types share it -/
theorem forall_put {P : Nat → σ → Prop} {f : Nat → Option σ} (h : ∀ k x, f k = some x → P k x) (k : Nat) {x : Option σ}
    (hx : ∀ y, x = some y → P k y) : ∀ j y, (if j = k then x else f j) = some y → P j y := by
  intro j y hy
  split at hy
  · exact ‹j = k› ▸ hx y hy
  · exact h j y hy

def ORel (R : σ → τ → Prop) : Option σ → Option τ → Prop
  | none, none => True
  | some x, some y => R x y
  | _, _ => False

def WRel (R : σ → τ → Prop) (w : World σ) (v : World τ) : Prop := ∀ k, ORel R (w.objs k) (v.objs k)

/-- a history all of whose operations satisfy `ok`, which may look at the reference-side state of the
    operation's target slot (before the operation) -/
def AllOk (J : Impl τ α) (ok : Option τ → Op α → Prop) : World τ → List (Op α) → Prop
  | _, [] => True
  | v, op :: h => ok (v.objs op.target) op ∧ AllOk J ok (step J v op) h

/-- per-operation simulation obligations between semantics `I` (implementation side) and `J` (reference side) -/
structure Sim (I : Impl σ α) (J : Impl τ α) (R : σ → τ → Prop) (ok : Option τ → Op α → Prop) : Prop where
  size_eq : ∀ x y, R x y → I.size x = J.size y
  mkDefault : ∀ s L M, ok none (.ctor s) → R (I.mkDefault L).1 (J.mkDefault M).1
  mkSized : ∀ s n L M, ok none (.ctorN s n) → R (I.mkSized n L).1 (J.mkSized n M).1
  mkVariadic : ∀ s vs L M, ok none (.ctorV s vs) → R (I.mkVariadic vs L).1 (J.mkVariadic vs M).1
  mkCopy : ∀ d s x y L M, ok none (.copy d s) → R x y → R (I.mkCopy x L).1 (J.mkCopy y M).1
  assign : ∀ d s x y x' y' L M, ok (some y) (.assign d s) → R x y → R x' y' →
    R (I.assign x x' L).1 (J.assign y y' M).1
  assignSelf : ∀ d x y L M, ok (some y) (.assign d d) → R x y → R (I.assignSelf x L).1 (J.assignSelf y M).1
  push : ∀ s a x y L M, ok (some y) (.push s a) → R x y → R (I.push x a L).1 (J.push y a M).1
  pushAt : ∀ s i x y L M, ok (some y) (.pushAt s i) → R x y → i < J.size y →
    R (I.pushAt x i L).1 (J.pushAt y i M).1
  resize : ∀ s n x y L M, ok (some y) (.resize s n) → R x y → R (I.resize x n L).1 (J.resize y n M).1
  write : ∀ s i a x y L M, ok (some y) (.write s i a) → R x y → i < J.size y →
    R (I.write x i a L).1 (J.write y i a M).1

theorem ORel.mono {R R' : σ → τ → Prop} (hR : ∀ x y, R x y → R' x y) {a : Option σ} {b : Option τ} (h : ORel R a b) :
    ORel R' a b := by
  cases a <;> cases b <;> first | exact h | exact hR _ _ h

theorem ORel.cases {R : σ → τ → Prop} {a : Option σ} {b : Option τ} (h : ORel R a b) :
    (a = none ∧ b = none) ∨ ∃ x y, a = some x ∧ b = some y ∧ R x y := by
  cases a <;> cases b <;> first | exact h.elim | exact Or.inl ⟨rfl, rfl⟩ | exact Or.inr ⟨_, _, rfl, rfl, h⟩

/-- `ORel.cases` as a case principle: `(h s).both … fun x y hxy => …` replaces both look-ups in the goal at once, so that there is no
    equation to rewrite with under the `match`es of two step functions: they need only be unfolded (`dsimp`) -/
@[elab_as_elim] theorem ORel.both {R : σ → τ → Prop} {P : Option σ → Option τ → Prop} {a : Option σ}
    {b : Option τ} (h : ORel R a b) (none : P none none) (some : ∀ x y, R x y → P (some x) (some y)) : P a b := by
  cases a <;> cases b <;> first | exact h.elim | exact none | exact some _ _ h

theorem WRel.none {R : σ → τ → Prop} {w : World σ} {v : World τ} (h : WRel R w v) {k : Nat} (hk : w.objs k = none) :
    v.objs k = none := by
  rcases (h k).cases with ⟨_, e⟩ | ⟨_, _, e, _⟩
  · exact e
  · rw [hk] at e; cases e

theorem WRel.some {R : σ → τ → Prop} {w : World σ} {v : World τ} (h : WRel R w v) {k : Nat} {x : σ}
    (hk : w.objs k = some x) : ∃ y, v.objs k = some y ∧ R x y := by
  rcases (h k).cases with ⟨e, _⟩ | ⟨_, y, e, hv, hr⟩ <;> rw [hk] at e <;> cases e
  exact ⟨y, hv, hr⟩

/-- on slot functions, like `forall_put` -/
theorem ORel.put {R : σ → τ → Prop} {f : Nat → Option σ} {g : Nat → Option τ} (h : ∀ k, ORel R (f k) (g k)) (k : Nat)
    {x : Option σ} {y : Option τ} (hxy : ORel R x y) : ∀ j, ORel R (if j = k then x else f j) (if j = k then y else g j) := by
  intro j
  split
  · exact hxy
  · exact h j

theorem wrel_put_some {R : σ → τ → Prop} {w : World σ} {v : World τ} (h : WRel R w v) (k : Nat)
    {x : σ} {y : τ} (hxy : R x y) (L M : Ledger) : WRel R (w.put k (some x) L) (v.put k (some y) M) :=
  ORel.put h k (x := some x) (y := some y) hxy

theorem ORel.isSome_eq {R : σ → τ → Prop} {a : Option σ} {b : Option τ} (h : ORel R a b) : a.isSome = b.isSome := by
  cases a <;> cases b <;> first | rfl | exact h.elim

theorem Op.valid_wrel {I : Impl σ α} {J : Impl τ α} {R : σ → τ → Prop} (hsz : ∀ x y, R x y → I.size x = J.size y)
    {w : World σ} {v : World τ} (h : WRel R w v) (op : Op α) : op.valid I w = op.valid J v := by
  have e := fun k => (h k).isSome_eq
  have g (s i : Nat) : (match w.objs s with | some x => decide (i < I.size x) | none => false)
      = (match v.objs s with | some y => decide (i < J.size y) | none => false) :=
    (h s).both rfl fun x y hr => by simp only [hsz x y hr]
  cases op <;> simp only [Op.valid, ← Option.not_isSome, e, g]

theorem step_invalid (I : Impl σ α) (w : World σ) (op : Op α) (h : op.valid I w = false) : step I w op = w := by
  have st := stepped I w op
  generalize step I w op = w' at st
  cases st <;> first | rfl | simp_all [Op.valid]

/-- related worlds take the same branch of `step`: the look-ups agree by `WRel`, the index guards by `size_eq` -/
theorem step_sim {I : Impl σ α} {J : Impl τ α} {R : σ → τ → Prop} {ok : Option τ → Op α → Prop}
    (S : Sim I J R ok) {w : World σ} {v : World τ} (h : WRel R w v) (op : Op α)
    (hok : ok (v.objs op.target) op) : WRel R (step I w op) (step J v op) := by
  have st := stepped I w op
  generalize step I w op = w' at st
  cases st with
  | skip _ hv => rw [step_invalid J v _ (Op.valid_wrel S.size_eq h _ ▸ hv)]; exact h
  | mkDefault s hs =>
    have hv := h.none hs
    simp only [step, hv]
    exact wrel_put_some h s (S.mkDefault s _ _ (hv ▸ hok)) _ _
  | mkSized s n hs =>
    have hv := h.none hs
    simp only [step, hv]
    exact wrel_put_some h s (S.mkSized s n _ _ (hv ▸ hok)) _ _
  | mkVariadic s vs hs =>
    have hv := h.none hs
    simp only [step, hv]
    exact wrel_put_some h s (S.mkVariadic s vs _ _ (hv ▸ hok)) _ _
  | mkCopy d s x hd hs =>
    have hvd := h.none hd
    obtain ⟨y, hvs, hr⟩ := h.some hs
    simp only [step, hvd, hvs]
    exact wrel_put_some h d (S.mkCopy d s _ _ _ _ (hvd ▸ hok) hr) _ _
  | assign d s x x' hds hd hs =>
    obtain ⟨y, hvd, hr⟩ := h.some hd
    obtain ⟨y', hvs, hr'⟩ := h.some hs
    simp only [step, hvd, hvs, hds, if_false]
    exact wrel_put_some h d (S.assign d s _ _ _ _ _ _ (hvd ▸ hok) hr hr') _ _
  | assignSelf d x hd =>
    obtain ⟨y, hvd, hr⟩ := h.some hd
    simp only [step, hvd, if_true]
    exact wrel_put_some h d (S.assignSelf d _ _ _ _ (hvd ▸ hok) hr) _ _
  | push s a x hs =>
    obtain ⟨y, hv, hr⟩ := h.some hs
    simp only [step, hv]
    exact wrel_put_some h s (S.push s a _ _ _ _ (hv ▸ hok) hr) _ _
  | pushAt s i x hs hi =>
    obtain ⟨y, hv, hr⟩ := h.some hs
    have hi' := S.size_eq _ _ hr ▸ hi
    simp only [step, hv, hi', if_true]
    exact wrel_put_some h s (S.pushAt s i _ _ _ _ (hv ▸ hok) hr hi') _ _
  | resize s n x hs =>
    obtain ⟨y, hv, hr⟩ := h.some hs
    simp only [step, hv]
    exact wrel_put_some h s (S.resize s n _ _ _ _ (hv ▸ hok) hr) _ _
  | write s i a x hs hi =>
    obtain ⟨y, hv, hr⟩ := h.some hs
    have hi' := S.size_eq _ _ hr ▸ hi
    simp only [step, hv, hi', if_true]
    exact wrel_put_some h s (S.write s i a _ _ _ _ (hv ▸ hok) hr hi') _ _
  | read s i x hs hi =>
    obtain ⟨y, hv, hr⟩ := h.some hs
    simp only [step, hv, S.size_eq _ _ hr ▸ hi, if_true]
    exact h
  | destroy s x hs =>
    obtain ⟨y, hv, _⟩ := h.some hs
    simp only [step, hv]
    exact ORel.put h s (x := none) (y := none) trivial

theorem run_sim {I : Impl σ α} {J : Impl τ α} {R : σ → τ → Prop} {ok : Option τ → Op α → Prop}
    (S : Sim I J R ok) (h : List (Op α)) {w : World σ} {v : World τ} (hr : WRel R w v)
    (hok : AllOk J ok v h) : WRel R (run I w h) (run J v h) := by
  induction h generalizing w v with
  | nil => exact hr
  | cons op h ih =>
    simp only [run]
    exact ih (step_sim S hr op hok.1) hok.2

theorem allOk_of_forall {J : Impl τ α} {ok : Option τ → Op α → Prop} {h : List (Op α)}
    (hh : ∀ op ∈ h, ∀ st, ok st op) {v : World τ} : AllOk J ok v h := by
  induction h generalizing v with
  | nil => trivial
  | cons op h ih =>
    exact ⟨hh op List.mem_cons_self _, ih (fun o ho => hh o (List.mem_cons_of_mem _ ho))⟩

theorem wrel_empty {R : σ → τ → Prop} : WRel R (World.empty : World σ) (World.empty : World τ) :=
  fun _ => trivial

/-- per-operation obligations for an object invariant `P` and a ledger invariant `Q` on histories whose
    operations satisfy `ok`.  No container kind is given a table of this record: the object invariants come with the relation of a
    `Sim`, "the ledger is handed back" is `LedFix` (LedgerSim), the ledger invariant of the kinds that use the heap is read
    off their `Table` (`step_linvp`, LedgerInv). -/
structure Pres (I : Impl σ α) (P : σ → Prop) (Q : Ledger → Prop) (ok : Op α → Prop) : Prop where
  mkDefault : ∀ s L, ok (.ctor s) → Q L → P (I.mkDefault L).1 ∧ Q (I.mkDefault L).2
  mkSized : ∀ s n L, ok (.ctorN s n) → Q L → P (I.mkSized n L).1 ∧ Q (I.mkSized n L).2
  mkVariadic : ∀ s vs L, ok (.ctorV s vs) → Q L → P (I.mkVariadic vs L).1 ∧ Q (I.mkVariadic vs L).2
  mkCopy : ∀ d s x L, ok (.copy d s) → P x → Q L → P (I.mkCopy x L).1 ∧ Q (I.mkCopy x L).2
  assign : ∀ d s x y L, ok (.assign d s) → P x → P y → Q L → P (I.assign x y L).1 ∧ Q (I.assign x y L).2
  assignSelf : ∀ d x L, ok (.assign d d) → P x → Q L → P (I.assignSelf x L).1 ∧ Q (I.assignSelf x L).2
  push : ∀ s a x L, ok (.push s a) → P x → Q L → P (I.push x a L).1 ∧ Q (I.push x a L).2
  pushAt : ∀ s i x L, ok (.pushAt s i) → P x → Q L → i < I.size x → P (I.pushAt x i L).1 ∧ Q (I.pushAt x i L).2
  resize : ∀ s n x L, ok (.resize s n) → P x → Q L → P (I.resize x n L).1 ∧ Q (I.resize x n L).2
  write : ∀ s i a x L, ok (.write s i a) → P x → Q L → i < I.size x → P (I.write x i a L).1 ∧ Q (I.write x i a L).2
  read : ∀ s i x L, ok (.read s i) → P x → Q L → i < I.size x → Q (I.read x i L).2
  destroy : ∀ s x L, ok (.destroy s) → P x → Q L → Q (I.destroy x L)

end NmVerif.Containers
