import NmVerif.Static
import NmVerif.StaticMore
import NmVerif.StaticGen
import NmVerif.Lemmas.ListBasics
import NmVerif.Lemmas.LeAll
/-
  C11, the abstract domains: what `γ` of a shape kind says through the projections the transfer functions read
  (`cvalue`, `isConst`, `constv?`, `lenK`, `len?`), the rank kinds `LenK` (their concretisation `LenK.γ` is defined HERE, not
  in the model) and their arithmetic, the size rules, and the combinators "exact on a constant shape, a bound on a clipped
  one" (`like_map_sound`, `constOrClipped_sound`).
-/
namespace NmVerif.Static
open NmVerif

theorem cvalue_le {A : ShapeK} {a va : Shape} (hA : A.γ a) (hc : A.cvalue = some va) : LeAll a va := by
  cases A with
  | const _ => exact Option.some.inj hc ▸ hA ▸ LeAll.refl _
  | clipped _ => exact Option.some.inj hc ▸ hA
  | _ => cases hc

theorem isConst_eq {A : ShapeK} {a va : Shape} (hA : A.γ a) (hc : A.cvalue = some va) (hi : A.isConst = true) : a = va := by
  cases A with
  | const _ => exact hA.trans (Option.some.inj hc)
  | _ => cases hi

theorem constv?_eq {A : ShapeK} {a va : Shape} (hA : A.γ a) (hc : A.constv? = some va) : a = va := by
  cases A with
  | const _ => exact hA.trans (Option.some.inj hc)
  | _ => cases hc

def LenK.γ : LenK → Nat → Prop
  | .fixed n, m => m = n
  | .bounded n, m => m ≤ n
  | .dyn, _ => True

theorem lenK_sound {k : ShapeK} {s : Shape} (h : k.γ s) : k.lenK.γ s.length := by
  cases k with
  | const _ => exact congrArg List.length h
  | clipped _ => exact LeAll.length_eq h
  | fixedDim _ | boundedDim _ => exact h
  | dyn => trivial

theorem len?_sound {V : ShapeK} {s : Shape} {m : Nat} (hv : V.γ s) (hl : V.len? = some m) : s.length = m := by
  cases V with
  | const _ => exact hv ▸ Option.some.inj hl
  | clipped _ => exact (LeAll.length_eq hv).trans (Option.some.inj hl)
  | fixedDim _ => exact hv.trans (Option.some.inj hl)
  | _ => cases hl

theorem toShapeK_of_lenK {k : LenK} {t : Shape} (h : k.γ t.length) : k.toShapeK.γ t := by
  cases k <;> exact h

theorem lenK_toShapeK_of_length_eq {k : ShapeK} {s t : Shape} (hk : k.γ s) (hl : t.length = s.length) : k.lenK.toShapeK.γ t :=
  toShapeK_of_lenK (hl ▸ lenK_sound hk)

theorem arrK_toShapeK_sound {k : ArrK} {v : List Nat} (h : k.γ v) : k.toShapeK.γ v := by
  cases k <;> exact h

theorem ArrK.toShapeK_lenK (k : ArrK) : k.toShapeK.lenK = k.lenK := by cases k <;> rfl

theorem arrK_lenK_sound {k : ArrK} {v : List Nat} (h : k.γ v) : k.lenK.γ v.length :=
  k.toShapeK_lenK ▸ lenK_sound (arrK_toShapeK_sound h)

theorem ArrK.toShapeK_cvalue (k : ArrK) : k.toShapeK.cvalue = k.cvalue := by cases k <;> rfl

theorem ArrK.toShapeK_isConst (k : ArrK) : k.toShapeK.isConst = k.isCt := by cases k <;> rfl

theorem AxisK.count_eq {k : AxisK} {axes : List Nat} (hk : k.γ axes) : k.count = some axes.length := by
  cases k with
  | none => exact hk.elim
  | cts _ | ctt _ => cases hk; rfl
  | rts | rt _ => exact congrArg some (Eq.symm hk)

theorem AxisK.static?_eq {k : AxisK} {axes a : List Nat} (hk : k.γ axes) (hs : k.static? = some a) : a = axes := by
  cases k with
  | cts _ | ctt _ => exact (Option.some.inj hs).symm.trans hk.symm
  | _ => cases hs

theorem AxisK.staticAxis?_eq {k : AxisK} {axis ax : Option Nat} (hk : k.γ1 axis) (hs : k.staticAxis? = some ax) : ax = axis := by
  revert hs
  fun_cases AxisK.staticAxis? k with
  | case1 | case2 => rintro ⟨⟩; exact Eq.symm hk
  | case3 => exact nofun

theorem WinK.static?_eq {w : WinK} {wv wv' : WinV} (h : w.γ wv) (hs : w.static? = some wv') : wv' = wv := by
  revert h hs
  fun_cases WinK.γ w wv with
  | case1 k =>
    intro h hs
    cases k with
    | ct c => cases hs; exact congrArg WinV.num (Eq.symm h)
    | rt => cases hs
  | case2 k =>
    intro h hs
    cases k with
    | ct c => cases hs; exact congrArg WinV.arr (Eq.symm h)
    | _ => cases hs
  | case3 => exact False.elim

theorem tileLenK_sound {a b : LenK} {n m : Nat} (ha : a.γ n) (hb : b.γ m) : (tileLenK a b).γ (max n m) := by
  fun_cases tileLenK a b with
  | case1 => rw [ha, hb]; rfl
  | case2 => exact Nat.max_le_max (Nat.le_of_eq ha) hb
  | case3 => exact Nat.max_le_max ha (Nat.le_of_eq hb)
  | case4 => exact Nat.max_le_max ha hb
  | case5 => trivial

/-- `broadcast_shape_t` on two run-time shape types computes the rank kind `shape_tile_t` does -/
theorem bcastLenK_eq (a b : LenK) : bcastLenK a b = (tileLenK a b).toShapeK := by
  cases a <;> cases b <;> first | rfl | exact congrArg ShapeK.boundedDim (Nat.max_comm _ _)

theorem bcastLenK_sound {la lb : LenK} {n m : Nat} {t : Shape} (ha : la.γ n) (hb : lb.γ m) (ht : t.length = max n m) :
    (bcastLenK la lb).γ t :=
  bcastLenK_eq la lb ▸ toShapeK_of_lenK (ht ▸ tileLenK_sound ha hb)

theorem lenK_plus_sound {a b : LenK} {n m : Nat} (ha : a.γ n) (hb : b.γ m) : (a.plus b).γ (n + m) := by
  fun_cases LenK.plus a b with
  | case1 => rw [ha, hb]; rfl
  | case2 => exact Nat.add_le_add (Nat.le_of_eq ha) hb
  | case3 => exact Nat.add_le_add ha (Nat.le_of_eq hb)
  | case4 => exact Nat.add_le_add ha hb
  | case5 => trivial

theorem lenK_add_sound {k : LenK} {n : Nat} (m : Nat) (h : k.γ n) : (k.add m).γ (n + m) := by
  cases k with
  | fixed a => exact congrArg (· + m) h
  | bounded a => exact Nat.add_le_add_right h m
  | dyn => trivial

theorem lenK_sub_sound {k k' : LenK} {n m r : Nat} (h : k.γ n) (hs : k.sub m = some k') (hr : r + m = n) : k'.γ r := by
  cases k with
  | dyn => cases hs; trivial
  | fixed a =>
    cases (Option.ite_none_right_eq_some.mp hs).2
    exact Nat.eq_sub_of_add_eq (hr.trans h)
  | bounded a =>
    cases (Option.ite_none_right_eq_some.mp hs).2
    exact Nat.le_sub_of_add_le (hr ▸ h)

theorem productK_sound {d : ShapeK} {t : Shape} (h : d.γ t) : (productK d).γ (prod t) := by
  cases d with
  | const _ => exact congrArg prod h
  | clipped _ => exact LeAll.prod_le h
  | _ => trivial

theorem seen_sound {i : SInfo} {s : Shape} (h : i.γ s) : i.seen.γ s := by
  obtain ⟨shape, size⟩ := i
  obtain ⟨hs, hz⟩ := h
  refine ⟨hs, ?_⟩
  cases size with
  | known n | atMost n => exact hz
  | knownB n b => exact hz.1
  | any =>
    cases shape with
    | const l => exact Nat.le_of_eq (congrArg prod hs)
    | clipped b => exact LeAll.prod_le hs
    | _ => trivial

theorem indexingInfo_sound {d : ShapeK} {z : SizeK} {t : Shape} (hd : d.γ t) (hz : z.γ (prod t)) :
    (indexingInfo d z).γ t := by
  refine ⟨hd, ?_⟩
  cases z with
  | known n => exact hz
  | atMost n =>
    cases d with
    | const l => exact congrArg prod hd
    | _ => exact hz
  | _ => cases d <;> exact productK_sound hd

theorem indexing_product_sound {d : ShapeK} {t : Shape} (hd : d.γ t) : (indexingInfo d (productK d)).γ t :=
  indexingInfo_sound hd (productK_sound hd)

/-- a transfer function `(XShapeK …).map F`: a sound shape kind under a sound size rule -/
theorem map_sound {D : Option ShapeK} {F : ShapeK → SInfo} {o : SInfo} {t : Shape} (ho : D.map F = some o)
    (hD : ∀ {d}, D = some d → d.γ t) (hF : ∀ {d}, d.γ t → (F d).γ t) : o.γ t := by
  obtain ⟨d, hd, rfl⟩ := Option.map_eq_some_iff.mp ho
  exact hF (hD hd)

theorem ufuncInfo_sound {k : ShapeK} {z : SizeK} {t : Shape} (hk : k.γ t) (hz : z.γ (prod t)) : (ufuncInfo k z).γ t := by
  refine ⟨hk, ?_⟩
  cases k with
  | const _ | clipped _ => exact productK_sound hk
  | _ => exact hz

theorem takeInfo_sound {d : ShapeK} {t : Shape} (hd : d.γ t) : (takeInfo d).γ t := by
  refine ⟨hd, ?_⟩
  cases d with
  | const l => exact congrArg prod hd
  | _ => trivial

theorem bound?_sound {z : SizeK} {m n : Nat} (h : z.γ m) (hb : z.bound? = some n) : m ≤ n := by
  cases z with
  | known _ => exact Option.some.inj hb ▸ Nat.le_of_eq h
  | atMost _ => exact Option.some.inj hb ▸ h
  | knownB _ _ => exact Option.some.inj hb ▸ h.2
  | any => cases hb

theorem fixed?_sound {z : SizeK} {m n : Nat} (h : z.γ m) (hb : z.fixed? = some n) : m = n := by
  cases z with
  | known _ => exact Option.some.inj hb ▸ h
  | knownB _ _ => exact Option.some.inj hb ▸ h.1
  | _ => cases hb

theorem SizeK.static?_sound {z : SizeK} {m n : Nat} {c : Bool} (h : z.γ m) (hs : z.static? = some (n, c)) :
    m ≤ n ∧ (c = true → m = n) := by
  cases z <;> cases hs
  · exact ⟨Nat.le_of_eq h, fun _ => h⟩
  · exact ⟨h, fun hc => nomatch hc⟩
  · exact ⟨Nat.le_of_eq h.1, fun _ => h.1⟩

theorem boundedSize_eq (i : SInfo) : i.boundedSize = i.size.bound? := by
  obtain ⟨_, sz⟩ := i; cases sz <;> rfl

theorem bsz_sound {i : SInfo} {s : Shape} {n : Nat} (h : i.γ s) (hb : i.bsz = some n) : prod s ≤ n := by
  unfold SInfo.bsz at hb
  split at hb
  · rename_i hm
    cases hb; exact bound?_sound h.2 ((boundedSize_eq i).symm.trans hm)
  · have h1 := h.1
    generalize i.shape = sh at hb h1
    split at hb <;> cases hb
    exact Nat.le_of_eq (congrArg prod h1)

theorem sumSizeK_sound {a b : SizeK} {m n : Nat} (ha : a.γ m) (hb : b.γ n) : (sumSizeK a b).γ (m + n) := by
  unfold sumSizeK
  split
  · rename_i hx hy
    rw [fixed?_sound ha hx, fixed?_sound hb hy]; rfl
  · split
    · rename_i hx hy
      exact Nat.add_le_add (bound?_sound ha hx) (bound?_sound hb hy)
    · trivial

theorem compressInfo_sound {own : SizeK} {d : ShapeK} {s t : Shape} (hd : d.γ t) (hown : own.γ (prod s))
    (hp : prod t ≤ prod s) : (compressInfo own d).γ t := by
  refine ⟨hd, ?_⟩
  cases d with
  | const l => exact congrArg prod hd
  | _ =>
    show SizeK.γ (match own.bound? with | some n => .atMost n | none => .any) _
    split
    · exact Nat.le_trans hp (bound?_sound hown ‹_›)
    · trivial

/-- `reduce_t` (reduce.hpp:542-566) and `compress_t` (view/compress.hpp:74-106) size their result alike -/
theorem reduceInfo_eq : reduceInfo = compressInfo := by
  funext own d; cases own <;> rfl

theorem accumulateInfo_sound {a : SInfo} {own : SizeK} {s : Shape} (ha : a.γ s) (hown : own.γ (prod s)) :
    (accumulateInfo a own).γ s := by
  -- where neither the size nor a constant shape decides, the operand's own bound does, as for `reduce_t`
  have hb : (reduceInfo own .dyn).γ s := reduceInfo_eq ▸ compressInfo_sound trivial hown (Nat.le_refl _)
  obtain ⟨sh, sz⟩ := a
  refine ⟨ha.1, ?_⟩
  cases sz with
  | known n => exact ha.2
  | _ =>
    cases sh with
    | const l => exact Nat.le_of_eq (congrArg prod ha.1)
    | _ => exact hb.2

theorem whereInfo_sound {B : ShapeK} {o : SizeK} {t : Shape} (hB : B.γ t) (ho : o.γ (prod t)) : (whereInfo B o).γ t := by
  refine ⟨hB, ?_⟩
  cases B with
  | const l => exact congrArg prod hB
  | _ => cases o <;> first | exact ho | trivial

theorem constOrClipped_sound {A B : ShapeK} {a va b vb t r r' : Shape} (hA : A.γ a) (hB : B.γ b)
    (hca : A.cvalue = some va) (hcb : B.cvalue = some vb)
    (exact : a = va → b = vb → t = r) (bound : LeAll a va → LeAll b vb → LeAll t r') :
    (if A.isConst && B.isConst then ShapeK.const r else .clipped r').γ t := by
  split
  · rename_i hcc
    simp only [Bool.and_eq_true] at hcc
    exact exact (isConst_eq hA hca hcc.1) (isConst_eq hB hcb hcc.2)
  · exact bound (cvalue_le hA hca) (cvalue_le hB hcb)

/-- a shape function on the static values, monotone at `s`: exact on a constant shape, a bound on a clipped one -/
theorem like_map_sound {f : Shape → Option Shape} {sh d : ShapeK} {s v t : Shape}
    (hsh : sh.γ s) (hc : sh.cvalue = some v) (href : f s = some t)
    (mono : ∀ {t' : Shape}, LeAll s v → f v = some t' → LeAll t t') (hd : (f v).map sh.like = some d) : d.γ t := by
  obtain ⟨t', ht', rfl⟩ := Option.map_eq_some_iff.mp hd
  unfold ShapeK.like
  split
  · cases isConst_eq hsh hc ‹_›
    exact Option.some.inj (href.symm.trans ht')
  · exact mono (cvalue_le hsh hc) ht'

end NmVerif.Static
