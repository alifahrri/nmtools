import NmVerif.Index.MatmulBroadcast
import NmVerif.Lemmas.ListBasics
import NmVerif.Lemmas.BcLoop
/-
  `broadcast_shape` of Index/MatmulBroadcast: the pair rule `bc1` (also the step of NN's `bshapeRev`: `NN.bshapeRev_eq`),
  `broadcastShape` as an instance of the shared loop (Lemmas/BcLoop), its equations on `a ++ [x]`, `x ++ C`, `a ++ 1…1`.
  The operand-index half (`bcIdx`) needs the `InShape` splittings and stands in Lemmas/LinalgList.
-/
namespace NmVerif
open NmVerif.MB

theorem bc1_self (x : Nat) : bc1 x x = some x := by simp [bc1]
theorem bc1_one_right {x : Nat} (h : 0 < x) : bc1 x 1 = some x := by
  simp [bc1]; omega
theorem bc1_comm (x y : Nat) : bc1 x y = bc1 y x := by
  simp only [bc1, Nat.max_comm, eq_comm, or_comm]
theorem bc1_one_left {x : Nat} (h : 0 < x) : bc1 1 x = some x := (bc1_comm 1 x).trans (bc1_one_right h)

theorem MB.bcRev_eq_loop : bcRev = bcLoop bc1 :=
  eq_bcLoop (fun _ => rfl) (fun _ _ => rfl) fun x xs y ys => by rw [bcRev]; cases bc1 x y <;> rfl

theorem MB.broadcastShape_eq : broadcastShape = bcShape bc1 := by
  funext a b; rw [broadcastShape, MB.bcRev_eq_loop]; rfl

theorem broadcastShape_comm (a b : Shape) : broadcastShape a b = broadcastShape b a := by
  rw [MB.broadcastShape_eq]; exact bcShape_comm bc1_comm a b

@[simp] theorem broadcastShape_nil_left (b : Shape) : broadcastShape [] b = some b :=
  MB.broadcastShape_eq ▸ bcShape_nil_left b
@[simp] theorem broadcastShape_nil_right (a : Shape) : broadcastShape a [] = some a :=
  MB.broadcastShape_eq ▸ bcShape_nil_right a

theorem broadcastShape_append_one (a b : Shape) (x y : Nat) :
    broadcastShape (a ++ [x]) (b ++ [y]) =
      match bc1 x y with
      | none => none
      | some m => (broadcastShape a b).map (· ++ [m]) := by
  simp only [broadcastShape, List.reverse_append, List.reverse_cons, List.reverse_nil, List.nil_append,
    List.singleton_append, bcRev]
  cases bc1 x y with
  | none => rfl
  | some m => cases bcRev a.reverse b.reverse <;> simp

theorem broadcastShape_snoc {a b r : Shape} {x y z : Nat} (h : broadcastShape a b = some r) (hz : bc1 x y = some z) :
    broadcastShape (a ++ [x]) (b ++ [y]) = some (r ++ [z]) := by
  rw [broadcastShape_append_one, hz, h]; rfl

theorem broadcastShape_length {a b c : Shape} (h : broadcastShape a b = some c) :
    c.length = max a.length b.length :=
  bcShape_length (MB.broadcastShape_eq ▸ h)

theorem broadcastShape_append_same (x y C : Shape) :
    broadcastShape (x ++ C) (y ++ C) = (broadcastShape x y).map (· ++ C) := by
  generalize hC : C.length = n
  induction n generalizing C with
  | zero => have : C = [] := List.length_eq_zero_iff.1 hC; subst this; simp
  | succ n ih =>
    obtain ⟨C', z, rfl⟩ := List.exists_snoc C (by omega)
    rw [← List.append_assoc, ← List.append_assoc, broadcastShape_append_one, bc1_self]
    simp only
    rw [ih C' (by simpa using hC)]
    cases broadcastShape x y <;> simp

theorem broadcastShape_ones_right (a : List Nat) {b : List Nat} (hp : Pos b) :
    broadcastShape (a ++ List.replicate b.length 1) b = some (a ++ b) := by
  generalize hb : b.length = n
  induction n generalizing b with
  | zero => have : b = [] := List.length_eq_zero_iff.1 hb; subst this; simp
  | succ n ih =>
    obtain ⟨b', y, rfl⟩ := List.exists_snoc b (by omega)
    have hp' := Shape.pos_append.1 hp
    rw [List.replicate_succ', ← List.append_assoc, broadcastShape_append_one, bc1_one_left (hp'.2 y (by simp))]
    simp only
    rw [ih hp'.1 (by simpa using hb)]
    simp

end NmVerif
