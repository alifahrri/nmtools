import NmVerif.Lemmas.Broadcast
/-
  The part of C06 that the element-wise functions (C07), `where` (C04), the checked views (C15) and the NN routines (C17) build on:
  the NumPy rule for a family of shapes and for a pair, `broadcast_to` (when it succeeds, its shape, element rule, in-bounds),
  `broadcast_arrays`.  Statements on shapes; the reversed-list lemmas they rest on are in Lemmas/Broadcast.
-/
namespace NmVerif.Props.C06
open NmVerif

def AllPos (ss : List Shape) : Prop := ∀ s ∈ ss, Pos s

instance (ss : List Shape) : Decidable (AllPos ss) := by unfold AllPos; exact inferInstance

private theorem allCompat_iff (ss : List Shape) :
    (∀ k, AllCompat ((ss.map List.reverse).map (gd · k))) ↔ Compatible ss := by
  simp only [AllCompat, Compatible, compat, List.map_map, List.mem_map, Function.comp_def, forall_exists_index, and_imp,
    forall_apply_eq_imp_iff₂, ← axR_eq_gd]

theorem isAxisMax_iff (r : Shape) (ss : List Shape) :
    IsAxisMax r ss ↔ IsMaxOf r.reverse.length ((ss.map List.reverse).map List.length) ∧
      ∀ k, IsMaxOf (gd r.reverse k) ((ss.map List.reverse).map (gd · k)) := by
  simp only [IsAxisMax, IsMaxOf, forall_and, List.map_map, List.mem_map, Function.comp_def, List.length_reverse,
    forall_exists_index, and_imp, forall_apply_eq_imp_iff₂, ← axR_eq_gd, @eq_comm _ r.length, @eq_comm _ (axR r _)]
  exact ⟨fun ⟨h1, h2, h4, h5⟩ => ⟨⟨h1, h2⟩, h4, h5⟩, fun ⟨⟨h1, h2⟩, h4, h5⟩ => ⟨h1, h2, h4, h5⟩⟩

private theorem famSpec_iff (r : Shape) (ss : List Shape) :
    FamSpec r.reverse (ss.map List.reverse) ↔ Compatible ss ∧ IsAxisMax r ss := by
  rw [← allCompat_iff, isAxisMax_iff]
  simp only [FamSpec, forall_and]
  exact and_left_comm

/-- the per-axis maximum is unique: `IsAxisMax` determines the result -/
theorem isAxisMax_unique (ss : List Shape) (r r' : Shape) (h : IsAxisMax r ss) (h' : IsAxisMax r' ss) : r = r' := by
  obtain ⟨hl, hk⟩ := (isAxisMax_iff r ss).1 h
  obtain ⟨hl', hk'⟩ := (isAxisMax_iff r' ss).1 h'
  exact List.reverse_inj.1 (ext_gd (hl.unique hl') fun k => (hk k).unique (hk' k))

theorem broadcast_cases (ss : List Shape) (hne : ss ≠ []) (hp : AllPos ss) :
    match broadcastShape ss with
    | some r => Pos r ∧ Compatible ss ∧ IsAxisMax r ss
    | none => ¬ Compatible ss := by
  cases ss with
  | nil => exact absurd rfl hne
  | cons a rest =>
    have := broadcastFold_cases a rest (hp a List.mem_cons_self) (fun s hs => hp s (List.mem_cons_of_mem _ hs))
    rw [broadcastShape]
    generalize broadcastFold (some a) rest = o at this ⊢
    cases o with
    | some r => exact ⟨this.1, (famSpec_iff r _).1 this.2⟩
    | none => exact fun hc => this ((allCompat_iff _).2 hc)

/-- **the rule**: broadcasting a non-empty family of positive shapes gives `r` exactly when the family is
    NumPy-compatible and `r` is the per-axis maximum (rank = largest rank) -/
theorem broadcast_eq_some_iff (ss : List Shape) (hne : ss ≠ []) (hp : AllPos ss) (r : Shape) :
    broadcastShape ss = some r ↔ Compatible ss ∧ IsAxisMax r ss := by
  have := broadcast_cases ss hne hp
  generalize broadcastShape ss = o at this ⊢
  cases o with
  | some r' => exact ⟨fun h => Option.some.inj h ▸ this.2, fun h => congrArg some (isAxisMax_unique ss r' r this.2.2 h.2)⟩
  | none => exact ⟨nofun, fun h => absurd h.1 this⟩

/-- a non-empty family of positive shapes is accepted exactly when, aligned at the trailing axis, all extents per axis are
    equal or 1 -/
theorem broadcast_isSome_iff_compatible (ss : List Shape) (hne : ss ≠ []) (hp : AllPos ss) :
    (broadcastShape ss).isSome ↔ Compatible ss := by
  have := broadcast_cases ss hne hp
  generalize broadcastShape ss = o at this ⊢
  cases o with
  | some r => exact ⟨fun _ => this.2.1, fun _ => rfl⟩
  | none => exact ⟨nofun, fun h => absurd h this⟩

/-- … and then yields the per-axis maximum -/
theorem broadcast_eq_max (ss : List Shape) (hne : ss ≠ []) (hp : AllPos ss) (r : Shape)
    (h : broadcastShape ss = some r) : IsAxisMax r ss :=
  ((broadcast_eq_some_iff ss hne hp r).1 h).2

theorem broadcast_pos (ss : List Shape) (hne : ss ≠ []) (hp : AllPos ss) (r : Shape)
    (h : broadcastShape ss = some r) : Pos r := by
  have := broadcast_cases ss hne hp
  rw [h] at this
  exact this.1

/-- the two-operand entry point is the fold on two shapes -/
theorem broadcast_pair (a b : Shape) : broadcastShape [a, b] = broadcastShape2 a b := rfl

/-- the rule for two positive shapes -/
theorem broadcast2_eq_some_iff (a b : Shape) (ha : Pos a) (hb : Pos b) (r : Shape) :
    broadcastShape2 a b = some r ↔ Compatible [a, b] ∧ IsAxisMax r [a, b] := by
  rw [← broadcast_pair]
  exact broadcast_eq_some_iff [a, b] (by simp) (by intro s hs; simp at hs; rcases hs with rfl | rfl <;> assumption) r

theorem broadcast_idem (a : Shape) : broadcastShape2 a a = some a :=
  broadcastShape2_eq_some.2 (bcRev_self _)

/-- `view::broadcast_to` succeeds exactly when NumPy allows the broadcast (rank not larger, every aligned
    source extent equal to the target's or 1) -/
theorem broadcastTo_isSome_iff (src dst : Shape) :
    (broadcastToView src dst).isSome ↔ BroadcastableTo src dst := by
  unfold broadcastToView
  rw [Option.isSome_map]
  exact shapeBroadcastTo_isSome_iff src dst

/-- the reported shape is the requested one -/
theorem broadcastTo_shape (src dst : Shape) (v : IxView) (h : broadcastToView src dst = some v) :
    v.src = src ∧ v.dst = dst := by
  obtain ⟨r, _, rfl⟩ := Option.map_eq_some_iff.1 h
  exact ⟨rfl, rfl⟩

theorem broadcastTo_index_spec (src dst : Shape) (v : IxView) (h : broadcastToView src dst = some v)
    (d : Idx) (hd : InShape d dst) :
    v.map d = some (specBroadcastIdx src d) ∧ InShape (specBroadcastIdx src d) src := by
  obtain ⟨⟨sh, free⟩, hsb, rfl⟩ := Option.map_eq_some_iff.1 h
  exact broadcastToIndex_spec hsb hd

/-- **element rule**: the view reads, at an in-shape destination index `d`, the source element at `d` with the prepended
    axes dropped and 0 on the stretched axes (the offset-over-origin-axes computation of `index::broadcast_to`
    agrees with NumPy's rule) -/
theorem broadcastTo_index_eq_spec (src dst : Shape) (v : IxView) (h : broadcastToView src dst = some v)
    (d : Idx) (hd : InShape d dst) : v.map d = some (specBroadcastIdx src d) :=
  (broadcastTo_index_spec src dst v h d hd).1

/-- every access of a broadcast view stays inside the source shape (feeds C02) -/
theorem broadcastTo_inBounds (src dst : Shape) (v : IxView) (h : broadcastToView src dst = some v) : v.InBounds := by
  obtain ⟨hs, hdst⟩ := broadcastTo_shape src dst v h
  intro d hd i hi
  obtain ⟨e, hin⟩ := broadcastTo_index_spec src dst v h d (hdst ▸ hd)
  cases e.symm.trans hi
  exact hs ▸ hin

private theorem broadcastable_of_max {ss : List Shape} {r : Shape} (hp : AllPos ss) (hc : Compatible ss)
    (hm : IsAxisMax r ss) (s : Shape) (hs : s ∈ ss) : BroadcastableTo s r := by
  obtain ⟨_, hle, hk⟩ := hm
  refine ⟨hle s hs, fun k _ => ?_⟩
  obtain ⟨⟨t, ht, e⟩, hmax⟩ := hk k
  have c := hc k s hs t ht
  have m := hmax s hs
  have p := gd_pos (hp s hs).reverse k
  rw [← axR_eq_gd] at p
  rw [e]; omega

/-- `broadcast_arrays` of a non-empty family of positive shapes is `Nothing` exactly when the shapes are incompatible
    (after a successful `broadcast_shape` no `broadcast_to` of an operand can fail) -/
theorem broadcastArrays_isSome_iff (ss : List Shape) (hne : ss ≠ []) (hp : AllPos ss) :
    (broadcastArraysViews ss).isSome ↔ Compatible ss := by
  rw [← broadcast_isSome_iff_compatible ss hne hp]
  unfold broadcastArraysViews
  cases hr : broadcastShape ss with
  | none => simp
  | some r =>
    obtain ⟨hc, hm⟩ := (broadcast_eq_some_iff ss hne hp r).1 hr
    simp only [Option.bind_some, Option.isSome_some, iff_true]
    exact Option.isSome_iff_exists.2 (List.exists_mapM_of_isSome fun s hs =>
      (broadcastTo_isSome_iff s r).2 (broadcastable_of_max hp hc hm s hs))

theorem broadcastArrays_length {ss : List Shape} {vs : List IxView} (h : broadcastArraysViews ss = some vs) :
    vs.length = ss.length := by
  obtain ⟨r, _, hvs⟩ := Option.bind_eq_some_iff.1 h
  exact List.length_of_mapM_eq_some hvs

/-- every result of `broadcast_arrays` has the common broadcast shape and reads operand `k` by the element rule
    (`ss.zip vs` pairs operand shape `k` with result view `k`) -/
theorem broadcastArrays_elem (ss : List Shape) (vs : List IxView) (h : broadcastArraysViews ss = some vs) :
    ∃ r, broadcastShape ss = some r ∧ vs.length = ss.length ∧
      ∀ p ∈ ss.zip vs, p.2.src = p.1 ∧ p.2.dst = r ∧
        ∀ d, InShape d r → p.2.map d = some (specBroadcastIdx p.1 d) := by
  obtain ⟨r, hr, hvs⟩ := Option.bind_eq_some_iff.1 h
  refine ⟨r, hr, List.length_of_mapM_eq_some hvs, fun p hp => ?_⟩
  have hv := List.mapM_eq_some_zip hvs p hp
  exact ⟨(broadcastTo_shape p.1 r p.2 hv).1, (broadcastTo_shape p.1 r p.2 hv).2, broadcastTo_index_eq_spec p.1 r p.2 hv⟩

end NmVerif.Props.C06
