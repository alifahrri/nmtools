import NmVerif.Index.Checked
import NmVerif.Lemmas.Rearrange
/-
  `normalize_axis` and `shape_reshape` as C15 mirrors them (Index/Checked.lean, integer arithmetic on the raw arguments)
  are the value models of C03 — `shape_reshape` on every non-empty target.
-/
namespace NmVerif.Checked
open NmVerif

theorem normalizeAxis_eq_model (ndim : Nat) (a : Int) : Checked.normalizeAxis ndim a = NmVerif.normalizeAxis ndim a := by
  simp only [Checked.normalizeAxis, NmVerif.normalizeAxis, Int.add_comm]

theorem countMinusOne_eq_cntNeg (dst : List Int) : countMinusOne dst = cntNeg dst := by
  induction dst with
  | nil => rfl
  | cons d dst ih => rw [countMinusOne, ih, cntNeg_cons]

theorem prodOthers_eq_prodNonNeg (dst : List Int) (h : ∀ d ∈ dst, d = -1 ∨ 0 < d) :
    prodOthers dst = (prodNonNeg dst : Int) := by
  induction dst with
  | nil => rfl
  | cons d dst ih =>
    have ih := ih (fun x hx => h x (List.mem_cons_of_mem _ hx))
    rw [prodOthers, prodNonNeg_cons, ih]
    by_cases hd : d = -1
    · rw [if_pos hd, if_pos hd, Nat.one_mul]
    · rw [if_neg hd, if_neg hd, Int.natCast_mul,
        Int.toNat_of_nonneg (Int.le_of_lt ((h d List.mem_cons_self).resolve_left hd))]

theorem prodNonNeg_pos (dst : List Int) (h : ∀ d ∈ dst, d = -1 ∨ 0 < d) : 0 < prodNonNeg dst :=
  prod_pos fun x hx => by
    obtain ⟨d, hd, rfl⟩ := List.mem_map.1 hx
    obtain ⟨hd, hne⟩ := List.mem_filter.1 hd
    rcases h d hd with e | e
    · exact absurd e (of_decide_eq_true hne)
    · exact Int.pos_iff_toNat_pos.1 e

theorem dstNumel_eq (dst : List Int) (hne : dst ≠ []) (h : ∀ d ∈ dst, d = -1 ∨ 0 < d) :
    dstNumel dst = prodNonNeg dst := by
  rw [dstNumel, if_neg (mt List.isEmpty_iff.1 hne), prodOthers_eq_prodNonNeg dst h, Int.toNat_natCast]

theorem extentCheck_eq (dst : List Int) :
    dst.any (fun d => decide (d ≠ -1 ∧ d ≤ 0)) = dst.any (fun d => d != -1 && d ≤ 0) := by
  congr 1; funext d; simp [bne, BEq.beq, Bool.decide_and]

theorem shapeReshape_eq_model (src : Shape) (dst : List Int) (hne : dst ≠ []) :
    Checked.shapeReshape src dst = NmVerif.shapeReshape src dst := by
  simp only [Checked.shapeReshape, NmVerif.shapeReshape, countNegativeReshape_eq, countMinusOne_eq_cntNeg, extentCheck_eq]
  -- the first two guards are shared; past them the extents are valid, so `dstNumel` is the model's product and is not 0
  refine ite_congr rfl (fun _ => rfl) fun _ => ite_congr rfl (fun _ => rfl) fun h2 => ?_
  have hv := (extentCheck_eq_false_iff dst).1 (Bool.eq_false_iff.2 h2)
  rw [dstNumel_eq dst hne hv, if_neg (Nat.ne_of_gt (prodNonNeg_pos dst hv))]

end NmVerif.Checked
