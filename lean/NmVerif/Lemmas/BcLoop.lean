import NmVerif.Lemmas.LeL
/-
  The loop of `broadcast_shape` on reversed shapes is written down once per model that needs it; the copies differ only
  in the step on one aligned pair of extents (the library's maximum, or NumPy's "the extent that is not 1").
  `bcLoop f` is the loop with that step as a parameter and `bcShape f` the same on shapes: the inductions over the two
  lists are done here, with the fact about ONE pair of extents as hypothesis.  A model's copy is identified with
  `bcLoop` of its step by its three equations (`eq_bcLoop`).  Core Lean only.
-/
namespace NmVerif

/-- right-aligned combination of two reversed shapes: `f` on every aligned pair, the surplus of the longer operand
    copied, `none` as soon as `f` refuses -/
def bcLoop (f : Nat → Nat → Option Nat) : List Nat → List Nat → Option (List Nat)
  | [], bs => some bs
  | a :: as, [] => some (a :: as)
  | a :: as, b :: bs => (f a b).bind fun z => (bcLoop f as bs).map (z :: ·)

variable {f : Nat → Nat → Option Nat}

theorem eq_bcLoop {L : List Nat → List Nat → Option (List Nat)} (hl : ∀ b, L [] b = some b)
    (hr : ∀ a as, L (a :: as) [] = some (a :: as))
    (hc : ∀ a as b bs, L (a :: as) (b :: bs) = (f a b).bind fun z => (L as bs).map (z :: ·)) : L = bcLoop f := by
  funext a b
  fun_induction bcLoop f a b with
  | case1 b => exact hl b
  | case2 x xs => exact hr x xs
  | case3 x xs y ys ih => rw [hc, ih]

theorem bcLoop_nil_right (a : List Nat) : bcLoop f a [] = some a := by cases a <;> rfl

theorem bcLoop_cons_eq_some {x y : Nat} {xs ys r : List Nat} :
    bcLoop f (x :: xs) (y :: ys) = some r ↔ ∃ z, f x y = some z ∧ ∃ r', bcLoop f xs ys = some r' ∧ z :: r' = r := by
  simp only [bcLoop, Option.bind_eq_some_iff, Option.map_eq_some_iff]

theorem bcLoop_cons {x y z : Nat} (h : f x y = some z) (xs ys : List Nat) :
    bcLoop f (x :: xs) (y :: ys) = (bcLoop f xs ys).map (z :: ·) := by
  rw [bcLoop, h]; rfl

/-- induction over the successful runs: each step comes with the value of `f` and the result of the rest -/
theorem bcLoop_ind {motive : (a b r : List Nat) → bcLoop f a b = some r → Prop} (left : ∀ b, motive [] b b rfl)
    (right : ∀ a, motive a [] a (bcLoop_nil_right a))
    (cons : ∀ {x y z : Nat} {xs ys r : List Nat} (_ : f x y = some z) (hr : bcLoop f xs ys = some r)
      (h : bcLoop f (x :: xs) (y :: ys) = some (z :: r)), motive xs ys r hr → motive (x :: xs) (y :: ys) (z :: r) h)
    {a b r : List Nat} (h : bcLoop f a b = some r) : motive a b r h := by
  induction a, b using bcLoop.induct generalizing r with
  | case1 b => cases h; exact left b
  | case2 x xs => cases h; exact right _
  | case3 x xs y ys ih =>
    obtain ⟨z, hz, r', hr', rfl⟩ := bcLoop_cons_eq_some.1 h
    exact cons hz hr' h (ih hr')

theorem bcLoop_length {a b r : List Nat} (h : bcLoop f a b = some r) : r.length = max a.length b.length := by
  induction h using bcLoop_ind with
  | left b => exact (Nat.zero_max _).symm
  | right a => exact (Nat.max_zero _).symm
  | cons _ _ _ ih => simp only [List.length_cons, ih, Nat.succ_max_succ]

theorem bcLoop_comm (hf : ∀ a b, f a b = f b a) (a b : List Nat) : bcLoop f a b = bcLoop f b a := by
  fun_induction bcLoop f a b with
  | case1 b => exact (bcLoop_nil_right b).symm
  | case2 => rfl
  | case3 x xs y ys ih => rw [bcLoop, hf y x, ih]

theorem bcLoop_forall (P : Nat → Prop) (hf : ∀ {a b z}, f a b = some z → P a → P b → P z) {a b r : List Nat}
    (h : bcLoop f a b = some r) (ha : ∀ x ∈ a, P x) (hb : ∀ x ∈ b, P x) : ∀ x ∈ r, P x := by
  induction h using bcLoop_ind with
  | left b => exact hb
  | right a => exact ha
  | cons hz _ _ ih =>
    rw [List.forall_mem_cons] at ha hb ⊢
    exact ⟨hf hz ha.1 hb.1, ih ha.2 hb.2⟩

theorem bcLoop_eq_left (P : Nat → Prop) (hf : ∀ {a b z}, f a b = some z → P a → z = a) {a b r : List Nat}
    (h : bcLoop f a b = some r) (ha : ∀ x ∈ a, P x) (hl : b.length ≤ a.length) : r = a := by
  induction h using bcLoop_ind with
  | left b => exact List.eq_nil_of_length_eq_zero (Nat.le_zero.mp hl)
  | right a => rfl
  | cons hz _ _ ih =>
    rw [List.forall_mem_cons] at ha
    rw [hf hz ha.1, ih ha.2 (Nat.le_of_succ_le_succ hl)]

theorem bcLoop_mono (hf : ∀ {a b A B z Z}, f a b = some z → f A B = some Z → a ≤ A → b ≤ B → z ≤ Z)
    {a b A B r R : List Nat} (h : bcLoop f a b = some r) (hR : bcLoop f A B = some R) (hA : LeL a A) (hB : LeL b B) :
    LeL r R := by
  induction h using bcLoop_ind generalizing A B R with
  | left b => cases List.eq_nil_of_length_eq_zero hA.length_eq.symm; cases hR; exact hB
  | right a => cases List.eq_nil_of_length_eq_zero hB.length_eq.symm; cases (bcLoop_nil_right A).symm.trans hR; exact hA
  | cons hz _ _ ih =>
    obtain ⟨X, A, rfl⟩ := List.exists_cons_of_length_eq_add_one hA.length_eq.symm
    obtain ⟨Y, B, rfl⟩ := List.exists_cons_of_length_eq_add_one hB.length_eq.symm
    obtain ⟨Z, hZ, R', hR', rfl⟩ := bcLoop_cons_eq_some.1 hR
    exact ⟨hf hz hZ hA.1 hB.1, ih hR' hA.2 hB.2⟩

theorem bcLoop_dom (P : Nat → Nat → Prop) (hf : ∀ x y, P x y → f x y = some x) (a b : List Nat) (hl : b.length ≤ a.length)
    (h : ∀ p ∈ a.zip b, P p.1 p.2) : bcLoop f a b = some a := by
  fun_induction bcLoop f a b with
  | case1 b => cases List.eq_nil_of_length_eq_zero (Nat.le_zero.mp hl); rfl
  | case2 => rfl
  | case3 x xs y ys ih =>
    rw [hf x y (h (x, y) List.mem_cons_self), ih (Nat.le_of_succ_le_succ hl) fun p hp => h p (List.mem_cons_of_mem _ hp)]
    rfl

/-- `broadcast_shape` of two shapes with step `f`: the loop runs from the last axis -/
def bcShape (f : Nat → Nat → Option Nat) (a b : Shape) : Option Shape := (bcLoop f a.reverse b.reverse).map List.reverse

theorem bcShape_eq_some {a b r : Shape} : bcShape f a b = some r ↔ bcLoop f a.reverse b.reverse = some r.reverse := by
  unfold bcShape
  cases bcLoop f a.reverse b.reverse with
  | none => exact ⟨nofun, nofun⟩
  | some y => simp only [Option.map_some, Option.some.injEq, List.reverse_eq_iff]

theorem bcShape_nil_left (b : Shape) : bcShape f [] b = some b := by
  rw [bcShape_eq_some]; rfl

theorem bcShape_nil_right (a : Shape) : bcShape f a [] = some a := by
  rw [bcShape_eq_some]; exact bcLoop_nil_right _

theorem bcShape_length {a b r : Shape} (h : bcShape f a b = some r) : r.length = max a.length b.length := by
  have := bcLoop_length (bcShape_eq_some.1 h)
  rwa [List.length_reverse, List.length_reverse, List.length_reverse] at this

theorem bcShape_comm (hf : ∀ a b, f a b = f b a) (a b : Shape) : bcShape f a b = bcShape f b a := by
  unfold bcShape; rw [bcLoop_comm hf]

theorem bcShape_forall (P : Nat → Prop) (hf : ∀ {a b z}, f a b = some z → P a → P b → P z) {a b r : Shape}
    (h : bcShape f a b = some r) (ha : ∀ x ∈ a, P x) (hb : ∀ x ∈ b, P x) : ∀ x ∈ r, P x := fun x hx =>
  bcLoop_forall P hf (bcShape_eq_some.1 h) (fun y hy => ha y (List.mem_reverse.1 hy))
    (fun y hy => hb y (List.mem_reverse.1 hy)) x (List.mem_reverse.2 hx)

theorem bcShape_eq_left (P : Nat → Prop) (hf : ∀ {a b z}, f a b = some z → P a → z = a) {a b r : Shape}
    (h : bcShape f a b = some r) (ha : ∀ x ∈ a, P x) (hl : b.length ≤ a.length) : r = a :=
  List.reverse_inj.mp (bcLoop_eq_left P hf (bcShape_eq_some.1 h) (fun y hy => ha y (List.mem_reverse.1 hy))
    (by rwa [List.length_reverse, List.length_reverse]))

theorem bcShape_mono (hf : ∀ {a b A B z Z}, f a b = some z → f A B = some Z → a ≤ A → b ≤ B → z ≤ Z)
    {a b A B r R : Shape} (h : bcShape f a b = some r) (hR : bcShape f A B = some R) (hA : LeL a A) (hB : LeL b B) :
    LeL r R :=
  (bcLoop_mono hf (bcShape_eq_some.1 h) (bcShape_eq_some.1 hR) hA.reverse hB.reverse).of_reverse

/-- induction over the successful runs, read from the last axis -/
theorem bcShape_ind {motive : (a b r : Shape) → bcShape f a b = some r → Prop}
    (left : ∀ b, motive [] b b (bcShape_nil_left b)) (right : ∀ a, motive a [] a (bcShape_nil_right a))
    (snoc : ∀ {x y z : Nat} {a b r : Shape} (_ : f x y = some z) (hr : bcShape f a b = some r)
      (h : bcShape f (a ++ [x]) (b ++ [y]) = some (r ++ [z])), motive a b r hr → motive (a ++ [x]) (b ++ [y]) (r ++ [z]) h)
    {a b r : Shape} (h : bcShape f a b = some r) : motive a b r h := by
  have := bcLoop_ind (motive := fun a b r _ => ∀ h, motive a.reverse b.reverse r.reverse h) (fun b _ => left _)
    (fun a _ => right _)
    (fun {x y z xs ys r} hz hr _ ih => by
      simp only [List.reverse_cons]
      have hr' : bcShape f xs.reverse ys.reverse = some r.reverse :=
        bcShape_eq_some.2 (by rwa [List.reverse_reverse, List.reverse_reverse, List.reverse_reverse])
      exact fun h => snoc hz hr' h (ih hr'))
    (bcShape_eq_some.1 h)
  simp only [List.reverse_reverse] at this
  exact this h

end NmVerif
