import NmVerif.Lemmas.LinalgViews
/-
  Lemmas for kron of C16.  `kron_dst_transpose` computes, by a recursion on the rank difference with pairwise swaps, the
  axes "lead block of the longer operand, then lhs and rhs axes interleaved" (`kronAxes_le`, `kronAxes_ge`; `kronAxis` is
  the same position by position); the transpose by these axes followed by the pair-merging reshape is `np.kron`.
-/
namespace NmVerif
open NmVerif.MB
open Linalg

/-- closed form of `kron_dst_transpose`: position `t` of the transposition axes -/
def kronAxis (l r t : Nat) : Nat :=
  if l ≤ r then
    let e := r - l
    if t < e then l + t else
      let u := t - e
      if u % 2 = 0 then u / 2 else r + u / 2
  else
    let e := l - r
    if t < e then t else
      let u := t - e
      if u % 2 = 0 then e + u / 2 else l + u / 2

/-- a loop `for i < n: r[g i] = f i` of `kron_dst_transpose` as a fold over (value, position) pairs: through this bridge the
    next three are `List.getElem?_foldl_set_of_mem`, `…_of_not_mem`, `List.length_foldl_set` (Lemmas/ListBasics) for such a loop -/
theorem foldl_set_range_eq (n : Nat) (g f : Nat → Nat) (init : List Nat) :
    (List.range n).foldl (fun acc i => acc.set (g i) (f i)) init =
      ((List.range n).map (fun i => (f i, g i))).foldl (fun acc p => acc.set p.2 p.1) init := by
  rw [List.foldl_map]

theorem getElem?_foldl_set_range_of_lt (n : Nat) (g f : Nat → Nat) (init : List Nat)
    (hinj : ∀ i i', i < n → i' < n → g i = g i' → i = i') (i : Nat) (hi : i < n) (hlt : g i < init.length) :
    ((List.range n).foldl (fun acc i => acc.set (g i) (f i)) init)[g i]? = some (f i) := by
  rw [foldl_set_range_eq]
  refine List.getElem?_foldl_set_of_mem _ _ ?_ (List.mem_map.2 ⟨i, List.mem_range.2 hi, rfl⟩) hlt
  rw [List.map_map]
  exact List.nodup_range.map_on fun a ha b hb => hinj a b (List.mem_range.1 ha) (List.mem_range.1 hb)

theorem getElem?_foldl_set_range_of_ne (n : Nat) (g f : Nat → Nat) (init : List Nat) (j : Nat)
    (hmiss : ∀ i, i < n → g i ≠ j) :
    ((List.range n).foldl (fun acc i => acc.set (g i) (f i)) init)[j]? = init[j]? := by
  rw [foldl_set_range_eq]
  refine List.getElem?_foldl_set_of_not_mem _ _ _ fun p hp => ?_
  obtain ⟨i, hi, rfl⟩ := List.mem_map.1 hp
  exact hmiss i (List.mem_range.1 hi)

theorem length_foldl_set_range (n : Nat) (g f : Nat → Nat) (init : List Nat) :
    ((List.range n).foldl (fun acc i => acc.set (g i) (f i)) init).length = init.length := by
  rw [foldl_set_range_eq, List.length_foldl_set]

theorem foldl_copy_eq (m : Nat) (ia init : List Nat) (h1 : m ≤ ia.length) (h2 : m ≤ init.length) :
    (List.range m).foldl (fun acc i => acc.set i (ia.getD i 0)) init = ia.take m ++ init.drop m := by
  induction m with
  | zero => rfl
  | succ m ih =>
    -- round `m` overwrites the head of `init.drop m` by `ia[m]`
    rw [List.range_succ, List.foldl_append, ih (Nat.le_of_succ_le h1) (Nat.le_of_succ_le h2), List.foldl_cons, List.foldl_nil,
      List.set_append_right _ _ (List.length_take_le _ _), List.length_take, Nat.min_eq_left (Nat.le_of_succ_le h1),
      Nat.sub_self, List.drop_eq_getElem_cons h2, List.set_cons_zero, List.take_succ_eq_append_getElem h1,
      List.getD_eq_getElem?_getD, List.getElem?_eq_getElem h1, Option.getD_some, List.append_assoc]
    rfl

/-- interleave two lists: `[x0, y0, x1, y1, …]` -/
def inter : List Nat → List Nat → List Nat
  | x :: xs, y :: ys => x :: y :: inter xs ys
  | _, _ => []

theorem inter_length (xs ys : List Nat) (h : xs.length = ys.length) : (inter xs ys).length = 2 * xs.length := by
  induction xs, ys, h using eqLength_ind with
  | nil => rfl
  | cons x xs y ys h ih => rw [inter, List.length_cons, List.length_cons, ih, List.length_cons, Nat.mul_succ]

theorem gatherAt_inter (x : List Nat) : ∀ P Q : List Nat, gatherAt x (inter P Q) = inter (gatherAt x P) (gatherAt x Q)
  | [], _ => rfl
  | _ :: _, [] => rfl
  | p :: P, q :: Q => by
    simp only [inter, gatherAt, List.map_cons, List.cons.injEq, true_and]
    exact gatherAt_inter x P Q

theorem mem_inter {P Q : List Nat} {k : Nat} (h : P.length = Q.length) : k ∈ inter P Q ↔ k ∈ P ∨ k ∈ Q := by
  induction P, Q, h using eqLength_ind with
  | nil => simp [inter]
  | cons p P q Q h ih =>
    rw [inter, List.mem_cons, List.mem_cons, ih, List.mem_cons, List.mem_cons, or_or_or_comm, or_assoc]

theorem inter_map (f g : Nat → Nat) (X : List Nat) : inter (X.map f) (X.map g) = X.flatMap fun k => [f k, g k] := by
  induction X with
  | nil => rfl
  | cons k X ih =>
    rw [List.map_cons, List.map_cons, inter, ih, List.flatMap_cons]
    rfl

theorem range'_pairs (e n : Nat) : List.range' e (2 * n) = (List.range n).flatMap fun k => [e + 2 * k, e + 2 * k + 1] := by
  induction n with
  | zero => rfl
  | succ n ih =>
    rw [List.range_succ, List.flatMap_append, ← ih, Nat.mul_succ, List.range'_1_concat, List.range'_1_concat]
    simp only [List.flatMap_cons, List.flatMap_nil, List.append_nil, List.append_assoc, List.cons_append, List.nil_append,
      Nat.add_assoc]

theorem inter_range' (a b n : Nat) :
    inter (List.range' a n) (List.range' b n) = (List.range n).flatMap fun k => [a + k, b + k] := by
  rw [List.range'_eq_map_range, List.range'_eq_map_range]
  exact inter_map (a + ·) (b + ·) _

theorem inter_range'_shift (a b n : Nat) :
    inter (List.range' b n) (List.range' a n) ++ [b + n] = b :: inter (List.range' a n) (List.range' (b + 1) n) := by
  induction n generalizing a b with
  | zero => rfl
  | succ n ih =>
    simp only [List.range'_succ, inter, List.cons_append]
    rw [show b + (n + 1) = b + 1 + n by omega, ih (a + 1) (b + 1)]

/-- the swap loops of `kron_dst_transpose` (`tmp = at(r, p); at(r, p) = at(r, p-1); at(r, p-1) = tmp` at the positions
    `P 0 > P 1 > …`, two apart): run over a block of interleaved pairs from its end, they exchange the members of every pair -/
theorem foldl_swap_inter (P : Nat → Nat) (B : List Nat) (n : Nat) (X Y A : List Nat) (hn : X.length = n) (h : Y.length = n)
    (hP : ∀ i, i < n → P i + 2 * i + 1 = A.length + 2 * n) :
    (List.range n).foldl (fun a i => (a.set (P i) (a.getD (P i - 1) 0)).set (P i - 1) (a.getD (P i) 0))
      (A ++ inter X Y ++ B) = A ++ inter Y X ++ B := by
  subst h
  induction X, Y, hn using eqLength_ind generalizing A with
  | nil => rfl
  | cons x X y Y _ ih =>
    -- the rounds `i < |Y|` stay inside the inner pairs (`ih` with lead `A ++ [x, y]`); the last round swaps `x`, `y`
    have hp : P Y.length = A.length + 1 := by
      have := hP Y.length (by simp)
      simp only [List.length_cons] at this
      omega
    have e : A ++ inter (x :: X) (y :: Y) ++ B = (A ++ [x, y]) ++ inter X Y ++ B := by simp [inter]
    rw [List.length_cons, List.range_succ, List.foldl_append, e,
      ih (A ++ [x, y]) (fun i hi => by
        have := hP i (by simp only [List.length_cons]; omega)
        simp only [List.length_cons, List.length_append, List.length_nil] at this ⊢
        omega)]
    simp only [List.foldl_cons, List.foldl_nil, hp]
    simp [inter, List.getD_eq_getElem?_getD]

/-! `kronAxis` piece by piece; the rank difference `e` is a variable of its own, so that callers meet no subtraction. -/

theorem kronAxis_le_lead {l r e t : Nat} (hr : r = l + e) (ht : t < e) : kronAxis l r t = l + t := by
  subst hr
  simp only [kronAxis, if_pos (Nat.le_add_right l e), Nat.add_sub_cancel_left, if_pos ht]

theorem kronAxis_le_even {l r e t : Nat} (k : Nat) (hr : r = l + e) (ht : t = e + 2 * k) : kronAxis l r t = k := by
  subst hr ht
  simp only [kronAxis, if_pos (Nat.le_add_right l e), Nat.add_sub_cancel_left, Nat.not_lt.2 (Nat.le_add_right _ _),
    Nat.mul_mod_right, Nat.mul_div_cancel_left k Nat.zero_lt_two, if_true, if_false]

theorem kronAxis_le_odd {l r e t : Nat} (k : Nat) (hr : r = l + e) (ht : t = e + 2 * k + 1) : kronAxis l r t = r + k := by
  subst hr ht
  simp only [kronAxis, if_pos (Nat.le_add_right l e), Nat.add_sub_cancel_left, Nat.add_assoc e, Nat.not_lt.2 (Nat.le_add_right _ _),
    Nat.mul_add_mod 2 k 1, Nat.mul_add_div Nat.zero_lt_two k 1, Nat.one_mod, Nat.one_ne_zero, if_false, Nat.reduceDiv, Nat.add_zero]

theorem kronAxis_ge_lead {l r e t : Nat} (hl : l = r + e) (ht : t < e) : kronAxis l r t = t := by
  subst hl
  have h : ¬ r + e ≤ r := by omega
  simp only [kronAxis, if_neg h, Nat.add_sub_cancel_left, if_pos ht]

theorem kronAxis_ge_even {l r e t : Nat} (k : Nat) (hl : l = r + e) (ht : t = e + 2 * k) : kronAxis l r t = e + k := by
  subst hl ht
  by_cases h : r + e ≤ r
  · have : e = 0 := by omega
    subst this
    rw [Nat.zero_add k]
    exact kronAxis_le_even k rfl rfl
  · simp only [kronAxis, if_neg h, Nat.add_sub_cancel_left, Nat.not_lt.2 (Nat.le_add_right _ _),
      Nat.mul_mod_right, Nat.mul_div_cancel_left k Nat.zero_lt_two, if_true, if_false]

theorem kronAxis_ge_odd {l r e t : Nat} (k : Nat) (hl : l = r + e) (ht : t = e + 2 * k + 1) : kronAxis l r t = l + k := by
  subst hl ht
  by_cases h : r + e ≤ r
  · have : e = 0 := by omega
    subst this
    exact kronAxis_le_odd k rfl rfl
  · simp only [kronAxis, if_neg h, Nat.add_sub_cancel_left, Nat.add_assoc e, Nat.not_lt.2 (Nat.le_add_right _ _),
      Nat.mul_add_mod 2 k 1, Nat.mul_add_div Nat.zero_lt_two k 1, Nat.one_mod, Nat.one_ne_zero, if_false, Nat.reduceDiv, Nat.add_zero]

theorem kronAxes_le {l r e : Nat} (hr : r = l + e) :
    (List.range (l + r)).map (kronAxis l r) = List.range' l e ++ inter (List.range l) (List.range' r l) := by
  rw [show l + r = e + 2 * l by omega, List.range_eq_range', List.range_eq_range', ← List.range'_append_1, List.map_append,
    Nat.zero_add, range'_pairs, List.map_flatMap, inter_range']
  congr 1
  · rw [List.range'_eq_map_range, List.range'_eq_map_range, List.map_map]
    exact List.map_congr_left fun t ht => by
      rw [Function.comp, Nat.zero_add, kronAxis_le_lead hr (List.mem_range.1 ht)]
  · exact List.flatMap_congr_left _ _ _ fun k _ => by
      rw [List.map_cons, List.map_cons, List.map_nil, kronAxis_le_even k hr rfl, kronAxis_le_odd k hr rfl, Nat.zero_add]

theorem kronAxes_ge {l r e : Nat} (hl : l = r + e) :
    (List.range (l + r)).map (kronAxis l r) = List.range e ++ inter (List.range' e r) (List.range' l r) := by
  rw [show l + r = e + 2 * r by omega, List.range_eq_range', List.range_eq_range', ← List.range'_append_1, List.map_append,
    Nat.zero_add, range'_pairs, List.map_flatMap, inter_range']
  congr 1
  · rw [← List.range_eq_range']
    refine (List.map_congr_left fun t ht => ?_).trans (List.map_id _)
    rw [kronAxis_ge_lead hl (List.mem_range.1 ht)]; rfl
  · exact List.flatMap_congr_left _ _ _ fun k _ => by
      rw [List.map_cons, List.map_cons, List.map_nil, kronAxis_ge_even k hl rfl, kronAxis_ge_odd k hl rfl]

/-- `fuel` only counts the recursion on the rank difference down: any amount beyond `|l - r|` gives the closed form
    (`kron` passes `l + r + 1`) -/
theorem kronDstTranspose_eq (fuel l r : Nat) (hf1 : r < l + fuel) (hf2 : l < r + fuel) :
    kronDstTranspose fuel l r = (List.range (l + r)).map (kronAxis l r) := by
  fun_induction kronDstTranspose fuel l r with
  | case1 l r => omega
  | case2 fuel l =>
    -- two `set` loops, each position written once: `2k` by the first, `2k + 1` by the second
    dsimp +zetaDelta only
    rw [show (l + l) / 2 = l by omega]
    refine List.ext_of_length_eq (n := l + l) (by rw [length_foldl_set_range, length_foldl_set_range]; simp) (by simp) fun j hj => ?_
    rw [List.getElem?_map, List.getElem?_range hj, Option.map_some]
    obtain ⟨k, rfl | rfl⟩ : ∃ k, j = k * 2 ∨ j = k * 2 + 1 := ⟨j / 2, by omega⟩
    · rw [getElem?_foldl_set_range_of_ne l (fun i => i * 2 + 1) _ _ _ (fun i _ => by omega),
        kronAxis_le_even k (Nat.add_zero l).symm (by omega)]
      exact getElem?_foldl_set_range_of_lt l (fun i => i * 2) (fun i => i) (List.range (l + l))
        (fun a b _ _ h => by omega) k (by omega) (by simp; omega)
    · rw [kronAxis_le_odd k (Nat.add_zero l).symm (by omega), Nat.add_comm l k]
      exact getElem?_foldl_set_range_of_lt l (fun i => i * 2 + 1) (fun i => i + l) _
        (fun a b _ _ h => by omega) k (by omega) (by rw [length_foldl_set_range]; simp; omega)
  | case3 fuel l r dst init hlr hlt ia r1 ih =>
    -- recursive result (rhs rank `r - 1`) ++ new last axis; the swaps move every rhs pair member one place down
    obtain ⟨e, rfl⟩ : ∃ e, r = l + e + 1 := ⟨r - l - 1, by omega⟩
    have hgoal : (List.range (l + (l + e) + 1)).map (kronAxis l (l + e + 1)) =
        List.range' l (e + 1) ++ inter (List.range l) (List.range' (l + e + 1) l) := kronAxes_le (e := e + 1) rfl
    dsimp +zetaDelta only
    rw [Nat.add_sub_cancel] at ih
    rw [← Nat.add_assoc l (l + e) 1, Nat.add_sub_cancel, Nat.add_sub_cancel, ih (by omega) (by omega),
      foldl_copy_eq _ _ _ (by simp) (by simp), List.take_of_length_le (by simp), kronAxes_le rfl, hgoal,
      foldl_swap_inter (fun i => l + (l + e) + 1 - 2 * (i + 1)) _ l (List.range l) (List.range' (l + e) l)
        (List.range' l e) (by simp) (by simp) (fun i hi => by simp; omega)]
    rw [List.range_succ, List.drop_left' List.length_range, List.append_assoc, List.range_eq_range',
      show l + (l + e) = l + e + l by omega, inter_range'_shift, List.range'_1_concat, List.append_assoc]
    rfl
  | case4 fuel l r dst init hlr hlt ia r1 ih =>
    -- recursive result (rhs rank `r + 1`) without its last axis; the swaps exchange the members of every pair
    obtain ⟨e, rfl⟩ : ∃ e, l = r + e + 1 := ⟨l - r - 1, by omega⟩
    have hia : (List.range (r + e + 1 + (r + 1))).map (kronAxis (r + e + 1) (r + 1)) =
        (List.range (e + 1) ++ inter (List.range' (r + e + 1) r) (List.range' (e + 1) r)) ++ [r + e + 1 + r] := by
      rw [kronAxes_ge (e := e) (by omega), List.append_assoc, inter_range'_shift, List.range_succ, List.append_assoc,
        List.range'_succ, List.range'_succ (s := r + e + 1), inter]
      rfl
    have hlen : (List.range (e + 1) ++ inter (List.range' (r + e + 1) r) (List.range' (e + 1) r)).length = r + e + 1 + r := by
      rw [List.length_append, inter_length _ _ (by simp), List.length_range, List.length_range']; omega
    dsimp +zetaDelta only
    rw [ih (by omega) (by omega), hia,
      foldl_copy_eq _ _ _ (by rw [List.length_append, hlen]; omega) (by simp), List.take_left' hlen,
      kronAxes_ge (e := e + 1) (by omega),
      foldl_swap_inter (fun i => r + e + 1 + r - (2 * i + 1)) _ r (List.range' (r + e + 1) r) (List.range' (e + 1) r)
        (List.range (e + 1)) (by simp) (by simp) (fun i hi => by simp; omega),
      List.drop_of_length_le (by simp), List.append_nil]

theorem inShape_inter {u v P1 P2 : List Nat} (h1 : InShape u P1) (h2 : InShape v P2) : InShape (inter u v) (inter P1 P2) := by
  induction u, P1, h1 using inShape_ind generalizing v P2 with
  | nil => trivial
  | cons _ _ _ _ h0 _ ih =>
    cases v, P2, h2 using inShape_ind with
    | nil => trivial
    | cons _ _ _ _ hj hs => exact ⟨h0, hj, ih hs⟩

theorem prod_inter : ∀ xs ys : List Nat, prod (inter xs ys) = prod (List.zipWith (· * ·) xs ys)
  | [], _ => rfl
  | _ :: _, [] => rfl
  | x :: xs, y :: ys => by
    rw [inter, List.zipWith_cons_cons, prod, prod, prod, prod_inter xs ys, Nat.mul_assoc]

/-- the mixed-radix fact behind the last reshape: `(y_t / p2_t, y_t % p2_t)` per merged coordinate `y_t < p1_t · p2_t`,
    interleaved, addresses the same flat position -/
theorem pair_split (P1 P2 : List Nat) (h : P1.length = P2.length) (hp2 : Pos P2) (yr : Idx)
    (hy : InShape yr (List.zipWith (· * ·) P1 P2)) :
    InShape (List.zipWith (· / ·) yr P2) P1 ∧ InShape (List.zipWith (· % ·) yr P2) P2 ∧
    computeOffset (inter (List.zipWith (· / ·) yr P2) (List.zipWith (· % ·) yr P2)) (strides (inter P1 P2)) =
      computeOffset yr (strides (List.zipWith (· * ·) P1 P2)) := by
  induction P1, P2, h using eqLength_ind generalizing yr with
  | nil => cases yr <;> simp_all [InShape, inter, computeOffset]
  | cons a P1 b P2 h ih =>
    cases yr with
    | nil => simp [InShape] at hy
    | cons y yr =>
      simp only [List.zipWith_cons_cons, InShape] at hy
      have hb : 0 < b := hp2 b (by simp)
      obtain ⟨ih1, ih2, ih3⟩ := ih (fun x hx => hp2 x (by simp [hx])) yr hy.2
      simp only [List.zipWith_cons_cons, inter, InShape, strides, computeOffset, prod]
      refine ⟨⟨?_, ih1⟩, ⟨Nat.mod_lt _ hb, ih2⟩, ?_⟩
      · rw [Nat.div_lt_iff_lt_mul hb]; exact hy.1
      · rw [ih3, prod_inter, ← Nat.add_assoc, Nat.mul_comm b, Nat.mul_assoc, ← Nat.mul_add, Nat.div_add_mod]

/-- the last step of `kron`: `reshape` that merges each interleaved pair of axes -/
theorem kron_tail {α : Type} (d : Arr α) (Ld P1 P2 : List Nat) (h : P1.length = P2.length) (hp2 : Pos P2)
    (hd : d.shape = Ld ++ inter P1 P2) :
    ∃ e, reshape d (Ld ++ List.zipWith (· * ·) P1 P2) = some e ∧ e.shape = Ld ++ List.zipWith (· * ·) P1 P2 ∧
      ∀ yl yr, InShape yl Ld → InShape yr (List.zipWith (· * ·) P1 P2) →
        e.get (yl ++ yr) = d.get (yl ++ inter (List.zipWith (· / ·) yr P2) (List.zipWith (· % ·) yr P2)) := by
  have hp : prod d.shape = prod (Ld ++ List.zipWith (· * ·) P1 P2) := by
    rw [hd, prod_append, prod_append, prod_inter]
  rw [reshape_some _ _ hp]
  refine ⟨_, rfl, rfl, ?_⟩
  intro yl yr hyl hyr
  simp only
  congr 1
  rw [hd]
  obtain ⟨hu, hv, hoff⟩ := pair_split P1 P2 h hp2 yr hyr
  apply ndindex_of_offset_eq (Shape.inShape_append hyl (inShape_inter hu hv))
  rw [Shape.offset_append _ _ _ _ hyl.length_eq, Shape.offset_append _ _ _ _ hyl.length_eq, hoff,
    prod_inter]

/-- the paddings (leading ones) of a right-aligned pair of shapes in `shape_tile`, `kron_dst_reshape`, `np.kron`, either operand first -/
theorem max_sub_aligned (L R s : List Nat) (h : R.length = s.length) :
    max (L ++ R).length s.length - (L ++ R).length = 0 ∧ max (L ++ R).length s.length - s.length = L.length ∧
    max s.length (L ++ R).length - (L ++ R).length = 0 ∧ max s.length (L ++ R).length - s.length = L.length := by
  rw [List.length_append, h, Nat.max_eq_left (Nat.le_add_left _ _), Nat.max_eq_right (Nat.le_add_left _ _), Nat.sub_self,
    Nat.add_sub_cancel]
  exact ⟨rfl, rfl, rfl, rfl⟩

/-- the first steps of `kron` (`reshape`, `tile`, `multiply`): the array of all pairs -/
theorem kron_head (sa sb : Shape) :
    ∃ a c, reshape (ident sa) (sa ++ List.replicate sb.length 1) = some a ∧
      mulT (tile a sb) (ident sb) = some c ∧ c.shape = sa ++ sb ∧
      ∀ i j, InShape i sa → InShape j sb → c.get (i ++ j) = (i, j) := by
  obtain ⟨a, ha, hash, haget⟩ := reshape_insert_ones (ident sa) sa [] sb.length (by simp [ident])
  simp only [List.append_nil] at ha hash haget
  have hts : shapeTile (sa ++ List.replicate sb.length 1) sb = sa ++ sb := by
    simp only [shapeTile, max_sub_aligned sa _ sb List.length_replicate, List.replicate_zero, List.nil_append]
    rw [List.zipWith_append (by simp)]
    rw [zipWith_mul_replicate_one, zipWith_mul_ones_left]
  have hbc : broadcastShape (sa ++ sb) sb = some (sa ++ sb) := by simpa using broadcastShape_append_same sa [] sb
  refine ⟨a, _, ha, mulT_some hbc (by simp only [tile, hash, hts]) rfl, rfl, ?_⟩
  · intro i j hi hj
    simp only
    have hij : InShape (i ++ j) (sa ++ sb) := Shape.inShape_append hi hj
    rw [bcIdx_self hij, bcIdx_append_right hj]
    congr 1
    simp only [tile, hash]
    rw [tileIdx_append (β := i) (τ := j) (s := sa) (t := List.replicate sb.length 1) (by simp [hj.length_eq]) (by rw [hi.length_eq]; exact Nat.le_refl _)]
    rw [tileIdx_self hi]
    have hz : tileIdx j (List.replicate sb.length 1) = List.replicate sb.length 0 := by
      rw [tileIdx, ← hj.length_eq, List.length_replicate, Nat.sub_self, List.drop_zero, List.zipWith_replicate_right]
      simp [Nat.mod_one, List.map_const']
    rw [hz]
    have := haget i [] hi (by simp [InShape])
    simp only [List.append_nil] at this
    rw [this]; rfl

theorem kronAxis_lt (l r t : Nat) (ht : t < l + r) : kronAxis l r t < l + r := by
  have hm : kronAxis l r t ∈ (List.range (l + r)).map (kronAxis l r) := List.mem_map_of_mem (List.mem_range.2 ht)
  by_cases h : l ≤ r
  · obtain ⟨e, he⟩ := Nat.exists_eq_add_of_le h
    rw [kronAxes_le he, List.mem_append, mem_inter (by simp)] at hm
    simp only [List.mem_range'_1, List.mem_range] at hm
    omega
  · obtain ⟨e, he⟩ := Nat.exists_eq_add_of_le (Nat.le_of_not_le h)
    rw [kronAxes_ge he, List.mem_append, mem_inter (by simp)] at hm
    simp only [List.mem_range'_1, List.mem_range] at hm
    omega

theorem kronDstReshape_le (sa Lb Rb : List Nat) (h : sa.length = Rb.length) :
    kronDstReshape sa (Lb ++ Rb) = Lb ++ List.zipWith (· * ·) sa Rb := by
  simp only [kronDstReshape, max_sub_aligned Lb Rb sa h.symm, List.replicate_zero, List.nil_append]
  rw [List.zipWith_append (by simp), zipWith_mul_ones_left]

theorem kronDstReshape_ge (La Ra sb : List Nat) (h : Ra.length = sb.length) :
    kronDstReshape (La ++ Ra) sb = La ++ List.zipWith (· * ·) Ra sb := by
  simp only [kronDstReshape, max_sub_aligned La Ra sb h, List.replicate_zero, List.nil_append]
  rw [List.zipWith_append (by simp), zipWith_mul_replicate_one]

theorem specKron_shape (sa sb : Shape) : (specKron sa sb).shape = kronDstReshape sa sb := rfl

theorem specKron_get_le (sa Lb Rb yl yr : List Nat) (h : sa.length = Rb.length) (hyl : InShape yl Lb) :
    (specKron sa (Lb ++ Rb)).get (yl ++ yr) = (List.zipWith (· / ·) yr Rb, yl ++ List.zipWith (· % ·) yr Rb) := by
  simp only [specKron, max_sub_aligned Lb Rb sa h.symm, List.replicate_zero, List.nil_append, List.drop_zero]
  rw [List.zipWith_append hyl.length_eq, List.zipWith_append hyl.length_eq,
    List.drop_left' (by simp [hyl.length_eq]), Shape.zipWith_mod_self hyl]

theorem specKron_get_ge (La Ra sb yl yr : List Nat) (h : Ra.length = sb.length) (hyl : yl.length = La.length) :
    (specKron (La ++ Ra) sb).get (yl ++ yr) = (yl ++ List.zipWith (· / ·) yr sb, List.zipWith (· % ·) yr sb) := by
  simp only [specKron, max_sub_aligned La Ra sb h, List.replicate_zero, List.nil_append, List.drop_zero]
  rw [List.zipWith_append (by simp [hyl]), List.zipWith_append (by simp [hyl]), List.drop_left' (by simp [hyl]),
    ← hyl, List.zipWith_replicate_right]
  simp

/-- the four segments of `sa ++ sb = (La ++ Ra) ++ (Lb ++ Rb)` as `kron_dst_transpose` arranges them -/
theorem gatherAt_kron (xla xra xlb xrb : List Nat) :
    gatherAt ((xla ++ xra) ++ (xlb ++ xrb))
      (List.range' 0 xla.length ++ List.range' (xla.length + xra.length) xlb.length ++
        inter (List.range' xla.length xra.length) (List.range' (xla.length + xra.length + xlb.length) xrb.length)) =
      xla ++ xlb ++ inter xra xrb := by
  rw [gatherAt_append, gatherAt_append, gatherAt_inter,
    gatherAt_range' (pre := []) (x := xla) (post := xra ++ (xlb ++ xrb)) (s := 0) (by simp) rfl rfl,
    gatherAt_range' (pre := xla ++ xra) (x := xlb) (post := xrb) (by simp) (by simp) rfl,
    gatherAt_range' (pre := xla) (x := xra) (post := xlb ++ xrb) (by simp) rfl rfl,
    gatherAt_range' (pre := xla ++ xra ++ xlb) (x := xrb) (post := []) (by simp) (by simp [Nat.add_assoc]) rfl]

theorem scatter_kron {xla xra xlb xrb : List Nat} {a m b m' : Nat} (ha : xla.length = a) (hm : xra.length = m)
    (hb : xlb.length = b) (hm' : xrb.length = m') (h : m = m') :
    scatter (xla ++ xlb ++ inter xra xrb)
      (List.range' 0 a ++ List.range' (a + m) b ++ inter (List.range' a m) (List.range' (a + m + b) m')) =
      (xla ++ xra) ++ (xlb ++ xrb) := by
  subst ha hm hb hm'
  refine scatterAt_of_gatherAt (gatherAt_kron xla xra xlb xrb) ?_ fun k hk => ?_
  · rw [List.length_append, List.length_append, inter_length _ _ (by simp [h])]
    simp only [List.length_range', List.length_append]
    omega
  · rw [List.mem_append, List.mem_append, mem_inter (by simp [h])]
    simp only [List.mem_range'_1]
    simp only [List.length_append] at hk
    omega

/-- the axes of `kron_dst_transpose` as four segments, for both rank orders at once (`a`/`b`: length of the lead block of
    lhs/rhs, one of them 0; `m`: the common trailing rank) -/
theorem kronAxes_eq (a b m : Nat) (h : a = 0 ∨ b = 0) :
    (List.range (a + m + (b + m))).map (kronAxis (a + m) (b + m)) =
      List.range' 0 a ++ List.range' (a + m) b ++ inter (List.range' a m) (List.range' (a + m + b) m) := by
  rcases h with rfl | rfl
  · rw [kronAxes_le (l := 0 + m) (r := b + m) (e := b) (by omega), List.range_eq_range']
    simp [Nat.add_comm]
  · rw [kronAxes_ge (l := a + m) (r := 0 + m) (e := a) (by omega), List.range_eq_range']
    simp

theorem kronDstReshape_eq (La Ra Lb Rb : List Nat) (h : Ra.length = Rb.length) (hL : La = [] ∨ Lb = []) :
    kronDstReshape (La ++ Ra) (Lb ++ Rb) = La ++ Lb ++ List.zipWith (· * ·) Ra Rb := by
  rcases hL with rfl | rfl
  · simpa using kronDstReshape_le Ra Lb Rb h
  · simpa using kronDstReshape_ge La Ra Rb h

/-- `view::kron`, both rank orders at once: `sa = La ++ Ra`, `sb = Lb ++ Rb` right-aligned, one lead block empty.
    `kron_head` gives the array of all pairs, the transpose gathers it by the four segments, `kron_tail` merges the pairs. -/
theorem kron_elem (La Ra Lb Rb : Shape) (h : Ra.length = Rb.length) (hL : La = [] ∨ Lb = []) (hpb : Pos Rb) :
    ∃ e, kron (La ++ Ra) (Lb ++ Rb) = some e ∧ e.shape = La ++ Lb ++ List.zipWith (· * ·) Ra Rb ∧
      ∀ ya yb yr, InShape ya La → InShape yb Lb → InShape yr (List.zipWith (· * ·) Ra Rb) →
        e.get (ya ++ yb ++ yr) = (ya ++ List.zipWith (· / ·) yr Rb, yb ++ List.zipWith (· % ·) yr Rb) := by
  obtain ⟨σ, hσ⟩ : ∃ σ, σ = List.range' 0 La.length ++ List.range' (La.length + Ra.length) Lb.length ++
      inter (List.range' La.length Ra.length) (List.range' (La.length + Ra.length + Lb.length) Rb.length) := ⟨_, rfl⟩
  have hax : kronDstTranspose ((La ++ Ra).length + (Lb ++ Rb).length + 1) (La ++ Ra).length (Lb ++ Rb).length = σ := by
    rw [kronDstTranspose_eq _ _ _ (by omega) (by omega), hσ, List.length_append, List.length_append, ← h]
    exact kronAxes_eq La.length Lb.length Ra.length (hL.imp List.length_eq_zero_iff.2 List.length_eq_zero_iff.2)
  have hlt : ∀ k ∈ σ, k < ((La ++ Ra) ++ (Lb ++ Rb)).length := fun k hk => by
    rw [← hax, kronDstTranspose_eq _ _ _ (by omega) (by omega)] at hk
    obtain ⟨t, ht, rfl⟩ := List.mem_map.1 hk
    have := kronAxis_lt _ _ t (List.mem_range.1 ht)
    rwa [← List.length_append] at this
  obtain ⟨a, c, ha, hc, hcsh, hcget⟩ := kron_head (La ++ Ra) (Lb ++ Rb)
  have htr : transpose c σ = some ⟨La ++ Lb ++ inter Ra Rb, fun x => c.get (scatter x σ)⟩ := by
    unfold transpose
    rw [hcsh, mapM_getElem?_eq_gatherAt _ _ hlt, hσ, gatherAt_kron]
  obtain ⟨e, he, hesh, heget⟩ := kron_tail (α := Term) ⟨_, fun x => c.get (scatter x σ)⟩ (La ++ Lb) Ra Rb h hpb rfl
  refine ⟨e, ?_, hesh, fun ya yb yr hya hyb hyr => ?_⟩
  · exact Option.bind_eq_some_iff.2 ⟨a, ha, Option.bind_eq_some_iff.2 ⟨c, hc, Option.bind_eq_some_iff.2
      ⟨_, by rw [hax]; exact htr, by rw [kronDstReshape_eq La Ra Lb Rb h hL]; exact he⟩⟩⟩
  · obtain ⟨hd1, hd2, -⟩ := pair_split Ra Rb h hpb yr hyr
    rw [heget (ya ++ yb) yr (Shape.inShape_append hya hyb) hyr]
    simp only
    rw [hσ, scatter_kron hya.length_eq hd1.length_eq hyb.length_eq hd2.length_eq h]
    exact hcget _ _ (Shape.inShape_append hya hd1) (Shape.inShape_append hyb hd2)

end NmVerif
