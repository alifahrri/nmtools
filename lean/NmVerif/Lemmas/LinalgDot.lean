import NmVerif.Lemmas.LinalgViews
/-
  vecdot, inner, dot, outer.  Per routine: the SPEC on shapes `batch ++ [k]` as one equation (`specX_append`, `specDot_x1/_x2`:
  the array, or `none` unless the contracted extents agree), the index helpers on such shapes, the re-arranged lhs, and
  `X_elem` = `contract_last` applied to it (that the pipeline answers: a chain of binds, `Option.bind_eq_some_iff` with the
  intermediate array and its reason per step, nothing unfolded).  MODEL = SPEC on accepted operands: `dot_eq_spec` here, for
  vecdot and inner together with their closing check in LinalgChecked.  outer has no contraction and is done directly.
-/
namespace NmVerif
open NmVerif.MB
open Linalg

theorem specInner_append (ba bb : Shape) (k k' : Nat) :
    specInner (ba ++ [k]) (bb ++ [k']) = if k = k' then some ⟨ba ++ bb, fun d =>
      (List.range k).map (fun kk => (d.take ba.length ++ [kk], d.drop ba.length ++ [kk]))⟩ else none := by
  simp [specInner]

theorem specVecdot_append (X Y : Shape) (k k' : Nat) :
    specVecdot (X ++ [k]) (Y ++ [k']) = if k = k' then (broadcastShape X Y).map (fun bs =>
      ⟨bs, fun d => (List.range k).map (fun kk => (bcIdx d X ++ [kk], bcIdx d Y ++ [kk]))⟩) else none := by
  simp [specVecdot]

theorem specDot_x1 (ba : Shape) (k k' : Nat) :
    specDot (ba ++ [k]) [k'] = if k = k' then some ⟨ba, fun d =>
      (List.range k).map (fun kk => (d.take ba.length ++ [kk], [kk]))⟩ else none := by
  simp [specDot]

theorem specDot_x2 (ba bb : Shape) (k k' n : Nat) :
    specDot (ba ++ [k]) (bb ++ [k', n]) = if k = k' then some ⟨ba ++ bb ++ [n], fun d => (List.range k).map (fun kk =>
      (d.take ba.length ++ [kk], (d.drop ba.length).take bb.length ++ [kk] ++ d.getLast?.toList))⟩ else none := by
  simp [specDot]

theorem vecdot_elem (X Y bs : Shape) (k : Nat) (hbs : broadcastShape X Y = some bs) :
    ∃ r, vecdot (X ++ [k]) (Y ++ [k]) = some r ∧ r.shape = bs ∧
      ∀ d, d.length = bs.length →
        r.get d = (List.range k).map (fun kk => (bcIdx d X ++ [kk], bcIdx d Y ++ [kk])) := by
  obtain ⟨m, hm, hmsh, hrsh, hrget⟩ := contract_last (ident (X ++ [k])) (ident (Y ++ [k])) X Y bs k rfl rfl hbs
  exact ⟨_, Option.bind_eq_some_iff.2 ⟨m, hm, if_neg (by rw [hmsh]; simp)⟩, hrsh, hrget⟩

theorem innerLhsReshape_eq (ba bb : List Nat) (k k' : Nat) :
    innerLhsReshape (ba ++ [k]) (bb ++ [k']) = some (ba ++ List.replicate bb.length 1 ++ [k]) := by
  -- `dst_dim - (lhs_dim - 1)`, in the form `simp` leaves it in
  have e : (if 0 < bb.length then ba.length + 1 + bb.length else ba.length + 1) - ba.length = bb.length + 1 := by
    split <;> omega
  simp [innerLhsReshape, e, List.replicate_succ']
  rw [← List.append_assoc, setNeg_append_one, List.append_assoc]
  exact ⟨by omega, rfl⟩

theorem inner_elem (ba bb : Shape) (k : Nat) (hpb : Pos bb) :
    ∃ r, inner (ba ++ [k]) (bb ++ [k]) = some r ∧ r.shape = ba ++ bb ∧
      ∀ p q, InShape p ba → InShape q bb →
        r.get (p ++ q) = (List.range k).map (fun kk => (p ++ [kk], q ++ [kk])) := by
  -- the lhs: `reshape(lhs, (…, 1, …, 1, k))` at `[p…, 0…0, kk]` is `lhs[p…, kk]`
  obtain ⟨l, hl, hlsh, hlget⟩ := reshape_insert_ones (ident (ba ++ [k])) ba [k] bb.length rfl
  obtain ⟨m, hm, -, hrsh, hrget⟩ := contract_last l (ident (bb ++ [k])) (ba ++ List.replicate bb.length 1) bb (ba ++ bb) k
    hlsh rfl (broadcastShape_ones_right ba hpb)
  refine ⟨_, ?_, hrsh, ?_⟩
  · exact Option.bind_eq_some_iff.2 ⟨_, innerLhsReshape_eq .., Option.bind_eq_some_iff.2 ⟨l, hl, Option.bind_eq_some_iff.2 ⟨m, hm, rfl⟩⟩⟩
  · intro p q hp hq
    rw [hrget (p ++ q) (by simp [hp.length_eq, hq.length_eq])]
    apply List.map_congr_left
    intro kk hkk
    have hkk' := List.mem_range.1 hkk
    rw [bcIdx_append_ones hp hq, bcIdx_append_right hq, hlget p [kk] hp (inShape_one.2 hkk')]
    rfl

theorem dotLhsTile_x1 (sa : Shape) (k : Nat) : dotLhsTile sa [k] = List.replicate sa.length 1 := by simp [dotLhsTile]
theorem dotLhsTile_x2 (ba bb : List Nat) (k k' n : Nat) :
    dotLhsTile (ba ++ [k]) (bb ++ [k', n]) = List.replicate ba.length 1 ++ [n] := by
  simp [dotLhsTile, List.replicate_succ']
theorem dotRhsTranspose_1 (k : Nat) : dotRhsTranspose [k] = [0] := by simp [dotRhsTranspose, List.range_succ]
theorem dotRhsTranspose_2 (bb : List Nat) (k n : Nat) :
    dotRhsTranspose (bb ++ [k, n]) = List.range bb.length ++ [bb.length + 1, bb.length] := by
  simp [dotRhsTranspose, swapLast2_range]
theorem dotLhsReshape_x1 (ba : List Nat) (k k' : Nat) : dotLhsReshape (ba ++ [k]) [k'] = some (ba ++ [k']) := by
  simp [dotLhsReshape]
theorem dotLhsReshape_x2 (ba bb : List Nat) (k k' n : Nat) :
    dotLhsReshape (ba ++ [k]) (bb ++ [k', n]) = some (ba ++ List.replicate bb.length 1 ++ [n, k']) := by
  have e : (if ba.length + 1 + (bb.length + 2) - 2 < ba.length + 1 ∨ ba.length + 1 + (bb.length + 2) < 2 then ba.length + 1
      else ba.length + 1 + (bb.length + 2) - 2) + 1 - ba.length = bb.length + 2 := by
    split <;> omega
  simp [dotLhsReshape, e, List.replicate_succ']
  rw [← List.append_assoc, setNeg_append_two_2, setNeg_append_two_1, List.append_assoc]
  exact ⟨by omega, rfl⟩

theorem dot_elem_x2 (ba bb : Shape) (k n : Nat) (hpb : Pos bb) :
    ∃ r, dot (ba ++ [k]) (bb ++ [k, n]) = some r ∧ r.shape = ba ++ bb ++ [n] ∧
      ∀ p q j, InShape p ba → InShape q bb → j < n →
        r.get (p ++ q ++ [j]) = (List.range k).map (fun kk => (p ++ [kk], q ++ [kk, j])) := by
  obtain ⟨a, ha, hash, haget⟩ := reshape_tile_last ba bb.length k n
  obtain ⟨tb, hb, htbsh, htbget⟩ := transpose_swap_last2 (ident (bb ++ [k, n])) bb k n rfl
  have hX : broadcastShape (ba ++ List.replicate bb.length 1 ++ [n]) (bb ++ [n]) = some (ba ++ bb ++ [n]) :=
    broadcastShape_snoc (broadcastShape_ones_right ba hpb) (bc1_self n)
  obtain ⟨m, hm, -, hrsh, hrget⟩ := contract_last a tb
    (ba ++ List.replicate bb.length 1 ++ [n]) (bb ++ [n]) (ba ++ bb ++ [n]) k (by rw [hash]; simp) (by rw [htbsh]; simp) hX
  refine ⟨_, ?_, hrsh, ?_⟩
  · exact Option.bind_eq_some_iff.2 ⟨_, dotLhsReshape_x2 .., Option.bind_eq_some_iff.2 ⟨a, dotLhsTile_x2 .. ▸ ha,
      Option.bind_eq_some_iff.2 ⟨tb, dotRhsTranspose_2 .. ▸ hb, Option.bind_eq_some_iff.2 ⟨m, hm, rfl⟩⟩⟩⟩
  · intro p q j hp hq hj
    rw [hrget (p ++ q ++ [j]) (by simp [hp.length_eq, hq.length_eq])]
    apply List.map_congr_left
    intro kk hkk
    have hkk' := List.mem_range.1 hkk
    rw [bcIdx_append (β := p ++ q) (τ := [j]) (s := ba ++ List.replicate bb.length 1) (t := [n]) (by simp) (by simp [hp.length_eq, hq.length_eq]),
        bcIdx_append (β := p ++ q) (τ := [j]) (s := bb) (t := [n]) (by simp) (by simp [hq.length_eq]), bcIdx_self (inShape_one.2 hj)]
    rw [bcIdx_append_ones hp hq, bcIdx_append_right hq]
    have e1 : p ++ List.replicate bb.length 0 ++ [j] ++ [kk] = p ++ List.replicate bb.length 0 ++ [j, kk] := by simp
    have e2 : q ++ [j] ++ [kk] = q ++ [j, kk] := by simp
    rw [e1, e2, haget p j kk hp hj hkk', htbget q kk j hq.length_eq]
    rfl

theorem dot_elem_x1 (ba : Shape) (k : Nat) :
    ∃ r, dot (ba ++ [k]) [k] = some r ∧ r.shape = ba ∧
      ∀ p, InShape p ba → r.get p = (List.range k).map (fun kk => (p ++ [kk], [kk])) := by
  obtain ⟨a, ha, hash, haget⟩ := reshape_tile_ones (ba ++ [k])
  obtain ⟨m, hm, -, hrsh, hrget⟩ := contract_last a ⟨[k], fun d => scatter d [0]⟩ ba [] ba k (by rw [hash]) rfl (by simp)
  refine ⟨_, ?_, hrsh, ?_⟩
  · exact Option.bind_eq_some_iff.2 ⟨_, dotLhsReshape_x1 .., Option.bind_eq_some_iff.2 ⟨a, dotLhsTile_x1 .. ▸ ha,
      Option.bind_eq_some_iff.2 ⟨_, dotRhsTranspose_1 k ▸ transpose_ident rfl, Option.bind_eq_some_iff.2 ⟨m, hm, rfl⟩⟩⟩⟩
  · intro p hp
    rw [hrget p hp.length_eq]
    apply List.map_congr_left
    intro kk hkk
    have hkk' := List.mem_range.1 hkk
    rw [bcIdx_self hp, haget (p ++ [kk]) (Shape.inShape_append hp (inShape_one.2 hkk'))]
    simp [scatter]

theorem dot_eq_spec (sa sb : Shape) (s : Arr (List Term)) (ha : 1 ≤ sa.length) (hb : 1 ≤ sb.length) (hpb : Pos sb)
    (hacc : specDot sa sb = some s) :
    ∃ r, dot sa sb = some r ∧ r.shape = s.shape ∧ ∀ d, InShape d s.shape → r.get d = s.get d := by
  obtain ⟨ba, k, rfl⟩ := List.exists_snoc sa ha
  rcases singleton_or_append_two sb hb with ⟨k', rfl⟩ | ⟨bb, k', n, rfl⟩
  · rw [specDot_x1] at hacc
    split at hacc <;> cases hacc
    subst k'
    obtain ⟨r, hr, hsh, hget⟩ := dot_elem_x1 ba k
    refine ⟨r, hr, hsh, fun d hd => ?_⟩
    rw [hget d hd]
    simp [← hd.length_eq]
  · rw [specDot_x2] at hacc
    split at hacc <;> cases hacc
    subst k'
    obtain ⟨r, hr, hsh, hget⟩ := dot_elem_x2 ba bb k n (Shape.pos_append.1 hpb).1
    refine ⟨r, hr, hsh, fun d hd => ?_⟩
    obtain ⟨pq, j, rfl, hpq, hj⟩ := inShape_append_one hd
    obtain ⟨p, q, rfl, hp, hq⟩ := Shape.inShape_append_split.1 hpq
    rw [hget p q j hp hq hj]
    simp [← hp.length_eq, ← hq.length_eq]

theorem outer_eq_spec (sa sb : Shape) (hpb : Pos sb) :
    ∃ r, outer sa sb = some r ∧ r.shape = (specOuter sa sb).shape ∧
      ∀ d, InShape d (specOuter sa sb).shape → r.get d = (specOuter sa sb).get d := by
  -- the lhs column `reshape(flatten lhs, (-1, 1))` at `[x, 0]` is the flattened lhs at `[x]`
  obtain ⟨l, (hl : reshape _ [prod sa, 1] = some l), (hlsh : l.shape = [prod sa, 1]), hlget⟩ :=
    reshape_insert_ones (flatten (ident sa)) [prod sa] [] 1 rfl
  have hbc : broadcastShape [prod sa, 1] [prod sb] = some [prod sa, prod sb] :=
    broadcastShape_ones_right [prod sa] fun x hx => List.mem_singleton.1 hx ▸ prod_pos hpb
  simp only [outer, Option.bind_eq_bind, hl, Option.bind_some, mulT_some (b := flatten (ident sb)) hbc hlsh rfl]
  refine ⟨_, rfl, rfl, fun d hd => ?_⟩
  obtain ⟨p, x, y, rfl, hp, hx, hy⟩ := inShape_append_two (s := []) hd
  obtain rfl := List.eq_nil_of_length_eq_zero hp.length_eq
  have h1 : bcIdx [x, y] [prod sa, 1] = [x, 0] :=
    bcIdx_append_ones (s := [prod sa]) (t := [prod sb]) (inShape_one.2 hx) (inShape_one.2 hy)
  have h2 : bcIdx [x, y] [prod sb] = [y] := bcIdx_append_right (p := [x]) (inShape_one.2 hy)
  simp only [List.nil_append, h1, h2]
  exact congrArg (·, _) (hlget [x] [] (inShape_one.2 hx) trivial)

end NmVerif
