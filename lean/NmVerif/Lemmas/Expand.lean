import NmVerif.Index.Expand
import NmVerif.Lemmas.SelCommon
import NmVerif.Lemmas.ListBasics
/-
  Lemmas for `view::expand` with SEVERAL axes and per-axis spacings (repeated axes included).

  SPEC (documented definition, composed per axis): a spacing insertion with spacing `p` puts source entry `q` of the axis
  at position `q·(p+1)`.  Insertions on the same axis compose, so with the (normalised) axis list `ks` and the
  spacing list `sps` source entry `q` of axis `j` lands on position `q · expandFactor ks sps j`, where
  `expandFactor ks sps j = ∏ { sps[i] + 1 | ks[i] = j }` (1 for an axis that is not listed, `sps[i] + 1` for an axis
  listed once); the extent becomes `n + (n - 1)·(factor - 1)`, every other position holds the fill value.
-/
namespace NmVerif.Index

/-- `∏ { sps[i] + 1 | ks[i] = j }` -/
def expandFactor : List Nat → List Nat → Nat → Nat
  | k :: ks, sp :: sps, j => (if k = j then sp + 1 else 1) * expandFactor ks sps j
  | _, _, _ => 1

theorem expandFactor_pos (ks sps : List Nat) (j : Nat) : 0 < expandFactor ks sps j := by
  fun_induction expandFactor ks sps j with
  | case1 k ks sp sps j ih => split <;> exact Nat.mul_pos (by omega) ih
  | case2 => exact Nat.one_pos

theorem expandFactor_not_mem (ks sps : List Nat) (j : Nat) (h : j ∉ ks) : expandFactor ks sps j = 1 := by
  fun_induction expandFactor ks sps j with
  | case1 k ks sp sps j ih =>
    rw [List.mem_cons, not_or] at h
    rw [if_neg (Ne.symm h.1), ih h.2]
  | case2 => rfl

theorem expandFactor_nodup (ks sps : List Nat) (hn : ks.Nodup) (i : Nat) (k sp : Nat)
    (hk : ks[i]? = some k) (hs : sps[i]? = some sp) : expandFactor ks sps k = sp + 1 := by
  induction ks generalizing sps i with
  | nil => simp at hk
  | cons k0 ks ih =>
    cases sps with
    | nil => simp at hs
    | cons sp0 sps =>
      simp only [List.nodup_cons] at hn
      cases i with
      | zero =>
        simp only [List.getElem?_cons_zero, Option.some.injEq] at hk hs
        subst hk hs
        simp [expandFactor, expandFactor_not_mem ks sps k0 hn.1]
      | succ i =>
        simp only [List.getElem?_cons_succ] at hk hs
        have hmem : k ∈ ks := List.mem_of_getElem? hk
        have hne : ¬ k0 = k := fun e => hn.1 (e ▸ hmem)
        simp [expandFactor, hne, ih sps hn.2 i hk hs]

theorem axesNorm_of_normalizeAxes {n : Nat} {axes : List Int} {ks : List Nat} (h : normalizeAxes axes n = some ks) :
    AxesNorm n axes ks := by
  induction axes generalizing ks with
  | nil => simp [normalizeAxes] at h; subst h; exact .nil
  | cons a axes ih =>
    simp only [normalizeAxes, List.mapM_cons, Option.bind_eq_bind, Option.bind_eq_some_iff, Option.pure_def,
      Option.some.injEq] at h
    obtain ⟨k, hk, ks', hks, rfl⟩ := h
    exact .cons hk (ih (by simpa [normalizeAxes] using hks))

/-- inserting spacing `sp` and then expanding by the remaining factor `F` is one expansion by the factor `(sp+1)·F` -/
private theorem extent_step (e sp F : Nat) (hF : 0 < F) :
    (e + (e - 1) * sp) + ((e + (e - 1) * sp) - 1) * (F - 1) = e + (e - 1) * ((sp + 1) * F - 1) := by
  rcases Nat.eq_zero_or_pos e with rfl | he
  · simp
  · have h1 := Nat.add_pred_mul_pred e (sp + 1) he (Nat.succ_pos _)
    rw [Nat.add_sub_cancel] at h1
    rw [h1, Nat.add_pred_mul_pred ((e - 1) * (sp + 1) + 1) F (Nat.succ_pos _) hF,
      Nat.add_pred_mul_pred e ((sp + 1) * F) he (Nat.mul_pos (Nat.succ_pos sp) hF), Nat.add_sub_cancel, Nat.mul_assoc]

theorem shapeExpand_eq (ks sps : List Nat) (s : Shape) (hk : ∀ k ∈ ks, k < s.length) :
    shapeExpand s ks sps = s.mapIdx (fun p e => e + (e - 1) * (expandFactor ks sps p - 1)) := by
  fun_induction shapeExpand s ks sps with
  | case1 s k ks sp sps e he ih =>
    obtain ⟨hks, rfl⟩ := List.getElem?_eq_some_iff.1 he
    rw [ih fun k' hk' => by rw [List.length_set]; exact hk k' (List.mem_cons_of_mem _ hk')]
    refine mapIdx_set _ _ s k _ hks ?_ fun p e hkp => ?_
    · simp only [expandFactor, if_true]
      exact extent_step s[k] sp _ (expandFactor_pos ks sps k)
    · simp only [expandFactor, hkp, if_false, Nat.one_mul]
  | case2 s k ks sp sps he => exact absurd (hk k List.mem_cons_self) (Nat.not_lt.2 (List.getElem?_eq_none_iff.1 he))
  | case3 ks s sps h =>
    simp only [expandFactor.eq_2 _ _ _ h]
    exact (mapIdx_eq_self _ s fun _ e _ => by simp).symm

theorem mod_mul_eq_zero_iff (c F x : Nat) : x % (c * F) = 0 ↔ x % c = 0 ∧ x / c % F = 0 := by
  rw [Nat.mod_mul, Nat.add_eq_zero_iff, Nat.mul_eq_zero]
  refine and_congr_right fun _ => or_iff_right_of_imp ?_
  rintro rfl
  rw [Nat.div_zero, Nat.zero_mod]

theorem getElem?_set_div (r : Idx) (k m : Nat) (hk : k < r.length) (j : Nat) :
    (r.set k (r[k] / m))[j]? = (r[j]?).map (· / (if k = j then m else 1)) := by
  by_cases hkj : k = j
  · subst hkj; rw [List.getElem?_set_self hk, List.getElem?_eq_getElem hk, if_pos rfl]; rfl
  · rw [List.getElem?_set_ne hkj, if_neg hkj]
    cases r[j]? with
    | none => rfl
    | some x => exact congrArg some (Nat.div_one x).symm

/-- the loop with early exit as ONE `mapIdx`: it answers iff every coordinate is a multiple of its factor.  One step: the
    exit test `x % (sp+1) > 0` and the rest of the loop on `x / (sp+1)` are the two halves of `x % ((sp+1)·F) = 0`
    (`mod_mul_eq_zero_iff`) -/
theorem indexExpand_eq (ks sps : List Nat) (r q : Idx) (hk : ∀ k ∈ ks, k < r.length) :
    indexExpand r ks sps = some q ↔
      (∀ j x, r[j]? = some x → x % expandFactor ks sps j = 0) ∧ q = r.mapIdx fun p x => x / expandFactor ks sps p := by
  fun_induction indexExpand r ks sps with
  | case1 r k ks sp sps x he hdiv =>
    refine ⟨nofun, fun h => absurd ?_ (Nat.ne_of_gt hdiv)⟩
    have := ((mod_mul_eq_zero_iff _ _ _).1 (h.1 k x he)).1
    rwa [if_pos rfl] at this
  | case2 r k ks sp sps x he hdiv ih =>
    obtain ⟨hkr, rfl⟩ := List.getElem?_eq_some_iff.1 he
    have hdiv := Nat.eq_zero_of_not_pos hdiv
    have hset := getElem?_set_div r k (sp + 1) hkr
    have hc : ∀ j x, r[j]? = some x → x % (if k = j then sp + 1 else 1) = 0 := by
      intro j x hx
      by_cases hkj : k = j
      · subst hkj; rw [if_pos rfl]; rw [he] at hx; cases hx; exact hdiv
      · rw [if_neg hkj]; exact Nat.mod_one x
    refine (ih fun k' hk' => by rw [List.length_set]; exact hk k' (List.mem_cons_of_mem _ hk')).trans ?_
    simp only [expandFactor]
    rw [mapIdx_set (fun p x => x / expandFactor ks sps p) (fun p x => x / ((if k = p then sp + 1 else 1) * expandFactor ks sps p))
        r k _ hkr (by simp only [if_true, Nat.div_div_eq_div_mul]) fun p x hkp => by simp only [hkp, if_false, Nat.one_mul]]
    refine and_congr_left fun _ => ⟨fun h j x hx => ?_, fun h j y hy => ?_⟩
    · exact (mod_mul_eq_zero_iff _ _ _).2 ⟨hc j x hx, h j _ (by rw [hset, hx]; rfl)⟩
    · rw [hset, Option.map_eq_some_iff] at hy
      obtain ⟨x, hx, rfl⟩ := hy
      exact ((mod_mul_eq_zero_iff _ _ _).1 (h j x hx)).2
  | case3 r k ks sp sps he => exact absurd (hk k List.mem_cons_self) (Nat.not_lt.2 (List.getElem?_eq_none_iff.1 he))
  | case4 ks r sps h =>
    simp only [expandFactor.eq_2 _ _ _ h]
    rw [mapIdx_eq_self _ r fun _ x _ => Nat.div_one x, Option.some.injEq, eq_comm]
    exact (and_iff_right fun _ x _ => Nat.mod_one x).symm

theorem expand_quot_lt (n F x : Nat) (hF : 0 < F) (hx : x < n + (n - 1) * (F - 1)) : x / F < n := by
  rcases Nat.eq_zero_or_pos n with rfl | hn
  · simp at hx
  · exact Nat.div_lt_of_lt_pred_mul_add_one hn (Nat.add_pred_mul_pred n F hn hF ▸ hx)

end NmVerif.Index
