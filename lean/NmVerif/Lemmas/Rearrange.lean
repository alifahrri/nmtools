import NmVerif.Arr
import NmVerif.Index.Transpose
import NmVerif.Index.Reshape
import NmVerif.Index.Flip
import NmVerif.Lemmas.Addressing
import NmVerif.Lemmas.ListBasics
import NmVerif.Lemmas.Axis
import NmVerif.Lemmas.Scatter
/-
  Lemmas behind C03 (axis normalisation: Lemmas/Axis; transposition of lists: Lemmas/Scatter).  Each model function is opened
  once: the view of an accepted transpose (`transposeView_some`), `shape_reshape` as one condition and one value
  (`shapeReshape_eq_some_iff`), the flip loop (`flipGo_does`), the expand_dims loop (`expandGo_spec`; its length:
  `expandGo_length`); a reshape to a shape of the same element count keeps the flattening (`reshapeView_nat`), which carries
  squeeze, atleast_nd and expand_dims.
-/
namespace NmVerif

theorem mapM_bind_opt {α β γ : Type} (f : α → Option β) (g : β → Option γ) (l : List α) (r : List β)
    (h : l.mapM f = some r) : l.mapM (fun a => (f a).bind g) = r.mapM g := by
  refine Option.ext fun t => ?_
  have e : l.map (fun a => (f a).bind g) = r.map g := by
    have := congrArg (List.map (fun o : Option β => o.bind g)) (List.mapM_eq_some_iff.1 h)
    simpa [List.map_map, Function.comp_def] using this
  rw [List.mapM_eq_some_iff, List.mapM_eq_some_iff, e]

/-- `scatter d p` is `scatterAt d p` by definition, hence the closing `rfl`.  Of `hperm` only the length is used (the C++ and
    the model accept repeated axes too); every user has the permutation. -/
theorem transposeView_some (src : Shape) (ax : List Int) (p : List Nat)
    (hn : normalizeAxes src.length ax = some p) (hperm : p.Perm (List.range src.length)) :
    transposeView src (some ax) = some ⟨src, gatherAt src p, fun d => some (scatterAt d p)⟩ := by
  have hat : ax.mapM (atPos src.length) = some p := by
    rw [← hn]; exact List.mapM_option_congr (fun a _ => atPos_eq_normalizeAxis _ a)
  have hal : ax.length = src.length := (List.length_of_mapM_eq_some hn).symm.trans (of_perm_range p _ hperm).1
  have hsh : shapeTranspose src (some ax) = some (gatherAt src p) := by
    rw [shapeTranspose, if_pos hal, mapM_bind_opt _ _ _ _ hat]
    exact mapM_getElem?_eq_gatherAt src p (normalizeAxes_lt _ _ _ hn)
  simp only [transposeView, hsh, hat]
  rfl

/-- number of `-1` entries / product of the other entries (as the C++ casts them) -/
def cntNeg (dst : List Int) : Nat := (dst.filter (fun d => d = -1)).length
def prodNonNeg (dst : List Int) : Nat := prod ((dst.filter (fun d => d ≠ -1)).map Int.toNat)

theorem cntNeg_cons (d : Int) (dst : List Int) : cntNeg (d :: dst) = (if d = -1 then 1 else 0) + cntNeg dst := by
  by_cases hd : d = -1 <;> simp [cntNeg, hd, Nat.add_comm]

theorem prodNonNeg_cons (d : Int) (dst : List Int) :
    prodNonNeg (d :: dst) = (if d = -1 then 1 else d.toNat) * prodNonNeg dst := by
  by_cases hd : d = -1 <;> simp [prodNonNeg, hd, prod]

theorem cntNeg_append (a b : List Int) : cntNeg (a ++ b) = cntNeg a + cntNeg b := by
  simp [cntNeg]
theorem prodNonNeg_append (a b : List Int) : prodNonNeg (a ++ b) = prodNonNeg a * prodNonNeg b := by
  simp [prodNonNeg, prod_append]

theorem countNegativeReshape_fold (dst : List Int) (c m : Nat) :
    dst.foldl (fun (acc : Nat × Nat) d => if d = -1 then (acc.1 + 1, acc.2) else (acc.1, acc.2 * d.toNat)) (c, m)
      = (c + cntNeg dst, m * prodNonNeg dst) := by
  induction dst generalizing c m with
  | nil => simp [cntNeg, prodNonNeg, prod]
  | cons d dst ih =>
    rw [List.foldl_cons, cntNeg_cons, prodNonNeg_cons]
    by_cases hd : d = -1
    · simp only [hd, if_true, ih, Nat.one_mul, Nat.add_assoc]
    · simp only [hd, if_false, ih, Nat.zero_add, Nat.mul_assoc]

theorem countNegativeReshape_eq (dst : List Int) :
    countNegativeReshape dst = (cntNeg dst, prodNonNeg dst) := by
  rw [countNegativeReshape, countNegativeReshape_fold, Nat.zero_add, Nat.one_mul]

theorem extentCheck_eq_false_iff (dst : List Int) :
    dst.any (fun d => d != -1 && d ≤ 0) = false ↔ ∀ d ∈ dst, d = -1 ∨ 0 < d := by
  rw [List.any_eq_false]
  refine forall_congr' fun d => imp_congr_right fun _ => ?_
  simp only [Bool.and_eq_true, bne_iff_ne, decide_eq_true_eq]
  omega

theorem shapeReshape_eq_some_iff (src : Shape) (dst : List Int) (s : Shape) :
    shapeReshape src dst = some s ↔
      (cntNeg dst ≤ 1 ∧ (∀ d ∈ dst, d = -1 ∨ 0 < d) ∧ (cntNeg dst = 0 → prod src = prodNonNeg dst) ∧
        prod src % prodNonNeg dst = 0) ∧
      s = dst.map (fun d => if d = -1 then prod src / prodNonNeg dst else d.toNat) := by
  simp only [shapeReshape, countNegativeReshape_eq, Option.ite_none_left_eq_some, Option.some.injEq,
    ← extentCheck_eq_false_iff, Nat.not_lt, Bool.not_eq_true, not_and, Decidable.not_not, and_assoc, eq_comm (a := s)]

theorem shapeReshape_length (src : Shape) (dst : List Int) (s : Shape) (h : shapeReshape src dst = some s) :
    s.length = dst.length := by
  rw [((shapeReshape_eq_some_iff src dst s).1 h).2, List.length_map]

theorem prod_map_infer (dst : List Int) (q : Nat) :
    prod (dst.map (fun d => if d = -1 then q else d.toNat)) = prodNonNeg dst * q ^ cntNeg dst := by
  induction dst with
  | nil => rfl
  | cons d dst ih =>
    rw [List.map_cons, prod, ih, cntNeg_cons, prodNonNeg_cons]
    by_cases hd : d = -1
    · simp only [hd, if_true, Nat.one_mul, Nat.pow_add, Nat.pow_one]
      rw [Nat.mul_left_comm]
    · simp only [hd, if_false, Nat.zero_add, Nat.mul_assoc]

theorem shapeReshape_prod (src : Shape) (dst : List Int) (s : Shape)
    (h : shapeReshape src dst = some s) : prod s = prod src := by
  obtain ⟨⟨h1, _, h3, h4⟩, rfl⟩ := (shapeReshape_eq_some_iff src dst s).1 h
  rw [prod_map_infer]
  rcases Nat.le_one_iff_eq_zero_or_eq_one.1 h1 with hc | hc
  · rw [hc, Nat.pow_zero, Nat.mul_one, h3 hc]
  · rw [hc, Nat.pow_one]
    exact Nat.mul_div_cancel' (Nat.dvd_of_mod_eq_zero h4)

theorem shapeReshape_pos (src : Shape) (dst : List Int) (s : Shape) (hs : Pos src)
    (h : shapeReshape src dst = some s) : Pos s :=
  Shape.prod_pos_iff.mp (shapeReshape_prod src dst s h ▸ prod_pos hs)

theorem cntNeg_ofNat (t : List Nat) : cntNeg (t.map Int.ofNat) = 0 := by
  induction t with
  | nil => rfl
  | cons a t ih => rw [List.map_cons, cntNeg_cons, ih, if_neg nofun]

theorem prodNonNeg_ofNat (t : List Nat) : prodNonNeg (t.map Int.ofNat) = prod t := by
  induction t with
  | nil => rfl
  | cons a t ih =>
    rw [List.map_cons, prodNonNeg_cons, ih, if_neg nofun]; rfl

theorem map_inferred_ofNat (t : List Nat) (q : Nat) :
    (t.map Int.ofNat).map (fun d : Int => if d = -1 then q else d.toNat) = t := by
  induction t with
  | nil => rfl
  | cons a t ih =>
    rw [List.map_cons, List.map_cons, ih, if_neg nofun]; rfl

theorem ofNat_extents_valid (t : List Nat) (ht : Pos t) : ∀ d ∈ t.map Int.ofNat, d = -1 ∨ 0 < d := by
  intro d hd
  obtain ⟨x, hx, rfl⟩ := List.mem_map.1 hd
  exact Or.inr (Int.natCast_pos.2 (ht x hx))

/-- reading through a view whose index map is "same flat position" gives the same flattening -/
theorem reshape_map_flat {α : Type} (a : Arr α) (s : Shape) (hp : prod s = prod a.shape) :
    (allIdx s).map (fun d => a.get (computeIndices (computeOffset d (strides s)) a.shape (strides a.shape)))
      = a.flat := by
  rw [← Shape.map_ndindex_range s, List.map_map]
  unfold Arr.flat
  rw [← Shape.map_ndindex_range a.shape, List.map_map, hp]
  apply List.map_congr_left
  intro k hk
  simp only [Function.comp]
  rw [Shape.offset_ndindex (by rw [hp]; simpa using hk)]
  rfl

theorem shapeReshape_ofNat (src t : Shape) (ht : Pos t) (hp : prod t = prod src) :
    shapeReshape src (t.map Int.ofNat) = some t := by
  rw [shapeReshape_eq_some_iff, cntNeg_ofNat, prodNonNeg_ofNat, map_inferred_ofNat, hp]
  exact ⟨⟨Nat.zero_le _, ofNat_extents_valid t ht, fun _ => rfl, Nat.mod_self _⟩, rfl⟩

theorem reshapeView_nat {α : Type} (a : Arr α) (fill : α) (t : Shape) (hp : prod t = prod a.shape)
    (ha : Pos a.shape) :
    ∃ v, reshapeView a.shape (t.map Int.ofNat) = some v ∧ v.src = a.shape ∧ v.dst = t ∧
      (v.apply a fill).flat = a.flat ∧ v.InBounds := by
  have hpos : Pos t := Shape.prod_pos_iff.mp (hp ▸ prod_pos ha)
  refine ⟨_, by rw [reshapeView, shapeReshape_ofNat _ t hpos hp]; rfl, rfl, rfl, ?_, ?_⟩
  · exact reshape_map_flat a t hp
  · exact IxView.inBounds_of_total fun _ _ => indices_inShape ha _

theorem flipGo_does (axes : Option (List Int)) (dim k0 : Nat) (src d : List Nat) (h : InShape d src) :
    InShape (flipGo axes dim k0 src d) src ∧ flipGo axes dim k0 src (flipGo axes dim k0 src d) = d ∧
    ∀ (j n x : Nat), src[j]? = some n → d[j]? = some x →
      (flipGo axes dim k0 src d)[j]? = some (if flipInAxis axes dim (k0 + j) then n - 1 - x else x) := by
  induction d, src, h using inShape_ind generalizing k0 with
  | nil => exact ⟨trivial, rfl, nofun⟩
  | cons x xs n ns h0 _ ih =>
    obtain ⟨i1, i2, i3⟩ := ih (k0 + 1)
    refine ⟨⟨?_, i1⟩, ?_, fun j m y hm hy => ?_⟩
    · split
      · exact Nat.lt_of_le_of_lt (Nat.sub_le _ _) (Nat.sub_one_lt (Nat.ne_of_gt (Nat.zero_lt_of_lt h0)))
      · exact h0
    · rw [flipGo, flipGo, i2]
      congr 1
      by_cases c : flipInAxis axes dim k0 = true
      · rw [if_pos c, if_pos c]; exact Nat.sub_sub_self (Nat.le_sub_one_of_lt h0)
      · rw [if_neg c, if_neg c]
    · cases j with
      | zero => cases hm; cases hy; rfl
      | succ j => rw [flipGo, List.getElem?_cons_succ, i3 j m y hm hy, Nat.add_right_comm, Nat.add_assoc]

/-- the normalised comparison of `flip_slices` decides membership in NumPy's normalised axis tuple -/
theorem flipInAxis_some (ax : List Int) (nax : List Nat) (dim k : Nat) (hn : normalizeAxes dim ax = some nax) :
    flipInAxis (some ax) dim k = true ↔ k ∈ nax := by
  have key : ∀ a ∈ ax, ((if a < 0 then a + (dim : Int) else a) = (k : Int) ↔ normalizeAxis dim a = some k) := by
    intro a ha
    cases hm : normalizeAxis dim a with
    | none => rw [normalizeAxes, List.mapM_eq_none_of_mem ha hm] at hn; cases hn
    | some m => rw [← hm, normalizeAxis_eq_some_iff, and_iff_right ((normalizeAxis_eq_some_iff dim a m).1 hm).1, eq_comm]
  rw [List.mem_iff_of_mapM_eq_some hn k, flipInAxis, List.any_eq_true]
  exact exists_congr fun a => and_congr_right fun ha => by rw [beq_iff_eq, key a ha]

/-- SPEC side of expand_dims: delete the positions `i, i+1, …` of `out` that are listed in the axes -/
def dropAxes (inAx : Nat → Bool) : Nat → List Nat → List Nat
  | _, [] => []
  | i, x :: xs => if inAx i then dropAxes inAx (i+1) xs else x :: dropAxes inAx (i+1) xs

theorem expandGo_length (nax : List Nat) (k i : Nat) (rest r : List Nat) (h : expandGo nax k i rest = some r) :
    r.length = k := by
  fun_induction expandGo nax k i rest generalizing r
  · cases h; rfl
  · rename_i ih
    obtain ⟨q, hq, rfl⟩ := Option.map_eq_some_iff.1 h
    rw [List.length_cons, ih q hq]
  · cases h
  · rename_i ih
    obtain ⟨q, hq, rfl⟩ := Option.map_eq_some_iff.1 h
    rw [List.length_cons, ih q hq]

/-- `h`: `rest` has one extent per position of `i, …, i+k-1` that is NOT listed — true at the start for duplicate-free axes
    (`n = dim + len axes`); with a repeated axis it fails: the loop runs out of `shape` and returns `none` -/
theorem expandGo_spec (nax : List Nat) (k i : Nat) (rest : List Nat)
    (h : rest.length = ((List.range' i k).filter (fun j => !nax.contains j)).length) :
    ∃ out, expandGo nax k i rest = some out ∧ dropAxes (fun j => nax.contains j) i out = rest ∧
      (∀ p ∈ out.zipIdx i, nax.contains p.2 = true → p.1 = 1) ∧ prod out = prod rest := by
  fun_induction expandGo nax k i rest with
  | case1 =>
    obtain rfl : _ = [] := List.eq_nil_of_length_eq_zero h
    exact ⟨[], rfl, rfl, nofun, rfl⟩
  | case2 k i rest hc ih =>
    rw [List.range'_succ, List.filter_cons_of_neg (by rw [hc]; decide)] at h
    obtain ⟨out, h1, h3, h4, h5⟩ := ih h
    exact ⟨1 :: out, by rw [h1]; rfl, by rw [dropAxes, if_pos hc, h3],
      List.forall_mem_cons.2 ⟨fun _ => rfl, h4⟩, by rw [prod, h5, Nat.one_mul]⟩
  | case3 k i hc =>
    rw [List.range'_succ, List.filter_cons_of_pos (by simpa using hc)] at h
    cases h
  | case4 k i hc s rest' ih =>
    rw [List.range'_succ, List.filter_cons_of_pos (by simpa using hc)] at h
    obtain ⟨out, h1, h3, h4, h5⟩ := ih (Nat.succ.inj h)
    exact ⟨s :: out, by rw [h1]; rfl, by rw [dropAxes, if_neg hc, h3],
      List.forall_mem_cons.2 ⟨fun hin => absurd hin hc, h4⟩, by rw [prod, h5, prod]⟩
end NmVerif

/-! ### expand_dims against NumPy, as C03 states it (C15 derives its accept-side from it) -/

namespace NmVerif.Props.C03
open NmVerif

/-- **expand_dims = NumPy** (int or tuple axis, negative entries allowed) for a source of positive extents: `nax` is NumPy's
    `normalize_axis_tuple(axis, ndim + len(axis))` (duplicate-free); the result has rank `ndim + len(axis)`, extent 1
    at every listed position, the source shape once those positions are deleted, and the same C-order elements, read in bounds. -/
theorem expandDims_eq_spec {α : Type} (a : Arr α) (fill : α) (ax : List Int) (nax : List Nat)
    (hn : normalizeAxes (a.shape.length + ax.length) ax = some nax) (hnd : nax.Nodup) (ha : Pos a.shape) :
    ∃ v, expandDimsView a.shape ax = some v ∧ v.src = a.shape ∧
      v.dst.length = a.shape.length + ax.length ∧
      (∀ k ∈ nax, v.dst[k]? = some 1) ∧
      dropAxes (fun j => nax.contains j) 0 v.dst = a.shape ∧
      (v.apply a fill).flat = a.flat ∧ v.InBounds := by
  have hlen : nax.length = ax.length := List.length_of_mapM_eq_some hn
  have hlt := normalizeAxes_lt _ ax nax hn
  -- of the `dim + len axes` positions `len axes` are listed (duplicate-free, in range), so `dim` are not: the `h` of `expandGo_spec`
  have hcnt := List.length_filter_not_contains (List.range' 0 (a.shape.length + ax.length)) nax (List.nodup_range')
    hnd (fun k hk => List.mem_range'_1.2 ⟨Nat.zero_le _, by rw [Nat.zero_add]; exact hlt k hk⟩)
  rw [List.length_range'] at hcnt
  obtain ⟨out, h1, h3, h4, h5⟩ := expandGo_spec nax (a.shape.length + ax.length) 0 a.shape (by omega)
  have h2 := expandGo_length _ _ _ _ _ h1
  obtain ⟨v, hv1, hv2, rfl, hv4, hv5⟩ := reshapeView_nat a fill out h5 ha
  refine ⟨v, ?_, hv2, h2, ?_, h3, hv4, hv5⟩
  · simp only [expandDimsView, shapeExpandDims, hn, Option.bind_some, h1, hv1]
  · intro k hk
    have hk' : k < v.dst.length := by rw [h2]; exact hlt k hk
    rw [List.getElem?_eq_getElem hk']
    exact congrArg some (h4 (v.dst[k], k) (List.mem_zipIdx_iff_getElem?.2 (List.getElem?_eq_getElem hk'))
      (List.contains_iff_mem.2 hk))

end NmVerif.Props.C03
