import NmVerif.Index.Pad
/-
  SPEC of constant padding (documented definition of view::pad = np.pad(mode='constant') with the widths given
  as `before ++ after`) and proofs that the MODEL meets it.
-/
namespace NmVerif.Index

/-- result shape: `s[k] + before[k] + after[k]` -/
def padShapeSpec (s before after : List Nat) : Shape :=
  List.zipWith (· + ·) (List.zipWith (· + ·) s before) after

/-- `d` lies in the copy of the source placed at offset `before` -/
def InBox : Idx → Shape → List Nat → Prop
  | [], [], [] => True
  | i :: d, s :: ss, b :: bs => (b ≤ i ∧ i < b + s) ∧ InBox d ss bs
  | _, _, _ => False

instance decInBox : (d : Idx) → (s : Shape) → (b : List Nat) → Decidable (InBox d s b)
  | [], [], [] => isTrue trivial
  | _ :: d, _ :: ss, _ :: bs => @instDecidableAnd _ _ _ (decInBox d ss bs)
  | [], _ :: _, _ | [], [], _ :: _ | _ :: _, [], _ | _ :: _, _ :: _, [] => isFalse id

/-- reference element map: inside the box the source element at `d - before`, outside the fill value -/
def padIdxSpec (d : Idx) (s before : List Nat) : Option Idx :=
  if InBox d s before then some (List.zipWith (· - ·) d before) else none

theorem shapePad_eq_spec (s before after : List Nat) (hb : before.length = s.length) (ha : after.length = s.length) :
    shapePad s (before ++ after) = some (padShapeSpec s before after) := by
  rw [shapePad, if_pos (by rw [List.length_append, hb, ha, Nat.two_mul]), ← hb, List.take_left, List.drop_left]
  rfl

theorem shapePad_none (s w : List Nat) (h : 2 * s.length ≠ w.length) : shapePad s w = none :=
  if_neg h

theorem indexPadLoop_eq_spec (d : Idx) (s before rest : List Nat) (hd : d.length = s.length) (hb : before.length = s.length) :
    indexPadLoop d s (before ++ rest) = padIdxSpec d s before := by
  generalize hw : before ++ rest = w
  fun_induction indexPadLoop d s w generalizing before with
  | case1 s w =>
    cases List.length_eq_zero_iff.1 hd.symm
    cases List.length_eq_zero_iff.1 hb
    rfl
  | case2 i d a ss p ws h1 =>
    obtain ⟨b, bs, rfl⟩ := List.exists_cons_of_length_eq_add_one hb
    cases hw
    exact (if_neg fun h => by have := h.1; omega).symm
  | case3 i d a ss p ws h1 ih =>
    obtain ⟨b, bs, rfl⟩ := List.exists_cons_of_length_eq_add_one hb
    cases hw
    have h2 : p ≤ i ∧ i < p + a := by omega
    rw [ih bs (Nat.succ.inj hd) (Nat.succ.inj hb) rfl]
    exact (apply_ite (Option.map _) ..).trans (ite_congr (propext (and_iff_right h2)).symm (fun _ => rfl) fun _ => rfl)
  | case4 i d s w h =>
    obtain ⟨a, ss, rfl⟩ := List.exists_cons_of_length_eq_add_one hd.symm
    obtain ⟨b, bs, rfl⟩ := List.exists_cons_of_length_eq_add_one hb
    exact (h _ _ _ _ rfl hw.symm).elim

theorem padIdxSpec_inShape {d i : Idx} {s before : List Nat} (h : padIdxSpec d s before = some i) : InShape i s := by
  revert h
  fun_cases padIdxSpec d s before with
  | case2 => nofun
  | case1 hbox =>
    rintro ⟨⟩
    fun_induction InBox d s before with
    | case1 => trivial
    | case2 i d a ss b bs ih => exact ⟨Nat.sub_lt_left_of_lt_add hbox.1.1 hbox.1.2, ih hbox.2⟩
    | case3 => exact hbox.elim

end NmVerif.Index
