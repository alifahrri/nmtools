import NmVerif.Index.Diagonal
import NmVerif.Lemmas.SelCommon
import NmVerif.Lemmas.DiagLen
/-
  `view::diagonal` (any rank, any accepted axis pair).  SPEC notion: `removeTwo l a1 a2`, the list without positions `a1`
  and `a2` (NumPy: the shape / index without the two diagonal axes); the C++ loops that `continue` on the two axes
  (`othersAux`, `scatterOthers`) compute exactly that.
-/
namespace NmVerif.Index

/-- the list without positions `a1` and `a2` (the larger position is removed first, so the smaller one is unaffected) -/
def removeTwo {α : Type} (l : List α) (a1 a2 : Nat) : List α := (l.eraseIdx (max a1 a2)).eraseIdx (min a1 a2)

theorem othersAux_comm {α : Type} (a1 a2 : Nat) (i : Nat) (l : List α) : othersAux a1 a2 i l = othersAux a2 a1 i l := by
  induction l generalizing i with
  | nil => rfl
  | cons x xs ih => simp only [othersAux, ih, Or.comm]

theorem othersAux_of_lt {α : Type} (a b i : Nat) (l : List α) (ha : a < i) (hb : b < i) : othersAux a b i l = l := by
  induction l generalizing i with
  | nil => rfl
  | cons y ys ih =>
    have : ¬ (i = a ∨ i = b) := by omega
    simp only [othersAux, this, if_false, ih (i + 1) (Nat.lt_succ_of_lt ha) (Nat.lt_succ_of_lt hb)]

/-- the loop counter `i` is beyond axis `a`: only axis `b + i` is still skipped -/
theorem othersAux_passed {α : Type} (a b i : Nat) (l : List α) (ha : a < i) :
    othersAux a (b + i) i l = l.eraseIdx b := by
  induction l generalizing b i with
  | nil => rfl
  | cons x xs ih =>
    cases b with
    | zero =>
      simp only [Nat.zero_add, othersAux, or_true, if_true, List.eraseIdx_zero, List.tail_cons]
      exact othersAux_of_lt a i (i + 1) xs (Nat.lt_succ_of_lt ha) (Nat.lt_succ_self i)
    | succ b =>
      have h1 : ¬ (i = a ∨ i = b + 1 + i) := by omega
      simp only [othersAux, h1, if_false, List.eraseIdx_cons_succ]
      rw [Nat.add_assoc, Nat.add_comm 1 i, ih b (i + 1) (Nat.lt_succ_of_lt ha)]

/-- both axes still ahead of the loop counter `i`, `a` the nearer one -/
theorem othersAux_lt {α : Type} (a b i : Nat) (l : List α) (hab : a < b) :
    othersAux (a + i) (b + i) i l = (l.eraseIdx b).eraseIdx a := by
  induction l generalizing a b i with
  | nil => rfl
  | cons x xs ih =>
    cases b with
    | zero => exact absurd hab (Nat.not_lt_zero a)
    | succ b =>
      have e : ∀ c, c + 1 + i = c + (i + 1) := fun c => by rw [Nat.add_assoc, Nat.add_comm 1 i]
      cases a with
      | zero =>
        simp only [Nat.zero_add, othersAux, true_or, if_true, List.eraseIdx_cons_succ, List.eraseIdx_zero,
          List.tail_cons]
        rw [e, othersAux_passed i b (i + 1) xs (Nat.lt_succ_self i)]
      | succ a =>
        have h1 : ¬ (i = a + 1 + i ∨ i = b + 1 + i) := by omega
        simp only [othersAux, h1, if_false, List.eraseIdx_cons_succ]
        rw [e, e, ih a b (i + 1) (Nat.lt_of_succ_lt_succ hab)]

theorem removeTwo_comm {α : Type} (l : List α) (a1 a2 : Nat) : removeTwo l a1 a2 = removeTwo l a2 a1 := by
  unfold removeTwo; rw [Nat.max_comm, Nat.min_comm]

theorem removeTwo_of_lt {α : Type} (l : List α) {a b : Nat} (h : a < b) :
    removeTwo l a b = (l.eraseIdx b).eraseIdx a := by
  unfold removeTwo
  rw [Nat.max_eq_right (Nat.le_of_lt h), Nat.min_eq_left (Nat.le_of_lt h)]

theorem othersAux_eq_removeTwo {α : Type} (a1 a2 : Nat) (l : List α) (hne : a1 ≠ a2) :
    othersAux a1 a2 0 l = removeTwo l a1 a2 := by
  rcases Nat.lt_or_gt_of_ne hne with h | h
  · rw [removeTwo_of_lt l h]
    exact othersAux_lt a1 a2 0 l h
  · rw [removeTwo_comm, removeTwo_of_lt l h, othersAux_comm]
    exact othersAux_lt a2 a1 0 l h

theorem i2u_clamp (m : Int) : i2u (if m < 0 then 0 else m) = m.toNat := by
  rw [i2u_of_nonneg _ (by split <;> omega), toNat_clamp]

theorem shapeDiagonal_eq (s : Shape) (off : Int) (a1 a2 n1 n2 : Nat) (hne : a1 ≠ a2)
    (hn1 : s[a1]? = some n1) (hn2 : s[a2]? = some n2) :
    shapeDiagonal s off a1 a2 =
      some (removeTwo s a1 a2 ++ [Props.C04.diagLen n1 n2 off]) := by
  simp only [shapeDiagonal, hn1, hn2, i2u_clamp, othersAux_eq_removeTwo a1 a2 s hne, ite_neg_add_eq_add_min,
    ite_pos_sub_eq_sub_max, ite_lt_eq_min, Props.C04.diagLen]

theorem removeTwo_length {α : Type} (l : List α) (a1 a2 : Nat) (hne : a1 ≠ a2) (h1 : a1 < l.length) (h2 : a2 < l.length) :
    (removeTwo l a1 a2).length + 2 = l.length := by
  have key : ∀ a b, a < b → b < l.length → ((l.eraseIdx b).eraseIdx a).length + 2 = l.length := by
    intro a b hab hb
    rw [List.length_eraseIdx_of_lt (by rw [List.length_eraseIdx_of_lt hb]; omega), List.length_eraseIdx_of_lt hb]
    omega
  rcases Nat.lt_or_gt_of_ne hne with h | h
  · rw [removeTwo_of_lt l h]; exact key a1 a2 h h2
  · rw [removeTwo_comm, removeTwo_of_lt l h]; exact key a2 a1 h h1

theorem othersAux_set {α : Type} (a1 a2 i k : Nat) (l : List α) (x : α) (hk : i + k = a1 ∨ i + k = a2) :
    othersAux a1 a2 i (l.set k x) = othersAux a1 a2 i l := by
  induction l generalizing i k with
  | nil => simp
  | cons y ys ih =>
    cases k with
    | zero =>
      have : i = a1 ∨ i = a2 := by omega
      simp only [List.set_cons_zero, othersAux, this, if_true]
    | succ k =>
      simp only [List.set_cons_succ, othersAux]
      rw [ih (i + 1) k (by omega)]

theorem scatterOthers_length (a1 a2 i n : Nat) (d : Idx) : (scatterOthers a1 a2 i n d).length = n := by
  fun_induction scatterOthers a1 a2 i n d <;> simp [*]

/-- reading the scattered container back with the same skipping loop returns `o`, when `o` has as many entries as the loop
    keeps of a list `l` of the container's length -/
theorem othersAux_scatterOthers {α : Type} (a1 a2 i : Nat) (l : List α) (o rest : Idx)
    (hcount : (othersAux a1 a2 i l).length = o.length) :
    othersAux a1 a2 i (scatterOthers a1 a2 i l.length (o ++ rest)) = o := by
  induction l generalizing i o with
  | nil =>
    obtain rfl : o = [] := List.length_eq_zero_iff.1 hcount.symm
    rfl
  | cons y l ih =>
    rw [List.length_cons]
    unfold scatterOthers
    by_cases hi : i = a1 ∨ i = a2
    · simp only [othersAux, hi, if_true] at hcount ⊢
      exact ih (i + 1) o hcount
    · simp only [othersAux, hi, if_false, List.length_cons] at hcount ⊢
      cases o with
      | nil => simp at hcount
      | cons x xs =>
        simp only [List.cons_append, othersAux, hi, if_false]
        rw [ih (i + 1) xs (by simpa using hcount)]

/-- an index lies inside `s` when it does on the two skipped axes and its remaining coordinates lie inside the remaining
    extents (on the loop itself both axes are alike: no case split on their order, as two `eraseIdx` would need) -/
theorem inShape_of_othersAux (a1 a2 i : Nat) (r : Idx) (s : Shape) (hl : r.length = s.length)
    (hax : ∀ k x e, i + k = a1 ∨ i + k = a2 → r[k]? = some x → s[k]? = some e → x < e)
    (hrest : InShape (othersAux a1 a2 i r) (othersAux a1 a2 i s)) : InShape r s := by
  induction s generalizing r i with
  | nil => cases List.length_eq_zero_iff.1 hl; trivial
  | cons e s ih =>
    obtain ⟨x, r, rfl⟩ := List.exists_cons_of_length_eq_add_one hl
    have tl := ih (i + 1) r (Nat.succ.inj hl) fun k x e hk =>
      hax (k + 1) x e (by rwa [Nat.add_assoc, Nat.add_comm 1 k] at hk)
    unfold othersAux at hrest
    by_cases hi : i = a1 ∨ i = a2
    · rw [if_pos hi, if_pos hi] at hrest
      exact ⟨hax 0 x e hi rfl rfl, tl hrest⟩
    · rw [if_neg hi, if_neg hi] at hrest
      exact ⟨hrest.1, tl hrest.2⟩

/-- `o` = the coordinates on the remaining axes, `j` = the position on the diagonal -/
theorem indexDiagonal_spec (s : Shape) (o : Idx) (j : Nat) (off : Int) (a1 a2 : Nat) (hne : a1 ≠ a2)
    (h1 : a1 < s.length) (h2 : a2 < s.length) (ho : o.length + 2 = s.length) :
    ∃ r, indexDiagonal s (o ++ [j]) off a1 a2 = some r ∧ r.length = s.length ∧
      r[a1]? = some (j + (max (-off) 0).toNat) ∧
      r[a2]? = some (j + (max off 0).toNat) ∧ removeTwo r a1 a2 = o := by
  have e1 : (if off < 0 then (-off).toNat else 0) = (max (-off) 0).toNat := by
    by_cases h : off < 0
    · rw [if_pos h, Int.max_eq_left (Int.neg_nonneg_of_nonpos (Int.le_of_lt h))]
    · rw [if_neg h, Int.max_eq_right (Int.neg_nonpos_of_nonneg (Int.not_lt.1 h))]; rfl
  have e2 : (if off > 0 then off.toNat else 0) = (max off 0).toNat := by
    by_cases h : off > 0
    · rw [if_pos h, Int.max_eq_left (Int.le_of_lt h)]
    · rw [if_neg h, Int.max_eq_right (Int.not_lt.1 h)]; rfl
  simp only [indexDiagonal, List.getLast?_append, List.getLast?_singleton, Option.some_or, e1, e2]
  refine ⟨_, rfl, by rw [List.length_set, List.length_set, scatterOthers_length], ?_, ?_, ?_⟩
  · rw [List.getElem?_set_ne hne.symm, List.getElem?_set_self (by rw [scatterOthers_length]; exact h1)]
  · rw [List.getElem?_set_self (by rw [List.length_set, scatterOthers_length]; exact h2)]
  · rw [← othersAux_eq_removeTwo a1 a2 _ hne, othersAux_set a1 a2 0 a2 _ _ (by omega),
      othersAux_set a1 a2 0 a1 _ _ (by omega)]
    exact othersAux_scatterOthers a1 a2 0 s o [j] (by
      rw [othersAux_eq_removeTwo a1 a2 s hne]
      have := removeTwo_length s a1 a2 hne h1 h2
      omega)

end NmVerif.Index
