import NmVerif.Static
import NmVerif.Lemmas.LeL
/-
  C11: `LeAll`, the order in which a run-time shape lies under the maxima of a clipped shape type, and what it is closed
  under.  It is the relation `LeL` (`leAll_eq_leL`): what Lemmas/LeL has, the induction principle included, is transported.
-/
namespace NmVerif.Static
open NmVerif

theorem leAll_eq_leL : LeAll = LeL := by
  funext a b
  induction a generalizing b with
  | nil => cases b <;> rfl
  | cons x xs ih => cases b with
    | nil => rfl
    | cons y ys => exact congrArg (x ≤ y ∧ ·) (ih ys)

theorem LeAll.ind {motive : (a b : List Nat) → LeAll a b → Prop} (nil : motive [] [] trivial)
    (cons : ∀ {x y xs ys} (hxy : x ≤ y) (h : LeAll xs ys), motive xs ys h → motive (x :: xs) (y :: ys) ⟨hxy, h⟩)
    {a b} (h : LeAll a b) : motive a b h :=
  LeL.induction (motive := fun a b => ∀ h : LeAll a b, motive a b h) (fun _ => nil)
    (fun hxy _ ih h => cons hxy h.2 (ih h.2)) (leAll_eq_leL ▸ h) h

theorem LeAll.length_eq {a b : List Nat} (h : LeAll a b) : a.length = b.length :=
  LeL.length_eq (leAll_eq_leL ▸ h)

theorem LeAll.refl (a : List Nat) : LeAll a a := leAll_eq_leL ▸ LeL.refl a

theorem LeAll.trans {a b c : List Nat} (h : LeAll a b) (h2 : LeAll b c) : LeAll a c := by
  induction h using LeAll.ind generalizing c with
  | nil => exact h2
  | cons hxy _ ih =>
    cases c with
    | nil => exact h2.elim
    | cons => exact ⟨Nat.le_trans hxy h2.1, ih h2.2⟩

theorem LeAll.prod_le {a b : List Nat} (h : LeAll a b) : prod a ≤ prod b :=
  LeL.prod_le (leAll_eq_leL ▸ h)

theorem LeAll.append : ∀ {a b c d : List Nat}, LeAll a b → LeAll c d → LeAll (a ++ c) (b ++ d) := by
  rw [leAll_eq_leL]; exact LeL.append

theorem LeAll.reverse : ∀ {a b : List Nat}, LeAll a b → LeAll a.reverse b.reverse := by
  rw [leAll_eq_leL]; exact LeL.reverse

theorem LeAll.getD_le {a b : List Nat} (h : LeAll a b) (i : Nat) : a.getD i 0 ≤ b.getD i 0 := by
  induction h using LeAll.ind generalizing i with
  | nil => exact Nat.le_refl _
  | cons hxy _ ih =>
    cases i with
    | zero => exact hxy
    | succ i => exact ih i

theorem LeAll.take {a b : List Nat} (n : Nat) (h : LeAll a b) : LeAll (a.take n) (b.take n) := by
  induction h using LeAll.ind generalizing n with
  | nil => rw [List.take_nil]; trivial
  | cons hxy _ ih =>
    cases n with
    | zero => trivial
    | succ n => exact ⟨hxy, ih n⟩

theorem LeAll.drop {a b : List Nat} (n : Nat) (h : LeAll a b) : LeAll (a.drop n) (b.drop n) := by
  induction h using LeAll.ind generalizing n with
  | nil => rw [List.drop_nil]; trivial
  | cons hxy h ih =>
    cases n with
    | zero => exact ⟨hxy, h⟩
    | succ n => exact ih n

theorem LeAll.set {a b : List Nat} (i x : Nat) (h : LeAll a b) : LeAll (a.set i x) (b.set i x) := by
  induction h using LeAll.ind generalizing i with
  | nil => trivial
  | cons hxy h ih =>
    cases i with
    | zero => exact ⟨Nat.le_refl _, h⟩
    | succ i => exact ⟨hxy, ih i⟩

theorem leAll_set_le {s b : List Nat} (a n c : Nat) (hl : LeAll s b) (h : s[a]? = some n) (hc : c ≤ n) :
    LeAll (s.set a c) b := by
  induction hl using LeAll.ind generalizing a with
  | nil => exact nomatch h
  | cons hxy hl ih =>
    cases a with
    | zero => cases h; exact ⟨Nat.le_trans hc hxy, hl⟩
    | succ a => exact ⟨hxy, ih a h⟩

end NmVerif.Static
