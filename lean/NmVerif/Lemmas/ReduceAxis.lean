import NmVerif.Lemmas.Reduce
/-
  Reduction over ONE axis in closed form.  A run of kept positions in front of a shape passes through the model loops
  unchanged (`*_kept_prefix`); a box with one full range among points is a line (`boxIdx_line`).  Hence for
  `pre ++ n :: post`, keepdims either way and any extents: `specShape_axis`, `addressed_axis`; the view over the last axis, `reduceId_last`.
-/
namespace NmVerif.Reduce
open NmVerif

theorem boxIdx_points (d : Idx) : boxIdx (d.map fun x => (x, x+1)) = [d] := by
  induction d with
  | nil => rfl
  | cons x xs ih => rw [List.map_cons, boxIdx_cons_point, ih]; rfl

/-- one full range among points: the line through `dp ++ _ :: dq` -/
theorem boxIdx_line (n : Nat) (dq dp : Idx) :
    boxIdx (dp.map (fun x => (x, x+1)) ++ (0, n) :: dq.map (fun x => (x, x+1))) =
      (List.range n).map (fun k => dp ++ k :: dq) := by
  induction dp with
  | nil => rw [List.map_nil, List.nil_append, boxIdx_cons_zero, boxIdx_points, List.map_eq_flatMap]; rfl
  | cons x xs ih => rw [List.map_cons, List.cons_append, boxIdx_cons_point, ih, List.map_map]; rfl

theorem removeDimsLoop_kept_prefix (p : Nat → Bool) (keep : Bool) (s pre : Shape) (i : Nat)
    (h : ∀ k, i ≤ k → k < i + pre.length → p k = false) :
    removeDimsLoop p keep i (pre ++ s) = pre ++ removeDimsLoop p keep (i + pre.length) s := by
  induction pre generalizing i with
  | nil => rfl
  | cons a t ih =>
    rw [List.cons_append, removeDimsLoop_kept (window_cons h).1, ih (i+1) (window_cons h).2, List.length_cons,
      Nat.add_assoc, Nat.add_comm 1]
    rfl

theorem reductionSlicesLoop_kept_prefix (p : Nat → Bool) (keep : Bool) (d j : Idx) (s pre : Shape) (i ii : Nat) (jp : Idx)
    (hd : d.drop ii = jp ++ j) (hj : jp.length = pre.length) (h : ∀ k, i ≤ k → k < i + pre.length → p k = false) :
    reductionSlicesLoop p keep d i ii (pre ++ s) =
      (reductionSlicesLoop p keep d (i + pre.length) (ii + pre.length) s).map (jp.map (fun x => (x, x+1)) ++ ·) := by
  induction pre generalizing i ii jp with
  | nil =>
    rw [List.length_eq_zero_iff.1 hj]
    exact Option.map_id'.symm
  | cons a t ih =>
    cases jp with
    | nil => simp at hj
    | cons x xs =>
      obtain ⟨hx, hd'⟩ := List.drop_eq_cons hd
      rw [List.cons_append, reductionSlicesLoop_kept (window_cons h).1 keep hx,
        ih (i+1) (ii+1) xs hd' (Nat.succ.inj hj) (window_cons h).2, Option.map_map, List.length_cons,
        Nat.add_right_comm i, Nat.add_right_comm ii]
      rfl

theorem removeDimsLoop_kept_all (p : Nat → Bool) (keep : Bool) (post : Shape) (i : Nat)
    (h : ∀ k, i ≤ k → k < i + post.length → p k = false) : removeDimsLoop p keep i post = post := by
  have := removeDimsLoop_kept_prefix p keep [] post i h
  rwa [List.append_nil, show removeDimsLoop p keep _ [] = [] from rfl, List.append_nil] at this

theorem reductionSlicesLoop_kept_all (p : Nat → Bool) (keep : Bool) (d : Idx) (post : Shape) (i ii : Nat) (jq : Idx)
    (hd : d.drop ii = jq) (hj : jq.length = post.length) (h : ∀ k, i ≤ k → k < i + post.length → p k = false) :
    reductionSlicesLoop p keep d i ii post = some (jq.map (fun x => (x, x+1))) := by
  have := reductionSlicesLoop_kept_prefix p keep d [] [] post i ii jq (by rw [hd, List.append_nil]) hj h
  rw [List.append_nil] at this
  rw [this]
  simp [reductionSlicesLoop]

private theorem single_ne {n k : Nat} (h : k ≠ n) : decide (k ∈ [n]) = false :=
  decide_eq_false (mt List.mem_singleton.1 h)

theorem specShape_axis (pre post : Shape) (n : Nat) (keep : Bool) :
    specShape (pre ++ n :: post) [pre.length] keep = pre ++ (if keep then 1 :: post else post) := by
  have hpost := removeDimsLoop_kept_all (fun k => decide (k ∈ [pre.length])) keep post (pre.length + 1)
    (fun k h1 _ => single_ne (Nat.ne_of_gt h1))
  rw [specShape_eq_loop (fun k => decide (k ∈ [pre.length])) _ keep _ (fun _ _ => rfl),
    removeDimsLoop_kept_prefix _ keep _ pre 0 (fun k _ h2 => single_ne (Nat.ne_of_lt (by rwa [Nat.zero_add] at h2))), Nat.zero_add,
    removeDimsLoop_reduced (p := fun k => decide (k ∈ [pre.length])) (decide_eq_true (List.mem_singleton.2 rfl)), hpost]

/-- reducing ONE axis: result index `jp ++ jq` (`jp ++ 0 :: jq` with keepdims) is fed by the line `jp ++ k :: jq`,
    `k = 0 .. n-1`, in that order -/
theorem addressed_axis (pre post : Shape) (n : Nat) (keep : Bool) (jp jq : Idx) (hp : InShape jp pre) (hq : InShape jq post) :
    addressed (pre ++ n :: post) [pre.length] keep (jp ++ (if keep then 0 :: jq else jq)) =
      (List.range n).map (fun k => jp ++ k :: jq) := by
  obtain ⟨sl, h1, h2, _⟩ := reductionSlicesLoop_addressed (fun k => decide (k ∈ [pre.length])) [pre.length] keep (pre ++ n :: post)
    (fun _ _ => rfl) (jp ++ (if keep then 0 :: jq else jq)) (by
      rw [specShape_axis]
      cases keep
      · exact Shape.inShape_append hp hq
      · exact Shape.inShape_append hp ⟨Nat.one_pos, hq⟩)
  rw [reductionSlicesLoop_kept_prefix _ keep _ _ _ pre 0 0 jp rfl hp.length_eq
      (fun k _ h2 => single_ne (Nat.ne_of_lt (by rwa [Nat.zero_add] at h2))),
    Nat.zero_add, reductionSlicesLoop_reduced (p := fun k => decide (k ∈ [pre.length])) (decide_eq_true (List.mem_singleton.2 rfl)),
    reductionSlicesLoop_kept_all _ keep _ post _ _ jq (by cases keep <;> simp [← hp.length_eq]) hq.length_eq
      (fun k h1 _ => single_ne (Nat.ne_of_gt h1))] at h1
  rw [← h2, ← Option.some.inj h1, slicedReads_eq_box]
  exact boxIdx_line n jq jp

/-- the reduce VIEW over the last axis, spelt `-1`: result index `j` (`j ++ [0]` with keepdims) folds `a[j, 0], a[j, 1], …` -/
theorem reduceId_last {α : Type} (ident : Option α) (op : α → α → α) (init : Option α) (a : Arr α) (rest : Shape)
    (len : Nat) (hs : a.shape = rest ++ [len]) (keep : Bool) :
    ∃ v, reduceId ident op init a (some [-1]) keep = some v ∧ v.shape = (if keep then rest ++ [1] else rest) ∧
      ∀ j, InShape j rest →
        v.get (if keep then j ++ [0] else j) =
          foldNumpy ident op init ((List.range len).map (fun i => a.get (j ++ [i]))) := by
  have hlen : a.shape.length = rest.length + 1 := by rw [hs, List.length_append]; rfl
  obtain ⟨hva, hset⟩ := hlen ▸ validAxes_neg_one rest.length
  have hshape : specShape a.shape (axisSet a.shape.length (some [-1])) keep = if keep then rest ++ [1] else rest := by
    rw [hset, hs, specShape_axis]
    cases keep
    · exact List.append_nil rest
    · rfl
  refine ⟨⟨_, reduceElemId ident op init a (some [-1]) keep⟩, by rw [reduceId, removeDims_eq_spec a.shape _ keep hva, hshape]; rfl,
    rfl, fun j hj => ?_⟩
  have hidx : (if keep then j ++ [0] else j) = j ++ (if keep then [0] else []) := by
    cases keep
    · exact (List.append_nil j).symm
    · rfl
  show reduceElemId ident op init a (some [-1]) keep _ = _
  rw [reduceElemId_eq_spec ident op init a _ keep hva _ (by
      rw [hshape]
      cases keep
      · exact hj
      · exact Shape.inShape_append hj ⟨Nat.one_pos, trivial⟩),
    specReduceElemId, hidx, hset, hs, addressed_axis rest [] len keep j [] hj trivial, List.map_map]
  rfl

end NmVerif.Reduce
