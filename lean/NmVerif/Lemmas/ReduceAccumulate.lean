import NmVerif.Lemmas.Reduce
/-
  `accumulate` (C08): the slices of `accumulate_t::operator()` are points except on the accumulated axis, where they are
  `0 .. d[ax]` (`accumulateSlices_at`), so the view reads `d` with that coordinate running up to `d[ax]` (`accumulateReads_eq`).
-/
namespace NmVerif.Reduce
open NmVerif

theorem accumulateSlices_cons (axis : Int) {d : Idx} {i x : Nat} (hx : d[i]? = some x) (a : Nat) (t : Shape) :
    accumulateSlices axis d i (a :: t) =
      (accumulateSlices axis d (i+1) t).map ((if (i : Int) = axis then 0 else x, x+1) :: ·) := by
  rw [accumulateSlices, hx]

/-- past the accumulated axis every slice is a point: the box is what is left of the indices, `d.drop i` -/
theorem accumulateSlices_past (axis : Int) (d : Idx) (s : Shape) (i : Nat) (j : Idx)
    (hd : d.drop i = j) (hi : axis < (i : Int)) (hj : j.length = s.length) :
    ∃ sl, accumulateSlices axis d i s = some sl ∧ boxIdx sl = [j] := by
  induction s generalizing i j with
  | nil =>
    rw [List.length_eq_zero_iff.1 hj]
    exact ⟨[], rfl, rfl⟩
  | cons a t ih =>
    cases j with
    | nil => simp at hj
    | cons x j' =>
      obtain ⟨hx, hd'⟩ := List.drop_eq_cons hd
      obtain ⟨sl, h1, h3⟩ :=
        ih (i+1) j' hd' (Int.lt_trans hi (Int.ofNat_lt.2 (Nat.lt_succ_self i))) (Nat.succ.inj hj)
      refine ⟨(x, x+1) :: sl, ?_, by rw [boxIdx_cons_point, h3]; rfl⟩
      rw [accumulateSlices_cons axis hx, h1, if_neg (Int.ne_of_gt hi)]; rfl

/-- the accumulated axis is `r` positions ahead of `i` -/
theorem accumulateSlices_at (d : Idx) (i : Nat) (s : Shape) (r : Nat) (j : Idx)
    (hd : d.drop i = j) (hr : r < s.length) (hj : j.length = s.length) :
    ∃ sl m, accumulateSlices ((i + r : Nat) : Int) d i s = some sl ∧ j[r]? = some m ∧
      boxIdx sl = (List.range (m+1)).map (fun x => j.set r x) := by
  induction s generalizing i r j with
  | nil => simp at hr
  | cons a t ih =>
    cases j with
    | nil => simp at hj
    | cons x j' =>
      obtain ⟨hx, hd'⟩ := List.drop_eq_cons hd
      have hj' : j'.length = t.length := Nat.succ.inj hj
      cases r with
      | zero =>
        obtain ⟨sl, h1, h3⟩ := accumulateSlices_past (i : Int) d t (i+1) j' hd' (Int.ofNat_lt.2 (Nat.lt_succ_self i)) hj'
        refine ⟨(0, x+1) :: sl, x, ?_, rfl, ?_⟩
        · rw [Nat.add_zero, accumulateSlices_cons _ hx, h1, if_pos rfl]; rfl
        · rw [boxIdx_cons_zero, h3, List.map_eq_flatMap]; rfl
      | succ r' =>
        obtain ⟨sl, m, h1, h3, h4⟩ := ih (i+1) r' j' hd' (Nat.lt_of_succ_lt_succ hr) hj'
        rw [Nat.add_right_comm, Nat.add_assoc] at h1
        refine ⟨(x, x+1) :: sl, m, ?_, h3, ?_⟩
        · rw [accumulateSlices_cons _ hx, h1, if_neg (fun h : (i : Int) = ((i + (r' + 1) : Nat) : Int) =>
            Nat.ne_of_lt (Nat.lt_add_of_pos_right (Nat.succ_pos r')) (Int.ofNat.inj h))]; rfl
        · rw [boxIdx_cons_point, h4, List.map_map]; rfl

theorem accumulateElem_eq_reads {α : Type} (op : α → α → α) (a : Arr α) (axis : Int) (d : Idx) :
    accumulateElem op a axis d =
      (accumulateReads a.shape axis d).bind (fun r => foldFirst op none (r.map a.get)) := by
  simp only [accumulateElem, accumulateReads]
  cases accumulateSlices (accumulateAxis a.shape.length axis) d 0 a.shape with
  | none => rfl
  | some sl => exact (flattenReduce_sliced none op none a sl).trans (foldNumpy_none op none _)

theorem accumulateAxis_of_valid {n : Nat} {a : Int} (h : ValidAxis n a) :
    accumulateAxis n a = ((normAxis n a : Nat) : Int) :=
  (normAxis_eq h).symm

theorem accumulateReads_eq (s : Shape) (axis : Int) (hv : ValidAxis s.length axis) (d : Idx)
    (hd : d.length = s.length) :
    accumulateReads s axis d = accumAddressed (normAxis s.length axis) d := by
  obtain ⟨sl, m, h1, h3, h4⟩ := accumulateSlices_at d 0 s (normAxis s.length axis) d rfl (normAxis_lt hv) hd
  rw [Nat.zero_add] at h1
  simp [accumulateReads, accumulateAxis_of_valid hv, h1, slicedReads_eq_box sl, h4, accumAddressed, h3]

end NmVerif.Reduce

/-! ### the reads of `accumulate` stay inside the source, as C08 states it (C10 builds on it) -/

namespace NmVerif.Props.C08
open NmVerif NmVerif.Reduce

/-- every source index the accumulate view reads lies inside the source shape -/
theorem accumulate_inBounds (s : Shape) (axis : Int) (hv : ValidAxis s.length axis) (d : Idx) (hd : InShape d s) :
    ∃ r, accumulateReads s axis d = some r ∧ ∀ i ∈ r, InShape i s := by
  have hax : normAxis s.length axis < d.length := by rw [hd.length_eq]; exact normAxis_lt hv
  rw [accumulateReads_eq s axis hv d hd.length_eq, accumAddressed, List.getElem?_eq_getElem hax]
  refine ⟨_, rfl, fun i hi => ?_⟩
  obtain ⟨x, hx, rfl⟩ := List.mem_map.1 hi
  have hlt := ((Shape.inShape_iff_getElem? d s).1 hd).2 _ _ _ (List.getElem?_eq_getElem hax)
    (List.getElem?_eq_getElem (hd.length_eq ▸ hax))
  have := Shape.inShape_set (normAxis s.length axis) hd (Nat.lt_of_lt_of_le (List.mem_range.1 hx) hlt)
  rwa [List.set_getElem_self] at this

end NmVerif.Props.C08
