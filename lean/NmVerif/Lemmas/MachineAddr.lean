import NmVerif.Basic
import NmVerif.Index.MachineAddr
/-
  The machine-width addressing model (Index/MachineAddr): the stride loop is exact while the running product fits the
  element type; the offset loop is the true dot product modulo 2^64.
-/
namespace NmVerif

theorem ITy.lim_le_SZ (t : ITy) (h : t.bits ≤ 64) : t.lim ≤ SZ := by
  unfold ITy.lim
  show _ ≤ 2 ^ 64
  split
  · exact Nat.pow_le_pow_right (by decide) (Nat.le_trans (Nat.sub_le _ _) h)
  · exact Nat.pow_le_pow_right (by decide) h

theorem ITy.mul_exact (t : ITy) {a b : Nat} (h : a * b < t.lim) : t.mul a b = some (a * b) := by
  unfold ITy.mul
  split
  · rfl   -- `split` has decided the overflow test by `h`
  · rw [Nat.mod_eq_of_lt h]

theorem ITy.store_exact (t : ITy) {n : Nat} (h : n < t.lim) : t.store n = some n := by
  simp [ITy.store, h]

theorem mStrideFrom_exact (t : ITy) (xs : List Nat) (hx : Pos xs) (p : Nat) {q : Nat} (e : p * prod xs = q)
    (hf : q < t.lim) : mStrideFrom t p xs = some q := by
  subst e
  induction xs generalizing p with
  | nil => exact congrArg some (Nat.mul_one p).symm
  | cons x xs ih =>
    rw [prod, ← Nat.mul_assoc] at hf ⊢
    -- the partial product is at most the final one
    have hm : t.mul p x = some (p * x) :=
      t.mul_exact (Nat.lt_of_le_of_lt (Nat.le_mul_of_pos_right _ (prod_pos hx.tail)) hf)
    rw [mStrideFrom, hm]
    exact ih hx.tail (p * x) hf

theorem add_mul_mod_step (n acc s i c : Nat) :
    ((acc + s % n * (i % n) % n) % n + c) % n = (acc + (s * i + c)) % n := by
  rw [← Nat.mul_mod, Nat.mod_add_mod, Nat.add_right_comm, Nat.add_mod_mod, Nat.add_right_comm, Nat.add_assoc]

theorem mOffsetFrom_eq (idx st : List Nat) (acc : Nat) (ha : acc < SZ) :
    mOffsetFrom acc idx st = (acc + computeOffset idx st) % SZ := by
  fun_induction mOffsetFrom acc idx st with
  | case1 acc i is s ss ih =>
    rw [ih (Nat.mod_lt _ (by decide))]
    exact add_mul_mod_step SZ acc s i _
  | case2 acc idx st h =>   -- one list has run out: both loops stop
    rw [computeOffset.eq_2 _ _ h]
    exact (Nat.mod_eq_of_lt ha).symm

end NmVerif
