import NmVerif.Lemmas.Functional
/-
  Operands that are `nmtools_maybe<view>` (the result of a view whose arguments are validated at run time).

  Every view function has a maybe branch `is_maybe_v<array_t> ? (has_value ? maybe{view(*array, attributes...)} : Nothing)`
  (view::unary_ufunc, view::reduce, view::transpose, …): `Functor.liftMaybe`.  A composition pushes the maybe result of g in
  front of the remaining operands (`push_operands`, functor.hpp:393, :475) and hands it to the view function of f.
-/
namespace NmVerif.Functional

/-- all operands have a value → the unwrapped operands -/
def allSome {V : Type} : List (Option V) → Option (List V)
  | [] => some []
  | none :: _ => none
  | some x :: r => (allSome r).map (x :: ·)

theorem allSome_map_some {V : Type} (xs : List V) : allSome (xs.map some) = some xs := by
  induction xs with
  | nil => rfl
  | cons x r ih => simp [allSome, ih]

theorem allSome_none {V : Type} (xs : List (Option V)) (h : none ∈ xs) : allSome xs = none := by
  fun_induction allSome xs with
  | case1 => cases h
  | case2 => rfl
  | case3 x r ih => rw [ih (by simpa using h), Option.map_none]

/-- the maybe branch of a view function: unwrap when every operand has a value and FORWARD THE ATTRIBUTES, else Nothing -/
def Functor.liftMaybe {A V : Type} (f : Functor A V) : Functor A (Option V) :=
  ⟨f.arity, fun ats xs => match allSome xs with
    | some ys => (f.fmap ats ys).map some
    | none => [none]⟩

def Fn.liftMaybe {A V : Type} (g : Fn A V) : Fn A (Option V) := ⟨g.f.liftMaybe, g.attrs, g.held.map some⟩

theorem Fn.arity_liftMaybe {A V : Type} (g : Fn A V) : g.liftMaybe.arity = g.arity := by
  simp [Fn.liftMaybe, Fn.arity, Functor.liftMaybe]

theorem Fn.call_liftMaybe {A V : Type} (g : Fn A V) (xs : List V) :
    g.liftMaybe.call (xs.map some) = (g.call xs).map some := by
  simp only [Fn.call, Fn.liftMaybe, Functor.liftMaybe, ← List.map_append, allSome_map_some]

theorem run_liftMaybe {A V : Type} (fs : List (Fn A V)) (ops vs : List V) (h : run fs ops = some (.values vs)) :
    run (fs.map Fn.liftMaybe) (ops.map some) = some (.values (vs.map some)) := by
  fun_induction run fs ops with
  | case1 ops => cases h; rfl
  | case2 g rest ops hg ih =>
    rw [List.map_cons, run_step _ _ _ (by rwa [Fn.arity_liftMaybe, List.length_map]), Fn.arity_liftMaybe,
      ← List.map_take, ← List.map_drop, Fn.call_liftMaybe, ← List.map_append]
    exact ih h
  | case3 | case4 => cases h

end NmVerif.Functional
