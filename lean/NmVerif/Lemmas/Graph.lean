import NmVerif.Functional
/-
  The compute graph of a decorated view tree whose node ids are pairwise distinct: `add_node` only ever meets fresh keys, so
  every step EXTENDS the graph by some keys, nodes and edges (`Graph.Extends`); steps compose by `Extends.trans`, and the
  graph is the spec's node list with the spec's edge set.
-/
namespace NmVerif.Functional
namespace Graph
variable {L : Type}

structure Extends (g g' : Graph L) (ks : List Nat) (ns : List (Nat × L)) (es : List (Nat × Nat)) : Prop where
  keys : g'.keys = g.keys ++ ks
  nodes : g'.nodes = g.nodes ++ ns
  edges : ∀ e, e ∈ g'.edges ↔ e ∈ g.edges ∨ e ∈ es

theorem Extends.refl (g : Graph L) : Extends g g [] [] [] := ⟨by simp, by simp, by simp⟩

theorem Extends.trans {g g1 g2 : Graph L} {k1 k2 n1 n2 e1 e2} (h1 : Extends g g1 k1 n1 e1) (h2 : Extends g1 g2 k2 n2 e2) :
    Extends g g2 (k1 ++ k2) (n1 ++ n2) (e1 ++ e2) :=
  ⟨by rw [h2.keys, h1.keys, List.append_assoc], by rw [h2.nodes, h1.nodes, List.append_assoc],
    fun e => by rw [h2.edges, h1.edges, List.mem_append, or_assoc]⟩

theorem hasNode_iff (g : Graph L) (k : Nat) : g.hasNode k = true ↔ k ∈ g.keys := by
  simp [hasNode]

theorem addNode_fresh (g : Graph L) (k : Nat) (l : L) (h : k ∉ g.keys) : Extends g (g.addNode k l) [k] [(k, l)] [] := by
  rw [addNode, if_neg (fun hh => h ((hasNode_iff g k).1 hh))]
  -- the new entry has no out-edges: the edge LIST is unchanged
  have he : edges ⟨g.entries ++ [(k, l, [])]⟩ = g.edges := by simp [edges, entryEdges]
  exact ⟨by simp [keys], by simp [nodes], by simp [he]⟩

theorem mem_entryEdges_addEdge (x : Nat × L × List Nat) (src dst : Nat) (p : Nat × Nat) :
    p ∈ entryEdges (if x.1 == src && !x.2.2.contains dst then (x.1, x.2.1, x.2.2 ++ [dst]) else x) ↔
      p ∈ entryEdges x ∨ (x.1 = src ∧ p = (src, dst)) := by
  by_cases h1 : x.1 = src
  · by_cases h2 : dst ∈ x.2.2
    · have : p = (src, dst) → p ∈ entryEdges x := fun hp => List.mem_map.2 ⟨dst, h2, by rw [hp, h1]⟩
      simpa [h1, h2] using this
    · simp [entryEdges, h1, h2, eq_comm]
  · simp [h1]

theorem addEdge_spec (g : Graph L) (src dst : Nat) (h : src ∈ g.keys) :
    ∃ g', g.addEdge src dst = some g' ∧ Extends g g' [] [] [(src, dst)] := by
  refine ⟨_, by rw [addEdge, if_pos ((hasNode_iff g src).2 h)], ?_, ?_, fun e => ?_⟩
  · simp only [keys, List.map_map, List.append_nil]
    exact List.map_congr_left fun x _ => by simp only [Function.comp]; split <;> rfl
  · simp only [nodes, List.map_map, List.append_nil]
    exact List.map_congr_left fun x _ => by simp only [Function.comp]; split <;> rfl
  · obtain ⟨y, hy, hk⟩ := List.mem_map.1 h
    simp only [edges, List.flatMap_map, List.mem_flatMap, mem_entryEdges_addEdge, List.mem_singleton]
    constructor
    · rintro ⟨x, hx, hp | ⟨_, hp⟩⟩
      · exact Or.inl ⟨x, hx, hp⟩
      · exact Or.inr hp
    · rintro (⟨x, hx, hp⟩ | hp)
      · exact ⟨x, hx, Or.inl hp⟩
      · exact ⟨y, hy, Or.inr ⟨hk, hp⟩⟩

theorem addEdges_spec {β : Type} (f : β → Nat × Nat) (l : List β) (g : Graph L) (h : ∀ x ∈ l, (f x).1 ∈ g.keys) :
    ∃ g', l.foldlM (fun a x => a.addEdge (f x).1 (f x).2) g = some g' ∧ Extends g g' [] [] (l.map f) := by
  induction l generalizing g with
  | nil => exact ⟨g, rfl, Extends.refl g⟩
  | cons x xs ih =>
    obtain ⟨g1, h1, e1⟩ := addEdge_spec g (f x).1 (f x).2 (h x (by simp))
    obtain ⟨g2, h2, e2⟩ := ih g1 (fun y hy => by rw [e1.keys, List.append_nil]; exact h y (by simp [hy]))
    exact ⟨g2, by simp [List.foldlM_cons, h1, h2], e1.trans e2⟩

theorem mergeEntries_spec (es : List (Nat × L × List Nat)) (g : Graph L)
    (hnd : (g.keys ++ es.map (·.1)).Nodup) :
    ∃ g', es.foldlM mergeEntry g = some g' ∧
      Extends g g' (es.map (·.1)) (es.map fun e => (e.1, e.2.1)) (es.flatMap entryEdges) := by
  induction es generalizing g with
  | nil => exact ⟨g, rfl, Extends.refl g⟩
  | cons x xs ih =>
    have hx : x.1 ∉ g.keys := fun hmem => (List.nodup_append.1 hnd).2.2 x.1 hmem x.1 (by simp) rfl
    have e1 := addNode_fresh g x.1 x.2.1 hx
    obtain ⟨g2, h2, e2⟩ := addEdges_spec (fun d => (x.1, d)) x.2.2 (g.addNode x.1 x.2.1) (by rw [e1.keys]; simp)
    have e12 := e1.trans e2
    obtain ⟨g3, h3, e3⟩ := ih g2 (by rw [e12.keys]; simpa using hnd)
    exact ⟨g3, by simp only [List.foldlM_cons, mergeEntry, h2]; exact h3, e12.trans e3⟩

theorem merge_spec (g sub : Graph L) (h : (g.keys ++ sub.keys).Nodup) :
    ∃ g', g.merge sub = some g' ∧ Extends g g' sub.keys sub.nodes sub.edges :=
  mergeEntries_spec sub.entries g h

theorem Extends.of_empty {g : Graph L} {ks ns es} (h : Extends empty g ks ns es) :
    g.keys = ks ∧ g.nodes = ns ∧ ∀ e, e ∈ g.edges ↔ e ∈ es :=
  ⟨h.keys, h.nodes, fun e => (h.edges e).trans (by simp [empty, Graph.edges])⟩

end Graph
open Graph

theorem Graph.keys_eq_nodes_fst {L : Type} (g : Graph L) : g.keys = g.nodes.map (·.1) := by
  simp [Graph.keys, Graph.nodes]

theorem IView.nid_mem_allIds (v : IView) : v.nid ∈ v.allIds := by
  fun_cases IView.nid v <;> simp [IView.allIds]

theorem IArgs.ids_subset_allIds (a : IArgs) (x : Nat) : x ∈ a.ids → x ∈ a.allIds := by
  fun_induction IArgs.ids a with
  | case1 => nofun
  | case2 v r ih =>
    rw [IArgs.allIds, List.mem_cons, List.mem_append]
    exact Or.imp (· ▸ IView.nid_mem_allIds v) ih

mutual
theorem IView.graph_spec : ∀ (t : IView), t.allIds.Nodup →
    ∃ g, t.graph = some g ∧ Extends empty g t.allIds t.specNodes t.specEdges
  | .leaf n i => fun _ => ⟨_, rfl, addNode_fresh empty n (GLabel.leaf i) (by simp [empty, keys])⟩
  | .node n args => fun h => by
    simp only [IView.allIds] at h
    have hnd := List.nodup_append.1 h
    obtain ⟨g, hg, hk, hn, he⟩ := IArgs.graph_spec args empty (by simpa [empty, keys] using hnd.1)
    have e0 : Extends empty g args.allIds args.specNodes args.specEdges := ⟨hk, hn, he⟩
    have e1 := addNode_fresh g n (.op args.ids) (by rw [hk]; simpa [empty, keys] using fun hm => hnd.2.2 n hm n (by simp) rfl)
    obtain ⟨g2, h2, e2⟩ := addEdges_spec (fun s => (s, n)) args.ids (g.addNode n (.op args.ids))
      (fun s hs => by rw [e1.keys, hk]; simp [IArgs.ids_subset_allIds args s hs])
    refine ⟨g2, ?_, by simpa [IView.allIds, IView.specNodes, IView.specEdges] using (e0.trans e1).trans e2⟩
    simp only [IView.graph, hg, Option.bind_eq_bind, Option.bind_some]; exact h2
theorem IArgs.graph_spec : ∀ (a : IArgs) (g0 : Graph GLabel), (g0.keys ++ a.allIds).Nodup →
    ∃ g, IArgs.graph a g0 = some g ∧ g.keys = g0.keys ++ a.allIds ∧ g.nodes = g0.nodes ++ a.specNodes ∧
      ∀ e, e ∈ g.edges ↔ e ∈ g0.edges ∨ e ∈ a.specEdges
  | .nil => fun g0 _ => ⟨g0, rfl, (Extends.refl g0).keys, (Extends.refl g0).nodes, (Extends.refl g0).edges⟩
  | .cons v r => fun g0 h => by
    rw [IArgs.allIds, ← List.append_assoc] at h
    have hnd1 := (List.nodup_append.1 h).1
    obtain ⟨sub, hs, esub⟩ := IView.graph_spec v (List.nodup_append.1 hnd1).2.1
    obtain ⟨ks, ns, es⟩ := esub.of_empty
    obtain ⟨g1, h1, e1⟩ := merge_spec g0 sub (by rw [ks]; exact hnd1)
    rw [ks, ns] at e1
    obtain ⟨g2, h2, k2, n2, e2⟩ := IArgs.graph_spec r g1 (by rw [e1.keys]; exact h)
    have e := e1.trans ⟨k2, n2, e2⟩
    refine ⟨g2, ?_, e.keys, e.nodes, fun x => ?_⟩
    · simp only [IArgs.graph, hs, Option.bind_eq_bind, Option.bind_some, h1]; exact h2
    · rw [e.edges, IArgs.specEdges, List.mem_append, List.mem_append, es x]
end

end NmVerif.Functional
