import NmVerif.Linalg
import NmVerif.Lemmas.LinalgList
import NmVerif.Lemmas.ListBasics
import NmVerif.Lemmas.Addressing
import NmVerif.Lemmas.Scatter
/-
  Lemmas about the view combinators of NmVerif/Linalg.lean (reshape, tile, transpose/scatter, broadcasting multiply,
  sum over the last axes) on shapes / indices written as `prefix ++ suffix`.
-/
namespace NmVerif
open NmVerif.MB
open Linalg

theorem reshape_some {α : Type} (a : Arr α) (t : Shape) (h : prod a.shape = prod t) :
    reshape a t = some ⟨t, fun d => a.get (ndindex a.shape (computeOffset d (strides t)))⟩ := by
  simp [reshape, h]

theorem reshape_same {α : Type} (a : Arr α) (t : Shape) (h : a.shape = t) :
    ∃ r, reshape a t = some r ∧ r.shape = t ∧ ∀ d, InShape d t → r.get d = a.get d := by
  subst h
  rw [reshape_some a a.shape rfl]
  refine ⟨_, rfl, rfl, ?_⟩
  intro d hd
  simp only
  rw [ndindex_of_offset_eq hd rfl]

theorem reshape_insert_ones {α : Type} (a : Arr α) (P C : Shape) (o : Nat) (h : a.shape = P ++ C) :
    ∃ b, reshape a (P ++ List.replicate o 1 ++ C) = some b ∧ b.shape = P ++ List.replicate o 1 ++ C ∧
      ∀ p c, InShape p P → InShape c C → b.get (p ++ List.replicate o 0 ++ c) = a.get (p ++ c) := by
  have hp : prod a.shape = prod (P ++ List.replicate o 1 ++ C) := by simp [h, prod_append, Shape.prod_replicate_one]
  rw [reshape_some _ _ hp]
  refine ⟨_, rfl, rfl, ?_⟩
  intro p c hp' hc
  simp only
  rw [h, Shape.ndindex_tail hp' (by simp [hp'.length_eq]) hc (Shape.offset_append_ones p P o hp'.length_eq)]

theorem zipWith_mul_replicate_one (s : List Nat) : List.zipWith (· * ·) s (List.replicate s.length 1) = s :=
  (List.zipWith_replicate_right (· * ·) s 1).trans (by simp)

theorem zipWith_mul_ones_left (s : List Nat) : List.zipWith (· * ·) (List.replicate s.length 1) s = s :=
  (List.zipWith_replicate_left (· * ·) 1 s).trans (by simp)

theorem shapeTile_eq_length (s r : List Nat) (h : s.length = r.length) : shapeTile s r = List.zipWith (· * ·) s r := by
  simp [shapeTile, h]

theorem tileIdx_self {d s : List Nat} (h : InShape d s) : tileIdx d s = d :=
  zipWith_drop_self _ (fun _ _ hx => Nat.mod_eq_of_lt hx) h

theorem tileIdx_append {β τ s t : List Nat} (h1 : τ.length = t.length) (h2 : s.length ≤ β.length) :
    tileIdx (β ++ τ) (s ++ t) = tileIdx β s ++ tileIdx τ t := zipWith_drop_append _ h1 h2

theorem tile_ones {α : Type} (a : Arr α) (n : Nat) (h : a.shape.length = n) :
    (tile a (List.replicate n 1)).shape = a.shape ∧ ∀ d, InShape d a.shape → (tile a (List.replicate n 1)).get d = a.get d := by
  subst h
  constructor
  · simp [tile, shapeTile_eq_length, zipWith_mul_replicate_one]
  · intro d hd
    simp [tile, tileIdx_self hd]

/-- the lhs of `matmulv2` and `dot` when the other operand is 1-d -/
theorem reshape_tile_ones (sa : Shape) :
    ∃ a, reshape (tile (ident sa) (List.replicate sa.length 1)) sa = some a ∧ a.shape = sa ∧
      ∀ d, InShape d sa → a.get d = d := by
  have ht := tile_ones (ident sa) sa.length rfl
  obtain ⟨r, hr, hrs, hrg⟩ := reshape_same (tile (ident sa) (List.replicate sa.length 1)) sa ht.1
  refine ⟨r, hr, hrs, ?_⟩
  intro d hd
  rw [hrg d hd, ht.2 d hd]; rfl

theorem tile_last_shape (ba : List Nat) (k n : Nat) :
    shapeTile (ba ++ [k]) (List.replicate ba.length 1 ++ [n]) = ba ++ [k * n] := by
  rw [shapeTile_eq_length _ _ (by simp), List.zipWith_append (by simp), zipWith_mul_replicate_one]
  simp

/-- the lhs of `dot` / `matmulv2` for a rhs of rank ≥ 2: the last axis `k` tiled `n` times and reshaped to `[n, k]` (behind
    `o` unit axes); cell `[j, kk]` is position `j·k + kk` of the tiled axis, which reads the source at `(j·k + kk) % k = kk` -/
theorem reshape_tile_last (ba : List Nat) (o k n : Nat) :
    ∃ a, reshape (tile (ident (ba ++ [k])) (List.replicate ba.length 1 ++ [n])) (ba ++ List.replicate o 1 ++ [n, k]) = some a ∧
      a.shape = ba ++ List.replicate o 1 ++ [n, k] ∧
      ∀ p j kk, InShape p ba → j < n → kk < k → a.get (p ++ List.replicate o 0 ++ [j, kk]) = p ++ [kk] := by
  have hp : prod (tile (ident (ba ++ [k])) (List.replicate ba.length 1 ++ [n])).shape = prod (ba ++ List.replicate o 1 ++ [n, k]) := by
    simp only [tile, ident, tile_last_shape, prod_append, prod_two, prod_singleton, Shape.prod_replicate_one]
    rw [Nat.mul_comm k n]; simp
  rw [reshape_some _ _ hp]
  refine ⟨_, rfl, rfl, ?_⟩
  intro p j kk hp' hj hkk
  simp only [tile, ident, tile_last_shape, id]
  have hlt : j * k + kk < k * n := Nat.mul_comm n k ▸ Nat.mul_add_lt_mul hj hkk
  have hin : InShape (p ++ [j * k + kk]) (ba ++ [k * n]) := Shape.inShape_append hp' (inShape_one.2 hlt)
  have hoff : computeOffset (p ++ [j * k + kk]) (strides (ba ++ [k * n])) =
      computeOffset (p ++ List.replicate o 0 ++ [j, kk]) (strides (ba ++ List.replicate o 1 ++ [n, k])) := by
    rw [Shape.offset_append _ _ _ _ hp'.length_eq, Shape.offset_append _ [j, kk] _ [n, k] (by simp [hp'.length_eq]),
      Shape.offset_append_ones _ _ _ hp'.length_eq]
    simp only [strides, prod, computeOffset, Nat.mul_one, Nat.one_mul, Nat.add_zero]
    rw [Nat.mul_comm k n, Nat.mul_comm k j]
  rw [ndindex_of_offset_eq hin hoff]
  rw [tileIdx_append (β := p) (τ := [j * k + kk]) (s := ba) (t := [k]) (by simp) (by rw [hp'.length_eq]; exact Nat.le_refl _)]
  rw [tileIdx_self hp']
  simp only [tileIdx, List.length_cons, List.length_nil, Nat.sub_self, List.drop_zero, List.zipWith_cons_cons, List.zipWith_nil_right]
  rw [Nat.mul_comm j k, Nat.mul_add_mod, Nat.mod_eq_of_lt hkk]

theorem gatherAt_swap_last2 (γ : List Nat) (x y : Nat) :
    gatherAt (γ ++ [x, y]) (List.range' 0 γ.length ++ [γ.length + 1, γ.length]) = γ ++ [y, x] := by
  rw [gatherAt_append, gatherAt_range' (L := γ ++ [x, y]) (pre := []) (x := γ) (post := [x, y]) (s := 0) rfl rfl rfl]
  simp [gatherAt]

theorem scatter_swap_last2 (γ : List Nat) (x y : Nat) :
    scatter (γ ++ [x, y]) (List.range γ.length ++ [γ.length + 1, γ.length]) = γ ++ [y, x] := by
  rw [List.range_eq_range']
  refine scatterAt_of_gatherAt (gatherAt_swap_last2 γ y x) (by simp) fun k hk => ?_
  simp only [List.length_append, List.length_cons, List.length_nil] at hk
  simp only [List.mem_append, List.mem_range'_1, List.mem_cons, List.not_mem_nil, or_false]
  omega

theorem scatter_range (γ : List Nat) : scatter γ (List.range γ.length) = γ := by
  rw [List.range_eq_range']
  exact scatterAt_of_gatherAt (gatherAt_range' (pre := []) (post := []) (by simp) rfl rfl) (by simp)
    fun k hk => List.mem_range'_1.2 ⟨Nat.zero_le k, by omega⟩

theorem swapLast2_range (n : Nat) : swapLast2 (List.range (n + 2)) = List.range n ++ [n + 1, n] := by
  rw [show List.range (n + 2) = List.range n ++ [n, n + 1] by simp [List.range_succ], swapLast2_append]

theorem transpose_swap_last2 {α : Type} (a : Arr α) (b : Shape) (x y : Nat) (h : a.shape = b ++ [x, y]) :
    ∃ t, transpose a (List.range b.length ++ [b.length + 1, b.length]) = some t ∧ t.shape = b ++ [y, x] ∧
      ∀ q i j, q.length = b.length → t.get (q ++ [j, i]) = a.get (q ++ [i, j]) := by
  unfold transpose
  rw [mapM_getElem?_eq_gatherAt _ _ (by simp [h]; omega), h, List.range_eq_range', gatherAt_swap_last2]
  refine ⟨_, rfl, rfl, fun q i j hq => ?_⟩
  simp only
  rw [← List.range_eq_range', ← hq, scatter_swap_last2]

theorem transpose_ident {s σ sh : List Nat} (h : σ.mapM (fun k => s[k]?) = some sh) :
    transpose (ident s) σ = some ⟨sh, fun d => scatter d σ⟩ := by
  unfold transpose; simp only [ident]; rw [h]; rfl

theorem transpose_range {α : Type} (a : Arr α) : transpose a (List.range a.shape.length) = some ⟨a.shape, fun d => a.get (scatter d (List.range a.shape.length))⟩ := by
  unfold transpose
  rw [List.mapM_getElem?_range]

theorem sumLast_spec {α : Type} (m : Arr α) (S C : Shape) (h : m.shape = S ++ C) (d : Idx) :
    (sumLast C.length m).shape = S ∧ (sumLast C.length m).get d = (allIdx C).map (fun r => m.get (d ++ r)) := by
  simp [sumLast, h]

/-- `multiply` of operands whose shapes broadcast; `h` comes first: it fixes `s`, `t` where a shape equation is given as `rfl` -/
theorem mulT_some {a b : Arr Idx} {s t sh : Shape} (h : broadcastShape s t = some sh) (ha : a.shape = s)
    (hb : b.shape = t) : mulT a b = some ⟨sh, fun d => (a.get (bcIdx d s), b.get (bcIdx d t))⟩ := by
  subst ha hb; rw [mulT, bcast2, h]

/-- the closing `sum(multiply(a, c), last |C| axes)` of a pipeline whose re-arranged operands end in the same block `C` -/
theorem contract_block (a c : Arr Idx) (X Y bs C : Shape) (ha : a.shape = X ++ C) (hc : c.shape = Y ++ C)
    (hbs : broadcastShape X Y = some bs) :
    ∃ m, mulT a c = some m ∧ m.shape = bs ++ C ∧ (sumLast C.length m).shape = bs ∧
      ∀ d, d.length = bs.length →
        (sumLast C.length m).get d = (allIdx C).map (fun cc => (a.get (bcIdx d X ++ cc), c.get (bcIdx d Y ++ cc))) := by
  have hlen := broadcastShape_length hbs
  refine ⟨_, mulT_some (by rw [broadcastShape_append_same _ _ C]; simp [hbs]) ha hc, rfl, (sumLast_spec _ bs C rfl []).1,
    fun d hd => ?_⟩
  rw [(sumLast_spec _ bs C rfl d).2]
  apply List.map_congr_left
  intro cc hcc
  have hcc' : InShape cc C := (Shape.mem_allIdx_iff C cc).1 hcc
  simp only
  rw [bcIdx_append (β := d) (τ := cc) (s := X) (t := C) hcc'.length_eq (by omega),
      bcIdx_append (β := d) (τ := cc) (s := Y) (t := C) hcc'.length_eq (by omega), bcIdx_self hcc']

theorem allIdx_one (k : Nat) : allIdx [k] = (List.range k).map (fun i => [i]) := List.map_eq_flatMap.symm

theorem sumLast_one {α : Type} (m : Arr α) (S : Shape) (K : Nat) (h : m.shape = S ++ [K]) :
    (sumLast 1 m).shape = S ∧ ∀ d, (sumLast 1 m).get d = (List.range K).map (fun kk => m.get (d ++ [kk])) :=
  ⟨(sumLast_spec m S [K] h []).1, fun d => by
    rw [show sumLast 1 m = sumLast [K].length m from rfl, (sumLast_spec m S [K] h d).2, allIdx_one, List.map_map]; rfl⟩

theorem contract_last (a c : Arr Idx) (X Y bs : Shape) (K : Nat) (ha : a.shape = X ++ [K]) (hc : c.shape = Y ++ [K])
    (hbs : broadcastShape X Y = some bs) :
    ∃ m, mulT a c = some m ∧ m.shape = bs ++ [K] ∧ (sumLast 1 m).shape = bs ∧
      ∀ d, d.length = bs.length →
        (sumLast 1 m).get d = (List.range K).map (fun kk => (a.get (bcIdx d X ++ [kk]), c.get (bcIdx d Y ++ [kk]))) := by
  obtain ⟨m, hm, hmsh, hsh, hget⟩ := contract_block a c X Y bs [K] ha hc hbs
  refine ⟨m, hm, hmsh, hsh, fun d hd => ?_⟩
  rw [show sumLast 1 m = sumLast [K].length m from rfl, hget d hd, allIdx_one, List.map_map]
  rfl

end NmVerif
