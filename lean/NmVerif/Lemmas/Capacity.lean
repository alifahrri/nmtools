import NmVerif.Index.Capacity
import NmVerif.Index.SlidingWindow
import NmVerif.Index.Slice
import NmVerif.Index.Roll
import NmVerif.Lemmas.Resize
import NmVerif.Lemmas.Expand
import NmVerif.NN.Pool
import NmVerif.Lemmas.Rearrange
import NmVerif.Lemmas.SelCommon
import NmVerif.Lemmas.Diagonal
import NmVerif.Lemmas.LinalgList
import NmVerif.Lemmas.Broadcast
import NmVerif.Index.Reduce
import NmVerif.Index.Concatenate
import NmVerif.Index.Pad
import NmVerif.Index.Repeat
/-
  How many entries each mirrored index function writes into its result container: one length equation (or bound) per
  function; the capacity theorems of Props/C02.lean are these followed by monotonicity of the bound.  A non-recursive function is
  opened by `revert h; fun_cases f …`: one bullet per defining clause, `nofun` where the clause returns Nothing.
-/
namespace NmVerif.Cap
open NmVerif NmVerif.Index

theorem shapeExpandDims_length (s : Shape) (axes : List Int) (r : Shape) (h : shapeExpandDims s axes = some r) :
    r.length = s.length + axes.length := by
  obtain ⟨nax, _, hg⟩ := Option.bind_eq_some_iff.1 h
  exact expandGo_length _ _ _ _ _ hg

theorem shrinkAxes_length (s : Shape) (ks ws : List Nat) : (shrinkAxes s ks ws).length = s.length := by
  fun_induction shrinkAxes s ks ws with
  | case1 _ _ _ _ _ _ _ ih => rw [ih, List.length_set]
  | case2 => rfl
  | case3 => rfl

theorem shapeSlidingWindow_length (s ws : List Nat) (axes : Option (List Int)) (sc : Bool) (r : Shape)
    (h : shapeSlidingWindow s ws axes sc = some r) : r.length = s.length + ws.length := by
  revert h
  fun_cases shapeSlidingWindow s ws axes sc
  · rintro ⟨⟩
    rw [List.length_append, List.length_map]
  · rintro ⟨⟩
    rw [List.length_append, List.length_append, shrinkAll, List.length_zipWith, List.length_drop,
      Nat.add_comm (min _ _), Nat.sub_add_min_cancel]
  · intro h
    obtain ⟨ks, _, rfl⟩ := Option.map_eq_some_iff.1 h
    rw [List.length_append, shrinkAxes_length]

theorem bind_padZeros_length (o : Option (List Nat)) (n : Nat) (r : List Nat)
    (h : o.bind (Slice.padZeros n) = some r) : r.length = n := by
  obtain ⟨q, _, hp⟩ := Option.bind_eq_some_iff.1 h
  obtain ⟨hl, rfl⟩ := Option.ite_some_none_eq_some.1 hp
  rw [List.length_append, List.length_replicate]; exact Nat.add_sub_cancel' hl

theorem shapeSlice_length_le (s : List Nat) (es : List Slice.Entry) (r : List Nat) (h : Slice.shapeSlice s es = some r) :
    r.length ≤ s.length := by
  rw [bind_padZeros_length _ _ _ (Option.ite_none_left_eq_some.1 (Option.ite_none_left_eq_some.1 h).2).2]
  exact Nat.sub_le _ _

theorem shapeDynamicSlice_length_le (s : List Nat) (es : List Slice.Entry) (r : List Nat)
    (h : Slice.shapeDynamicSlice s es = some r) : r.length ≤ s.length := by
  rw [bind_padZeros_length _ _ _ (Option.ite_none_left_eq_some.1 (Option.ite_none_left_eq_some.1 h).2).2]
  exact Nat.sub_le _ _

theorem insertShift_length (pos val : Nat) (arr : List Nat) : (insertShift pos val arr).length = arr.length := by
  rw [insertShift, List.length_take_of_le (List.length_take_append_cons_drop arr pos val ▸ Nat.le_succ _)]

theorem moveaxisToTranspose_length (dim : Nat) (src dst : List Int) (r : List Nat)
    (h : moveaxisToTranspose dim src dst = some r) : r.length = dim := by
  revert h
  fun_cases moveaxisToTranspose dim src dst
  · nofun
  · rintro ⟨⟩
    rw [List.length_foldl_of_forall _ fun _ _ => insertShift_length _ _ _]
    dsimp +zetaDelta only
    rw [List.length_append, List.length_replicate]
    exact Nat.add_sub_cancel' (Nat.le_trans (List.length_filter_le _ _) (Nat.le_of_eq List.length_range))
  · nofun

theorem shapeExpand_length (s : Shape) (ks sps : List Nat) : (shapeExpand s ks sps).length = s.length := by
  fun_induction shapeExpand s ks sps with
  | case1 _ _ _ _ _ _ _ ih => rw [ih, List.length_set]
  | case2 => rfl
  | case3 => rfl

theorem shapeDiagonal_length (s : Shape) (off : Int) (a1 a2 : Nat) (r : Shape) (hne : a1 ≠ a2)
    (h : shapeDiagonal s off a1 a2 = some r) : r.length + 1 = s.length := by
  revert h
  fun_cases shapeDiagonal s off a1 a2
  · rename_i h2 h1 _ _ _
    rintro ⟨⟩
    have hl := removeTwo_length s a1 a2 hne (List.getElem?_eq_some_iff.1 h1).1 (List.getElem?_eq_some_iff.1 h2).1
    rw [othersAux_eq_removeTwo a1 a2 s hne, List.length_append, List.length_singleton]
    omega
  · nofun

theorem getNeg?_some_le (l : List Nat) (k v : Nat) (h : getNeg? l k = some v) : k ≤ l.length :=
  (Option.ite_none_right_eq_some.1 h).1.2

theorem shapeMatmul_length_le (a b r : Shape) (h : shapeMatmul a b = some r) : r.length ≤ max a.length b.length := by
  revert h
  fun_cases shapeMatmul a b
  · nofun
  · nofun
  · -- n-d · 1-d: `a` without its last axis
    rintro ⟨⟩; exact Nat.le_trans (List.length_take_le' _ _) (Nat.le_max_left _ _)
  · -- 1-d · n-d: `b` without its last but one axis
    rintro ⟨⟩; exact Nat.le_trans (List.length_eraseIdx_le _ _) (Nat.le_max_right _ _)
  · -- 1-d · 1-d: rank 0
    rintro ⟨⟩; exact Nat.zero_le _
  · -- n-d · m-d: the broadcast batch part and two more axes
    rename_i hbs _ h1 _ _ _ _ hn hm
    rintro ⟨⟩
    have ha2 := getNeg?_some_le _ _ _ hm
    have hb1 := getNeg?_some_le _ _ _ hn
    have hb2 : b.length ≠ 1 := fun e => h1 ⟨ha2, e⟩
    have hb2' : 2 ≤ b.length := Nat.lt_of_le_of_ne hb1 (Ne.symm hb2)
    dsimp +zetaDelta only at hbs
    rw [if_neg (Nat.ne_of_gt ha2), if_neg hb2] at hbs
    rw [List.length_append, broadcastShape_length hbs,
      List.length_take_of_le (Nat.sub_le _ _), List.length_take_of_le (Nat.sub_le _ _)]
    show max (a.length - 2) (b.length - 2) + 2 ≤ _
    rw [← Nat.add_max_add_right, Nat.sub_add_cancel ha2, Nat.sub_add_cancel hb2']
    exact Nat.le_refl _
  · nofun
  · nofun

theorem shapePool2d_length (s k st : List Nat) (c : Bool) (r : Shape) (h : NN.shapePool2d s k st c = some r) :
    r.length = s.length := by
  revert h
  fun_cases NN.shapePool2d s k st c
  · nofun
  · rintro ⟨⟩
    rw [List.length_append, List.length_take_of_le (Nat.sub_le _ _)]
    exact Nat.sub_add_cancel (Nat.not_lt.1 ‹_›)
  · nofun

theorem setPy_length {α} (l : List α) (i : Int) (v : α) : (setPy l i v).length = l.length := by
  simp only [setPy]; split <;> simp

theorem addWindowOffsets_length (res : Idx) (axes : List Int) (offs : List Nat) (r : Idx)
    (h : addWindowOffsets res axes offs = some r) : r.length = res.length := by
  fun_induction addWindowOffsets res axes offs
  · rename_i ih; rw [ih h, setPy_length]
  · cases h
  · cases h; rfl

theorem indexSlidingWindow_length_le (d : Idx) (srcDim : Nat) (axes : Option (List Int)) (r : Idx)
    (h : indexSlidingWindow d srcDim axes = some r) : r.length ≤ srcDim := by
  revert h
  fun_cases indexSlidingWindow d srcDim axes
  · rintro ⟨⟩
    rw [List.length_zipWith, List.length_take]
    exact Nat.le_trans (Nat.min_le_left _ _) (Nat.min_le_left _ _)
  · intro h
    rw [addWindowOffsets_length _ _ _ _ h, List.length_take]
    exact Nat.min_le_left _ _

theorem indexRollLoop_length (shape : Shape) (d : Idx) (axes shifts : List Int) (res r : Idx)
    (h : indexRollLoop shape d axes shifts res = some r) : r.length = res.length := by
  fun_induction indexRollLoop shape d axes shifts res
  · cases h; rfl
  · rename_i ih; rw [ih h, setPy_length]
  · cases h
  · cases h

theorem indexResize_length_le (d : Idx) (src dst : Shape) : (indexResize d src dst).length ≤ src.length := by
  fun_induction indexResize d src dst
  · rename_i ih; exact Nat.succ_le_succ ih
  · exact Nat.zero_le _

theorem indexExpand_length (r : Idx) (ks sps : List Nat) (q : Idx) (h : indexExpand r ks sps = some q) :
    q.length = r.length := by
  fun_induction indexExpand r ks sps
  · cases h
  · rename_i ih; rw [ih h, List.length_set]
  · cases h
  · cases h; rfl

theorem indexDiagonal_length (s : Shape) (d : Idx) (off : Int) (a1 a2 : Nat) (r : Idx)
    (h : indexDiagonal s d off a1 a2 = some r) : r.length = s.length := by
  revert h
  fun_cases indexDiagonal s d off a1 a2
  · rintro ⟨⟩; simp [scatterOthers_length]
  · nofun

theorem shapeTranspose_length (s : Shape) (axes : Option (List Int)) (r : Shape) (h : shapeTranspose s axes = some r) :
    r.length = s.length := by
  revert h
  fun_cases shapeTranspose s axes
  · rintro ⟨⟩; exact List.length_reverse
  · intro h; rw [List.length_of_mapM_eq_some h]; assumption
  · nofun

theorem removeDimsLoop_length_le (p : Nat → Bool) (keep : Bool) (i : Nat) (s : Shape) :
    (Reduce.removeDimsLoop p keep i s).length ≤ s.length := by
  fun_induction Reduce.removeDimsLoop p keep i s
  · exact Nat.le_refl _
  · rename_i ih; exact Nat.le_succ_of_le ih
  · rename_i ih; exact Nat.succ_le_succ ih

theorem removeDims_length_le (s : Shape) (axis : Reduce.AxisArg) (keep : Bool) (r : Shape)
    (h : Reduce.removeDims s axis keep = some r) : r.length ≤ s.length := by
  revert h
  fun_cases Reduce.removeDims s axis keep
  · nofun
  · exact fun h => Option.some.inj h ▸ removeDimsLoop_length_le _ _ _ _
  · exact fun h => Option.some.inj h ▸ removeDimsLoop_length_le _ _ _ _
  · nofun

theorem shapeConcatLoop_length_le (axis : Int) (i : Nat) (a b : Shape) :
    (shapeConcatLoop axis i a b).2.length ≤ a.length := by
  fun_induction shapeConcatLoop axis i a b
  · exact Nat.le_refl _
  · exact Nat.zero_le _
  · rename_i hr ih; rw [hr] at ih; exact Nat.succ_le_succ ih
  · rename_i hr ih; rw [hr] at ih; exact Nat.succ_le_succ ih
  · rw [List.length_replicate]; exact Nat.le_refl _

theorem shapeConcatenate_length_le (a b : Shape) (axis : Int) : (shapeConcatenate a b axis).2.length ≤ a.length := by
  simp only [shapeConcatenate]
  split
  · exact shapeConcatLoop_length_le _ 0 a b
  · simp

theorem shapePad_length (s widths r : List Nat) (h : shapePad s widths = some r) : r.length = s.length := by
  obtain ⟨hw, rfl⟩ := Option.ite_some_none_eq_some.1 h
  have h1 : s.length ≤ widths.length := hw ▸ Nat.le_mul_of_pos_left _ (by decide)
  have h2 : widths.length - s.length = s.length := by rw [← hw, Nat.two_mul, Nat.add_sub_cancel]
  rw [List.length_zipWith, List.length_zipWith, List.length_take_of_le h1, List.length_drop, h2,
    Nat.min_self, Nat.min_self]

theorem shapeRepeat_length (s : Shape) (r : Nat) (axis : Int) (t : Shape) (h : shapeRepeat s r axis = some t) :
    t.length = s.length := by
  obtain ⟨_, _, rfl⟩ := Option.map_eq_some_iff.1 h
  exact setPy_length _ _ _

theorem shapeRepeatList_length (s : Shape) (rs : List Nat) (axis : Int) (t : Shape)
    (h : shapeRepeatList s rs axis = some t) : t.length = s.length := by
  obtain ⟨_, _, rfl⟩ := Option.map_eq_some_iff.1 h
  exact setPy_length _ _ _

theorem shapeRoll_length (s : Shape) (axes : List Int) (r : Shape) (h : shapeRoll s axes = some r) :
    r.length = s.length :=
  (Option.ite_some_none_eq_some.1 h).2 ▸ rfl

theorem shapeResize_length (s dst r : Shape) (h : shapeResize s dst = some r) : r.length = dst.length :=
  (Option.ite_some_none_eq_some.1 h).2 ▸ rfl

end NmVerif.Cap
