import NmVerif.Lemmas.Reduce
/-
  `mean` / `var` (C08): `mean_divisor` multiplies the reduced extents, which is the number of elements folded into any
  result element (`meanDivisor_eq_prodSel`, `addressed_length`); `var` broadcasts the keepdims mean back through
  `proj R true`, so every element of a group meets the mean of its own group (`addressed_true_proj`).
-/
namespace NmVerif.Reduce
open NmVerif

/-- the loop body of `mean_divisor` -/
def divStep (S : Shape) (acc : Option Nat) (k : Nat) : Option Nat :=
  match acc, S[k]? with
  | some d, some e => some (d * e)
  | _, _ => none

theorem foldl_divStep_filter (S : Shape) (p : Nat → Bool) (t : Shape) (i c : Nat) (h : S.drop i = t) :
    ((List.range' i t.length).filter p).foldl (divStep S) (some c) = some (c * prodSel p i t) := by
  fun_induction prodSel p i t generalizing c with
  | case1 => exact congrArg some (Nat.mul_one c).symm
  | case2 i a u ih =>
    have h0 : S[i]? = some a := by rw [← List.head?_drop, h]; rfl
    have h' : S.drop (i+1) = u := by rw [← List.tail_drop, h]; rfl
    rw [List.length_cons, List.range'_succ, List.filter_cons]
    split
    · rw [List.foldl_cons, show divStep S (some c) i = some (c * a) by simp only [divStep, h0], ih _ h', Nat.mul_assoc]
    · rw [ih c h', Nat.one_mul]

theorem meanDivisor_eq_prodSel (S : Shape) (R : List Nat) (hnd : R.Nodup) (hlt : ∀ k ∈ R, k < S.length) :
    meanDivisor S (some R) = some (prodSel (fun k => decide (k ∈ R)) 0 S) := by
  -- the extents may be multiplied in any order, so the fold may run over the axes in increasing order
  have hc : ∀ (z : Option Nat) (x y : Nat), divStep S (divStep S z x) y = divStep S (divStep S z y) x := by
    intro z x y
    unfold divStep
    cases z <;> cases S[x]? <;> cases S[y]? <;> simp [Nat.mul_right_comm]
  show R.foldl (divStep S) (some 1) = _
  rw [(List.perm_filter_mem_range R S.length hnd hlt).foldl_eq' (fun x _ y _ z => hc z x y),
    List.range_eq_range', foldl_divStep_filter S _ S 0 1 rfl, Nat.one_mul]

/-- facts about an accepted axis argument used by mean / var: the normalised axis list is accepted again, names the
    same axis set, and `mean_divisor` is the number of elements folded into any result element -/
theorem unwrapAxes_of_valid (s : Shape) (axis : AxisArg) (hv : ValidAxes s.length axis) :
    ∃ ax N, unwrapAxes s.length axis = some ax ∧
      ValidAxes s.length (ax.map (fun l => l.map Int.ofNat)) ∧
      axisSet s.length (ax.map (fun l => l.map Int.ofNat)) = axisSet s.length axis ∧
      meanDivisor s ax = some N ∧
      ∀ keep j, InShape j (specShape s (axisSet s.length axis) keep) →
        (addressed s (axisSet s.length axis) keep j).length = N := by
  cases axis with
  | none =>
    exact ⟨none, _, rfl, hv, rfl,
      (congrArg some (prodSel_range s)).symm,
      fun keep j hj => addressed_length s _ keep j hj⟩
  | some l =>
    obtain ⟨hv', hset⟩ := validAxes_renorm s.length l hv
    exact ⟨some (l.map (normAxis s.length)), _,
      unwrapAxes_some hv.1, hv', hset,
      meanDivisor_eq_prodSel s _ hv.2 (mem_map_normAxis_lt hv.1),
      fun keep j hj => addressed_length s _ keep j hj⟩

theorem unwrapAxes_valid (s : Shape) (_hs : Pos s) (axis : AxisArg) (hv : ValidAxes s.length axis) :
    ∃ ax N, unwrapAxes s.length axis = some ax ∧
      ValidAxes s.length (ax.map (fun l => l.map Int.ofNat)) ∧
      axisSet s.length (ax.map (fun l => l.map Int.ofNat)) = axisSet s.length axis ∧
      meanDivisor s ax = some N ∧
      ∀ keep j, InShape j (specShape s (axisSet s.length axis) keep) →
        (addressed s (axisSet s.length axis) keep j).length = N :=
  unwrapAxes_of_valid s axis hv

theorem mean_eq_spec {α : Type} (add : α → α → α) (divn : α → Nat → α) (a : Arr α) (axis : AxisArg) (keep : Bool)
    (hv : ValidAxes a.shape.length axis) :
    ∃ v, mean add divn a axis keep = some v ∧ v.shape = specShape a.shape (axisSet a.shape.length axis) keep ∧
      ∀ j, InShape j v.shape →
        v.get j = (foldFirst add none ((addressed a.shape (axisSet a.shape.length axis) keep j).map a.get)).map
                    (fun x => divn x (addressed a.shape (axisSet a.shape.length axis) keep j).length) := by
  obtain ⟨ax, N, h1, h2, h3, h4, h5⟩ := unwrapAxes_of_valid a.shape axis hv
  obtain ⟨v, e1, e2, e3⟩ := reduce_map_spec add none a _ keep h2 (Option.map (fun x => divn x N))
  rw [h3] at e2 e3
  refine ⟨v, ?_, e2, fun j hj => ?_⟩
  · rw [← e1]
    simp only [mean, h1, h4]
    cases reduce add none a (ax.map (fun l => l.map Int.ofNat)) keep <;> rfl
  · rw [e3 j hj, h5 keep j (e2 ▸ hj)]
    rfl

theorem mean_spec {α : Type} (add : α → α → α) (divn : α → Nat → α) (a : Arr α) (axis : AxisArg) (keep : Bool)
    (hs : Pos a.shape) (hv : ValidAxes a.shape.length axis) :
    ∃ v, mean add divn a axis keep = some v ∧ v.shape = specShape a.shape (axisSet a.shape.length axis) keep ∧
      ∀ j, InShape j v.shape →
        v.get j = (foldFirst add none ((addressed a.shape (axisSet a.shape.length axis) keep j).map a.get)).map
                    (fun x => divn x (addressed a.shape (axisSet a.shape.length axis) keep j).length) :=
  mean_eq_spec add divn a axis keep hv

theorem var_spec_posAxes {α : Type} (add sub : α → α → α) (sqabs : α → α) (divn : α → Nat → α) (a : Arr α)
    (axis : AxisArg) (ddof : Nat) (keep : Bool) (hv : ValidAxes a.shape.length axis)
    (hR : PosAxes a.shape (axisSet a.shape.length axis)) :
    ∃ v, var add sub sqabs divn a axis ddof keep = some v ∧
      v.shape = specShape a.shape (axisSet a.shape.length axis) keep ∧
      ∀ j, InShape j v.shape →
        v.get j = specVarElem add sub sqabs divn a (axisSet a.shape.length axis) keep ddof j := by
  obtain ⟨ax, N, h1, h2, h3, h4, h5⟩ := unwrapAxes_of_valid a.shape axis hv
  obtain ⟨m, hm1, hm2, hm3⟩ := mean_eq_spec add divn a (ax.map (fun l => l.map Int.ofNat)) true h2
  obtain ⟨v, e1, e2, e3⟩ := reduce_map_spec (optOp add) none
    (⟨a.shape, fun i => (m.get (proj (axisSet a.shape.length axis) true i)).map (fun mu => sqabs (sub (a.get i) mu))⟩ : Arr (Option α))
    (ax.map (fun l => l.map Int.ofNat)) keep h2 (fun o => o.join.map (fun x => divn x (N - ddof)))
  rw [h3] at hm2 hm3 e2 e3
  refine ⟨v, ?_, e2, fun j hj => ?_⟩
  · rw [← e1]
    simp only [var, h1, hm1, h4, h3]
    cases reduce (optOp add) none _ (ax.map (fun l => l.map Int.ofNat)) keep <;> rfl
  · have hj' := e2 ▸ hj
    have hne := addressed_ne_nil_posAxes a.shape _ keep hR j hj'
    obtain ⟨S, hS⟩ := foldFirst_map_defined add a.get hne
    have hlen := h5 keep j hj'
    -- every element of the deviation array inside the group is defined and uses the group's mean
    have hd : ∀ i ∈ addressed a.shape (axisSet a.shape.length axis) keep j,
        (m.get (proj (axisSet a.shape.length axis) true i)).map (fun mu => sqabs (sub (a.get i) mu)) =
          some (sqabs (sub (a.get i) (divn S N))) := by
      intro i hi
      have hiS : InShape i a.shape := mem_allIdx_inShape (List.mem_filter.1 hi).1
      rw [hm3 _ (by rw [hm2]; exact proj_true_inShape a.shape _ i hiS),
          addressed_true_proj a.shape _ keep j i hi, hS, hlen]
      rfl
    rw [e3 j hj, specReduceElem, List.map_congr_left hd, foldFirst_optOp_some]
    simp only [specVarElem, hS, Option.bind_some, hlen]

end NmVerif.Reduce
