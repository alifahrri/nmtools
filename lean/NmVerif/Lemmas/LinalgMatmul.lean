import NmVerif.Lemmas.LinalgList
import NmVerif.Lemmas.LinalgViews
/-
  `view::matmul` (the slicing implementation) = NumPy's matmul: `shape_matmul` against NumPy's rule; what `index::matmul`
  answers per rank case (`matmulSlices_22/_21/_12`); the view folds whatever slices it is given (`matmulV1_get`);
  `matmulV1_eq_spec_all` puts them together for all ranks ≥ 1.
-/
namespace NmVerif
open NmVerif.MB
open Linalg

@[simp] theorem take_len_sub_two (b : List Nat) (x y : Nat) : (b ++ [x, y]).take ((b ++ [x, y]).length - 2) = b := by
  simp
@[simp] theorem take_len_sub_two' (b : List Nat) (x y : Nat) : (b ++ [x, y]).take (b.length + 2 - 2) = b := by
  simp
@[simp] theorem batchOf_append_two (b : List Nat) (x y : Nat) : batchOf (b ++ [x, y]) = b := by simp [batchOf]
@[simp] theorem batchOf_single (x : Nat) : batchOf [x] = [] := by simp [batchOf]

theorem shapeMatmul_eq_spec (sa sb : Shape) (ha : 1 ≤ sa.length) (hb : 1 ≤ sb.length) :
    shapeMatmul sa sb = specMatmulShape sa sb := by
  rcases singleton_or_append_two sa ha with ⟨k, rfl⟩ | ⟨ba, m, k, rfl⟩ <;>
    rcases singleton_or_append_two sb hb with ⟨k', rfl⟩ | ⟨bb, k', n, rfl⟩
  · simp [shapeMatmul, specMatmulShape]
  · -- 1-d lhs: the code erases axis `-2` of the rhs shape
    simp [shapeMatmul, specMatmulShape, List.eraseIdx_append_of_length_le]
  · -- 1-d rhs: the code takes all but the last lhs extent
    simp [shapeMatmul, specMatmulShape, List.take_append, List.take_of_length_le]
  · simp [shapeMatmul, specMatmulShape]
    cases broadcastShape ba bb <;> by_cases hk : k = k' <;> simp [hk]

/-- batch part of a slice list for an operand of rank ≥ 2, for any tail `t` of the result index behind its batch part -/
theorem matmulBatchIdx_eq (β b t : List Nat) (x y : Nat) (n : Nat) (hn : n = β.length + 2) (h : b.length ≤ β.length) :
    matmulBatchIdx (β ++ t) (b ++ [x, y]) n = some (bcIdx β b) := by
  have hlen : (bcIdx β b).length = b.length := by
    rw [bcIdx, List.length_zipWith, List.length_drop]; omega
  have e : (b ++ [x, y]).length - 2 = (bcIdx β b).length := by rw [hlen, List.length_append]; rfl
  rw [matmulBatchIdx, e]
  apply mapM_range_eq_some
  intro u hu
  rw [hlen] at hu
  have hu' : β.length - b.length + u < β.length := by omega
  -- the operand's batch axes are right-aligned in the result's: the shift `batch_dim - dim` is `β.length - b.length`
  rw [hn, List.length_append, show [x, y].length = 2 from rfl, Nat.add_sub_add_right, Nat.add_comm u,
    List.getElem?_append_left hu, List.getElem?_append_left hu', List.getElem?_eq_getElem hu, bcIdx, List.getElem?_zipWith,
    List.getElem?_drop, List.getElem?_eq_getElem hu, List.getElem?_eq_getElem hu']
  simp only
  split <;> rfl

theorem matmulBatchIdx_single (d : List Nat) (k n : Nat) : matmulBatchIdx d [k] n = some [] := by
  simp [matmulBatchIdx]

/-- the view part of `view::matmul`: whatever slices `index::matmul` answers for `d`, the element is the fold over them;
    what is left per rank case is a statement about `matmulSlices` -/
theorem matmulV1_get {sa sb dst : Shape} (hsh : shapeMatmul sa sb = some dst) :
    ∃ r, matmulV1 sa sb = some r ∧ r.shape = dst ∧
      ∀ k, getNeg? sa 1 = some k → (if sb.length = 1 then sb[0]? else getNeg? sb 2) = some k →
      ∀ d lb row rb col, matmulSlices d sa sb dst = some (lb, row, rb, col) →
        r.get d = some ((List.range k).map fun kk => (lb ++ row.toList ++ [kk], rb ++ [kk] ++ col.toList)) := by
  unfold matmulV1
  rw [hsh]
  refine ⟨_, rfl, rfl, fun k hk hk' d lb row rb col hs => ?_⟩
  simp only [hs, hk, hk']
  -- two 1-d slices of length `k`: `contract_last` without leading axes
  obtain ⟨m, hm, -, -, hget⟩ := contract_last ⟨[k], fun i => lb ++ row.toList ++ i⟩ ⟨[k], fun i => rb ++ i ++ col.toList⟩
    [] [] [] k rfl rfl rfl
  rw [hm, Option.map_some, hget [] rfl]
  rfl

theorem matmulSlices_22 {ba bb bs : Shape} (hbs : broadcastShape ba bb = some bs) (m k k' n : Nat) {β : Idx} (i j : Nat)
    (hβ : β.length = bs.length) :
    matmulSlices (β ++ [i, j]) (ba ++ [m, k]) (bb ++ [k', n]) (bs ++ [m, n]) = some (bcIdx β ba, some i, bcIdx β bb, some j) := by
  have hlen := broadcastShape_length hbs
  unfold matmulSlices
  have e1 : ¬ (ba ++ [m, k]).length = 1 := by simp
  have e2 : ¬ (bb ++ [k', n]).length = 1 := by simp
  simp only [e1, e2, if_false, Nat.add_zero, getNeg?_append_two_2, getNeg?_append_two_1, Option.map_some]
  rw [matmulBatchIdx_eq β ba [i, j] m k _ (by simp; omega) (by omega), matmulBatchIdx_eq β bb [i, j] k' n _ (by simp; omega) (by omega)]
  simp [hβ]

theorem matmulSlices_21 (ba : Shape) (m k k' : Nat) {p : Idx} (i : Nat) (hp : p.length = ba.length) :
    matmulSlices (p ++ [i]) (ba ++ [m, k]) [k'] (ba ++ [m]) = some (bcIdx p ba, some i, [], none) := by
  unfold matmulSlices
  have e1 : ¬ (ba ++ [m, k]).length = 1 := by simp
  simp only [e1, if_false, List.length_singleton, if_true, getNeg?_append_one, Option.map_some]
  rw [matmulBatchIdx_eq p ba [i] m k _ (by simp; omega) (by omega), matmulBatchIdx_single]
  simp [hp]

theorem matmulSlices_12 (bb : Shape) (k k' n : Nat) {γ : Idx} (j : Nat) (hγ : γ.length = bb.length) :
    matmulSlices (γ ++ [j]) [k] (bb ++ [k', n]) (bb ++ [n]) = some ([], none, bcIdx γ bb, some j) := by
  unfold matmulSlices
  have e2 : ¬ (bb ++ [k', n]).length = 1 := by simp
  simp only [e2, if_false, List.length_singleton, if_true, getNeg?_append_one, Option.map_some]
  rw [matmulBatchIdx_eq γ bb [j] k' n _ (by simp; omega) (by omega), matmulBatchIdx_single]
  simp [hγ]

theorem specMatmulTerms_22 (ba bb β : List Nat) (m k k' n i j : Nat) :
    specMatmulTerms (ba ++ [m, k]) (bb ++ [k', n]) (β ++ [i, j]) =
      (List.range k).map (fun kk => (bcIdx β ba ++ [i, kk], bcIdx β bb ++ [kk, j])) := by
  simp [specMatmulTerms]

theorem specMatmulTerms_12 (bb γ : List Nat) (k k' n j : Nat) :
    specMatmulTerms [k] (bb ++ [k', n]) (γ ++ [j]) = (List.range k).map (fun kk => ([kk], bcIdx γ bb ++ [kk, j])) := by
  simp [specMatmulTerms]

theorem specMatmulTerms_21 (ba p : List Nat) (m k k' i : Nat) :
    specMatmulTerms (ba ++ [m, k]) [k'] (p ++ [i]) = (List.range k).map (fun kk => (bcIdx p ba ++ [i, kk], [kk])) := by
  simp [specMatmulTerms]

theorem specMatmulTerms_11 (k k' : Nat) :
    specMatmulTerms [k] [k'] [] = (List.range k).map (fun kk => ([kk], [kk])) := by
  simp [specMatmulTerms]

theorem matmulV1_eq_spec_all (sa sb dst : Shape) (ha : 1 ≤ sa.length) (hb : 1 ≤ sb.length)
    (hacc : specMatmulShape sa sb = some dst) :
    ∃ r, matmulV1 sa sb = some r ∧ r.shape = dst ∧
      ∀ d, InShape d dst → r.get d = some (specMatmulTerms sa sb d) := by
  obtain ⟨r, hr, hrsh, hget⟩ := matmulV1_get ((shapeMatmul_eq_spec sa sb ha hb).trans hacc)
  refine ⟨r, hr, hrsh, fun d hd => ?_⟩
  rcases singleton_or_append_two sa ha with ⟨k, rfl⟩ | ⟨ba, m, k, rfl⟩ <;>
    rcases singleton_or_append_two sb hb with ⟨k', rfl⟩ | ⟨bb, k', n, rfl⟩
  · simp [specMatmulShape] at hacc
    obtain ⟨rfl, rfl⟩ := hacc
    obtain rfl := List.eq_nil_of_length_eq_zero hd.length_eq
    rw [hget k (getNeg?_single_1 k) (by simp) [] [] none [] none (by simp [matmulSlices, matmulBatchIdx_single]),
      specMatmulTerms_11]
    simp
  · simp [specMatmulShape] at hacc
    obtain ⟨rfl, rfl⟩ := hacc
    obtain ⟨γ, j, rfl, hγ, -⟩ := inShape_append_one hd
    rw [hget k (getNeg?_single_1 k) (by simp) _ _ _ _ _ (matmulSlices_12 bb k k n j hγ.length_eq), specMatmulTerms_12]
    simp
  · simp [specMatmulShape] at hacc
    obtain ⟨rfl, rfl⟩ := hacc
    obtain ⟨p, i, rfl, hp, -⟩ := inShape_append_one hd
    rw [hget k (getNeg?_append_two_1 _ _ _) (by simp) _ _ _ _ _ (matmulSlices_21 ba m k k i hp.length_eq), specMatmulTerms_21]
    simp
  · simp [specMatmulShape] at hacc
    obtain ⟨rfl, bs, hbs, rfl⟩ := hacc
    obtain ⟨β, i, j, rfl, hβ, -, -⟩ := inShape_append_two hd
    rw [hget k (getNeg?_append_two_1 _ _ _) (by simp) _ _ _ _ _ (matmulSlices_22 hbs m k k n i j hβ.length_eq), specMatmulTerms_22]
    simp

end NmVerif
