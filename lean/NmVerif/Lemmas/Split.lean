import NmVerif.Index.Split
import NmVerif.Lemmas.SelCommon
import NmVerif.Lemmas.ListBasics
/-
  `view::split` (`np.split(a, N or [i1, i2, …], axis)`): every part is a `splitPart`, a one-axis view; that the parts
  partition the axis is said through `axisReads`, what a part reads along the axis.
-/
namespace NmVerif.Index

/-- SPEC-side observation: the positions along source axis `k` that the view `v` reads while its own index runs along
    axis `k` (all other coordinates as in `d`), in order; `none` = a failed read -/
def axisReads (v : IxView) (k : Nat) (d : Idx) : List (Option Nat) :=
  match v.dst[k]? with
  | some e => (List.range e).map (fun x => (v.map (d.set k x)).bind (·[k]?))
  | none => []

/-- one part of a split, `p = (start, stop)` -/
def splitPart (s : Shape) (k n : Nat) (p : Nat × Nat) : IxView :=
  ⟨s, s.set k (min p.2 n - p.1), fun d => match d[k]? with
    | some x => some (d.set k (x + p.1))
    | none => some d⟩

theorem splitViews_eq (s : Shape) (sections : Option Nat) (cuts : List Int) (axis : Int) (k n : Nat)
    (hk : normalizeAxis1 axis s.length = some k) (hn : s[k]? = some n) :
    splitViews s sections cuts axis = some ((match sections with
      | some N => splitBoundsSections n N
      | none => splitBoundsIndices n cuts).map (splitPart s k n)) := by
  -- split spells `normalize_axis` as `axis >= 0 ? axis : dim + axis`
  have hax : (if axis ≥ 0 then axis.toNat else ((s.length : Int) + axis).toNat) = k := by
    obtain ⟨_, ⟨hneg, e⟩ | ⟨hneg, e⟩⟩ := normalizeAxis1_cases axis _ k hk
    · rw [if_pos (Int.not_lt.1 hneg), e]; rfl
    · rw [if_neg (Int.not_le.2 hneg), e]; rfl
  simp only [splitViews, hax, hn]
  rfl

/-- for EVERY `(start, stop)` pair: the stop is clamped to the extent -/
theorem splitPart_inBounds (s : Shape) (k n : Nat) (p : Nat × Nat) (hn : s[k]? = some n) :
    (splitPart s k n p).InBounds := by
  obtain ⟨hk, e⟩ := List.getElem?_eq_some_iff.1 hn
  refine inBounds_of_axis hk rfl (replaceExtent_eq_set s k _ hk).symm ?_
  intro d x i hx hxm hi
  simp only [splitPart, hx, Option.some.injEq] at hi
  exact ⟨x + p.1, by omega, hi.symm⟩

theorem splitViews_inBounds (s : Shape) (sections : Option Nat) (cuts : List Int) (axis : Int) (k : Nat)
    (hk : normalizeAxis1 axis s.length = some k) (ps : List IxView) (hps : splitViews s sections cuts axis = some ps)
    (i : Nat) (v : IxView) (hv : ps[i]? = some v) : v.InBounds := by
  have hkn := (normalizeAxis1_some axis _ k hk).1
  have hn : s[k]? = some s[k] := List.getElem?_eq_getElem hkn
  rw [splitViews_eq s sections cuts axis k _ hk hn, Option.some.injEq] at hps
  subst hps
  rw [List.getElem?_map, Option.map_eq_some_iff] at hv
  obtain ⟨p, _, rfl⟩ := hv
  exact splitPart_inBounds s k _ p hn

theorem splitBoundsSections_getElem? (n N i : Nat) (p : Nat × Nat) (h : (splitBoundsSections n N)[i]? = some p) :
    i < N ∧ p = (i * (n / N), i * (n / N) + n / N) ∧ i * (n / N) + n / N ≤ n := by
  simp only [splitBoundsSections, List.getElem?_map, Option.map_eq_some_iff] at h
  obtain ⟨j, hj, rfl⟩ := h
  obtain ⟨hlt, rfl⟩ := List.getElem?_eq_some_iff.1 hj
  rw [List.length_range] at hlt
  rw [List.getElem_range]
  exact ⟨hlt, rfl, Nat.le_trans (Nat.mul_add_self_le_mul (n / N) hlt) (Nat.mul_div_le n N)⟩

theorem splitCuts_of_nonneg (n : Nat) (cuts : List Int) (hnn : ∀ c ∈ cuts, 0 ≤ c) :
    cuts.map (fun v => min (i2u v) n) = (cuts.map Int.toNat).map (fun c => min c n) := by
  rw [List.map_map]
  apply List.map_congr_left
  intro c hc
  simp [i2u_of_nonneg c (hnn c hc)]

theorem splitBoundsIndices_length (n : Nat) (cuts : List Int) : (splitBoundsIndices n cuts).length = cuts.length + 1 := by
  simp [splitBoundsIndices]

theorem splitBoundsIndices_getElem? (n : Nat) (cuts : List Int) (hnn : ∀ c ∈ cuts, 0 ≤ c) (i lo hi : Nat)
    (hlo : (0 :: cuts.map Int.toNat)[i]? = some lo) (hhi : (cuts.map Int.toNat ++ [n])[i]? = some hi) :
    (splitBoundsIndices n cuts)[i]? = some (min lo n, min hi n) := by
  simp only [splitBoundsIndices, splitCuts_of_nonneg n cuts hnn]
  rw [List.getElem?_zip_eq_some]
  constructor
  · have : (0 :: (cuts.map Int.toNat).map (fun c => min c n)) = (0 :: cuts.map Int.toNat).map (fun c => min c n) := by simp
    rw [this, List.getElem?_map, hlo]; rfl
  · have : ((cuts.map Int.toNat).map (fun c => min c n) ++ [n]) = (cuts.map Int.toNat ++ [n]).map (fun c => min c n) := by simp
    rw [this, List.getElem?_map, hhi]; rfl

theorem axisReads_splitPart (s : Shape) (k n : Nat) (p : Nat × Nat) (d : Idx) (hk : k < s.length) (hd : d.length = s.length) :
    axisReads (splitPart s k n p) k d = (List.range' p.1 (min p.2 n - p.1)).map some := by
  simp only [axisReads, splitPart, List.getElem?_set, hk, if_true, List.range'_eq_map_range, List.map_map]
  apply List.map_congr_left
  intro x _
  have hkd : k < d.length := by omega
  simp [hkd, Nat.add_comm]

/-- consecutive half-open ranges between sorted cut points `a ≤ c1 ≤ c2 ≤ … ≤ n` tile `[a, n)`, in order -/
theorem flatMap_zip_ranges (n : Nat) (cs : List Nat) (a : Nat) (hs : cs.Pairwise (· ≤ ·))
    (hb : ∀ c ∈ cs, a ≤ c ∧ c ≤ n) :
    (List.zip (a :: cs) (cs ++ [n])).flatMap (fun p => List.range' p.1 (min p.2 n - p.1)) = List.range' a (n - a) := by
  induction cs generalizing a with
  | nil =>
    simp only [List.nil_append, List.zip_cons_cons, List.zip_nil_right, List.flatMap_cons, List.flatMap_nil,
      List.append_nil, Nat.min_self]
  | cons c cs ih =>
    have hc := hb c List.mem_cons_self
    rw [List.pairwise_cons] at hs
    simp only [List.cons_append, List.zip_cons_cons, List.flatMap_cons]
    rw [ih c hs.2 (fun c' hc' => ⟨hs.1 c' hc', (hb c' (List.mem_cons_of_mem _ hc')).2⟩), Nat.min_eq_left hc.2]
    rw [← Nat.sub_add_sub_cancel hc.2 hc.1, Nat.add_comm (n - c), ← List.range'_append_1, Nat.add_sub_cancel' hc.1]

end NmVerif.Index
