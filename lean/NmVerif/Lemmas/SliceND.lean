import NmVerif.Lemmas.Slice
/-
  A whole basic index, any rank: the domain `domEntries`, and the induction over the entry list that lifts the per-axis
  agreement (Lemmas/Slice.lean) to `shape_slice` / `slice`.  `Agrees` says what an encoding has to do to be the reference;
  that the reference is an injection of its shape into the source (`specIdx_injection`) then gives injectivity and
  in-bounds for every encoding that agrees.
-/
namespace NmVerif.Slice

open NmVerif

/-- extents stay below 2^62 because `slice_indices` computes in signed 64 bit (`v + n`, `start + i*step` must not wrap);
    the ellipsis never gets here: `domGo` consumes it -/
def domEntry (n : Nat) : Entry → Bool
  | .int k => decide (-(n : Int) ≤ k) && decide (k < n) && decide (n < 4611686018427387904)
  | .range _ _ c => decide (stepVal c ≠ 0) && decide (n < 4611686018427387904)
  | .range2 _ _ => decide (n < 4611686018427387904)
  | .ellipsis => false

/-- entries against axes: every entry has an axis (the ellipsis takes `nEll` of them), integers lie in `[-n, n)`,
    steps are non-zero, extents stay below 2^62; axes left over at the end are allowed (kept whole) -/
def domGo (nEll : Nat) : List Nat → List Entry → Bool
  | _, [] => true
  | sh, .ellipsis :: es => decide (nEll ≤ sh.length) && domGo nEll (sh.drop nEll) es
  | [], _ :: _ => false
  | n :: t, e :: es => domEntry n e && domGo nEll t es

/-- the domain of the C05 theorems, every valid basic index: at most one ellipsis, no more entries than axes.  The number
    of axes the ellipsis takes is passed on even when there is none, as the C++ does: then no walk looks at it
    (`specGo_noEllipsis`). -/
def domEntries (shape : List Nat) (es : List Entry) : Bool :=
  decide (numEllipsis es ≤ 1) && decide (es.length - numEllipsis es ≤ shape.length) &&
  domGo (shape.length - (es.length - 1)) shape es

theorem specShape_append (a b : List AxisSel) : specShape (a ++ b) = specShape a ++ specShape b := by
  induction a with
  | nil => rfl
  | cons x xs ih => cases x <;> simp [specShape, ih]

theorem specShape_full (s : List Nat) : specShape (s.map fullSel) = s := by
  induction s with
  | nil => rfl
  | cons x xs ih => simp [specShape, fullSel, ih]

theorem specIdx_full_append (s : List Nat) (rest : List AxisSel) (d : List Nat) (hd : s.length ≤ d.length) :
    specIdx (s.map fullSel ++ rest) d = (specIdx rest (d.drop s.length)).map (d.take s.length ++ ·) := by
  induction s generalizing d with
  | nil => simp
  | cons x xs ih =>
    cases d with
    | nil => simp at hd
    | cons y ys =>
      simp only [List.map_cons, List.cons_append, fullSel, specIdx, List.length_cons, List.drop_succ_cons, List.take_succ_cons]
      rw [ih ys (by simpa using hd)]
      cases specIdx rest (List.drop xs.length ys) <;> simp

theorem specIdx_full (s : List Nat) (d : List Nat) (hd : InShape d s) : specIdx (s.map fullSel) d = some d := by
  have h := specIdx_full_append s [] d (Nat.le_of_eq hd.length_eq.symm)
  rw [List.append_nil] at h
  rw [h, ← hd.length_eq, List.drop_length, List.take_length]
  simp [specIdx]

theorem numInt_cons_int (k : Int) (es : List Entry) : numInt (.int k :: es) = numInt es + 1 := rfl

theorem numInt_cons_keep {e : Entry} (hi : ∀ k, e = .int k → False) (es : List Entry) : numInt (e :: es) = numInt es := by
  cases e <;> first | rfl | exact (hi _ rfl).elim

theorem numInt_cons_range (a b c : Option Int) (es : List Entry) : numInt (.range a b c :: es) = numInt es :=
  numInt_cons_keep (fun _ h => Entry.noConfusion h) es
theorem numInt_cons_range2 (a b : Option Int) (es : List Entry) : numInt (.range2 a b :: es) = numInt es :=
  numInt_cons_keep (fun _ h => Entry.noConfusion h) es

/-- a selection is valid on an axis of extent `n`: it stays on the axis, and a walk has a non-zero step -/
def SelOK (n : Nat) : AxisSel → Prop
  | .pick p => p < n
  | .walk l f k => k ≠ 0 ∧ ∀ j : Nat, j < l → 0 ≤ f + j * k ∧ f + j * k < n

def SelsOK : List Nat → List AxisSel → Prop
  | [], [] => True
  | n :: sh, s :: sels => SelOK n s ∧ SelsOK sh sels
  | _, _ => False

theorem selsOK_full_append {sh pre t : List Nat} {sels : List AxisSel} (e : pre ++ t = sh) (h : SelsOK t sels) :
    SelsOK sh (pre.map fullSel ++ sels) := by
  subst e
  induction pre with
  | nil => exact h
  | cons n pre ih =>
    refine ⟨⟨by decide, fun j hj => ?_⟩, ih⟩
    rw [Int.zero_add, Int.mul_one]
    exact ⟨Int.natCast_nonneg j, Int.ofNat_lt.2 hj⟩

/-- SPEC sanity for a whole index: valid selections map the reference shape into the source, and injectively (no two
    result elements alias one source element) -/
theorem specIdx_injection {sh : List Nat} {sels : List AxisSel} (h : SelsOK sh sels) {d : List Nat}
    (hd : InShape d (specShape sels)) :
    ∃ i, specIdx sels d = some i ∧ InShape i sh ∧
      ∀ d', InShape d' (specShape sels) → specIdx sels d' = some i → d' = d := by
  fun_induction SelsOK sh sels generalizing d with
  | case1 =>
    cases d with
    | nil => exact ⟨[], rfl, trivial, fun d' hd' _ => by cases d' <;> first | rfl | exact hd'.elim⟩
    | cons _ _ => exact hd.elim
  | case2 n sh s sels ih =>
    cases s with
    | pick p =>
      obtain ⟨i, h1, h2, h3⟩ := ih h.2 hd
      refine ⟨p :: i, by rw [specIdx, h1]; rfl, ⟨h.1, h2⟩, fun d' hd' e => ?_⟩
      obtain ⟨i', r, e'⟩ := Option.map_eq_some_iff.1 e
      cases e'
      exact h3 d' hd' r
    | walk l f k =>
      cases d with
      | nil => exact hd.elim
      | cons j d =>
        obtain ⟨i, h1, h2, h3⟩ := ih h.2 hd.2
        obtain ⟨h0, hn⟩ := h.1.2 j hd.1
        refine ⟨(f + j * k).toNat :: i, by rw [specIdx, h1]; rfl, ⟨(Int.toNat_lt h0).2 hn, h2⟩, fun d' hd' e => ?_⟩
        cases d' with
        | nil => exact hd'.elim
        | cons j' d' =>
          obtain ⟨i', r, e'⟩ := Option.map_eq_some_iff.1 e
          injection e' with eh et
          subst et
          -- positions are non-negative, so equal `toNat`s are equal positions; the step is non-zero
          have e0 : f + (j' : Int) * k = f + j * k := by
            rw [← Int.toNat_of_nonneg (h.1.2 j' hd'.1).1, ← Int.toNat_of_nonneg h0, eh]
          rw [Int.ofNat.inj (Int.eq_of_mul_eq_mul_right h.1.1 (Int.add_left_cancel e0)), h3 d' hd'.2 r]
  | case3 => exact h.elim

/-- a range entry (either form) of the domain on its axis: the reference walk, with the MODEL's extent and element map
    equal to it -/
theorem entry_axis {n : Nat} {e : Entry} (he : e = .ellipsis → False) (hi : ∀ k, e = .int k → False)
    (hd : domEntry n e = true) :
    ∃ l f k, specEntry n e = some (.walk l f k) ∧ k ≠ 0 ∧ e.len n = some (l : Int) ∧
      ∀ j : Nat, j < l → e.idx n j = f + j * k ∧ 0 ≤ f + j * k ∧ f + j * k < n := by
  cases e with
  | int k => exact (hi k rfl).elim
  | ellipsis => exact (he rfl).elim
  | range a b c =>
    simp only [domEntry, Bool.and_eq_true, decide_eq_true_eq] at hd
    obtain ⟨h1, h2, h3⟩ := range_eq_pyAxis n a b c (Nat.lt_trans hd.2 (by decide)) hd.1
    exact ⟨_, _, _, by simp only [specEntry, h1, Option.map_some], hd.1, h2, h3⟩
  | range2 a b =>
    simp only [domEntry, decide_eq_true_eq] at hd
    obtain ⟨h1, h2, h3⟩ := range_eq_pyAxis n a b none (Nat.lt_trans hd (by decide)) (by decide)
    exact ⟨_, _, _, by simp only [specEntry, h1, Option.map_some], by decide, h2, h3⟩

/-- on the domain the two walks of the packed encoding are the reference's; the index conjunct is an equation with
    `specIdx` (that `specIdx` has a value there, inside the source, is `specIdx_injection`) -/
theorem walks_agree (nEll : Nat) (sh : List Nat) (es : List Entry) (h : domGo nEll sh es = true) :
    ∃ sels, specGo nEll sh es = some sels ∧ SelsOK sh sels ∧ shapeGo nEll sh es = some (specShape sels) ∧
      (specShape sels).length + numInt es = sh.length ∧
      ∀ d, InShape d (specShape sels) → idxGo nEll sh d es = specIdx sels d := by
  fun_induction shapeGo nEll sh es with
  | case1 sh =>
    refine ⟨sh.map fullSel, by simp only [specGo],
      List.append_nil (sh.map fullSel) ▸ selsOK_full_append (List.append_nil sh) (sels := []) trivial,
      by rw [specShape_full],
      by rw [specShape_full]; rfl, fun d hd => ?_⟩
    rw [specShape_full] at hd
    rw [specIdx_full sh d hd, idxGo, ← hd.length_eq, List.take_length]
  | case2 sh es hle ih =>   -- ellipsis: `nEll` full slices
    simp only [domGo, Bool.and_eq_true] at h
    obtain ⟨sels, hs, hok, hsh, hlen, hi⟩ := ih h.2
    have htl : (sh.take nEll).length = nEll := List.length_take_of_le hle
    refine ⟨(sh.take nEll).map fullSel ++ sels, by simp only [specGo, hle, if_true, hs, Option.map_some],
      selsOK_full_append (List.take_append_drop nEll sh) hok,
      by simp only [hsh, Option.map_some, specShape_append, specShape_full], ?_, fun d hd => ?_⟩
    · rw [specShape_append, specShape_full, numInt_cons_keep (fun _ h => Entry.noConfusion h), List.length_append, htl,
        Nat.add_assoc, hlen, List.length_drop, Nat.add_sub_of_le hle]
    · rw [specShape_append, specShape_full, Shape.inShape_append_iff, htl] at hd
      have hdl : nEll ≤ d.length := hd.1.length_eq.trans htl ▸ List.length_take_le' nEll d
      rw [specIdx_full_append _ _ _ (htl.symm ▸ hdl), htl, ← hi _ hd.2]
      simp only [idxGo, hle, hdl, and_self, if_true]
  | case3 sh es hle =>   -- outside the domain
    simp only [domGo, hle, decide_false, Bool.false_and, Bool.false_eq_true] at h
  | case4 e es he => simp only [domGo] at h; cases h   -- outside the domain
  | case5 n t k es ih =>   -- integer
    simp only [domGo, domEntry, Bool.and_eq_true, decide_eq_true_eq] at h
    obtain ⟨⟨⟨hk1, hk2⟩, hn⟩, hrest⟩ := h
    obtain ⟨sels, hs, hok, hsh, hlen, hi⟩ := ih hrest
    obtain ⟨hv, h0, hlt⟩ := intIndex_dom n k hk1 hk2 (Nat.lt_trans hn (by decide))
    refine ⟨.pick (if k < 0 then k + n else k).toNat :: sels,
      by simp only [specGo, specEntry, hk1, hk2, and_self, if_true, hs, Option.map_some],
      ⟨hv ▸ (Int.toNat_lt h0).2 hlt, hok⟩, hsh, ?_, fun d hd => ?_⟩
    · rw [numInt_cons_int, specShape, ← Nat.add_assoc, hlen]; rfl
    · simp only [idxGo, specIdx, hv, hi d hd]
  | case6 n t e es he hi l hl ih =>   -- range, either form
    simp only [domGo, Bool.and_eq_true] at h
    obtain ⟨l', f, k, hspec, hk, hlen', hidx⟩ := entry_axis he hi h.1
    obtain ⟨sels, hs, hok, hsh, hlen, hgo⟩ := ih h.2
    cases hl.symm.trans hlen'
    refine ⟨.walk l' f k :: sels, by simp only [specGo, hspec, hs, Option.map_some],
      ⟨⟨hk, fun j hj => (hidx j hj).2⟩, hok⟩, by simp only [hsh, Option.map_some, specShape, Int.toNat_natCast], ?_,
      fun d hd => ?_⟩
    · rw [numInt_cons_keep hi, specShape, List.length_cons, Nat.add_right_comm, hlen]; rfl
    · cases d with
      | nil => exact hd.elim
      | cons j d => simp only [idxGo, specIdx, (hidx j hd.1).1, hgo d hd.2]
  | case7 n t e es he hi hl =>   -- step 0: outside the domain
    simp only [domGo, Bool.and_eq_true] at h
    obtain ⟨l', f, k, _, _, hlen, _⟩ := entry_axis he hi h.1
    cases hl.symm.trans hlen

theorem numEllipsis_cons (e : Entry) (es : List Entry) :
    numEllipsis (e :: es) = numEllipsis es + (if e.isEllipsis then 1 else 0) := by
  unfold numEllipsis
  cases h : e.isEllipsis <;> simp [h]

theorem specGo_noEllipsis (a b : Nat) (sh : List Nat) (es : List Entry) (h : numEllipsis es = 0) :
    specGo a sh es = specGo b sh es := by
  fun_induction specGo a sh es with
  | case1 => simp only [specGo]
  | case2 | case3 => simp [numEllipsis_cons, Entry.isEllipsis] at h
  | case4 => simp only [specGo]
  | case5 n t e es he s hs ih =>
    rw [numEllipsis_cons] at h
    simp only [specGo, hs, ih (by omega)]
  | case6 n t e es he hs => simp only [specGo, hs]

theorem padZeros_exact (l : List Nat) (n : Nat) (h : l.length = n) : padZeros n l = some l := by
  unfold padZeros
  rw [if_pos (by omega)]
  simp [h]

/-- an encoding of slicing, given by the value of its shape function and its index function, agrees with the reference -/
def Agrees (shape : List Nat) (es : List Entry) (shp : Option (List Nat)) (idx : List Nat → Option (List Nat)) : Prop :=
  ∃ sels, specSlice shape es = some sels ∧ SelsOK shape sels ∧ shp = some (specShape sels) ∧
    ∀ d, InShape d (specShape sels) → idx d = specIdx sels d

/-- in the terms of C05: every index of the reference shape has a reference source index, the encoding returns it, and
    it lies inside the source -/
theorem Agrees.spec {shape : List Nat} {es : List Entry} {shp : Option (List Nat)} {idx : List Nat → Option (List Nat)}
    (h : Agrees shape es shp idx) :
    ∃ sels, specSlice shape es = some sels ∧ shp = some (specShape sels) ∧
      ∀ d, InShape d (specShape sels) → ∃ i, specIdx sels d = some i ∧ idx d = some i ∧ InShape i shape := by
  obtain ⟨sels, h1, hok, h2, h3⟩ := h
  refine ⟨sels, h1, h2, fun d hd => ?_⟩
  obtain ⟨i, a1, a2, _⟩ := specIdx_injection hok hd
  exact ⟨i, a1, (h3 d hd).trans a1, a2⟩

theorem Agrees.transfer {shape : List Nat} {es : List Entry} {shp shp' : Option (List Nat)}
    {idx idx' : List Nat → Option (List Nat)} (h : Agrees shape es shp idx)
    (hs : ∀ r, shp = some r → shp' = some r) (hi : ∀ d r, idx d = some r → idx' d = some r) : Agrees shape es shp' idx' := by
  obtain ⟨sels, h1, hok, h2, h3⟩ := h
  refine ⟨sels, h1, hok, hs _ h2, fun d hd => ?_⟩
  obtain ⟨i, a1, _⟩ := specIdx_injection hok hd
  exact (hi _ _ ((h3 d hd).trans a1)).trans a1.symm

theorem Agrees.injective {shape : List Nat} {es : List Entry} {shp : Option (List Nat)} {idx : List Nat → Option (List Nat)}
    (h : Agrees shape es shp idx) {r d1 d2 : List Nat} (hr : shp = some r) (h1 : InShape d1 r) (h2 : InShape d2 r)
    (e : idx d1 = idx d2) : d1 = d2 := by
  obtain ⟨sels, _, hok, a2, a3⟩ := h
  cases a2.symm.trans hr
  obtain ⟨i, b1, _, b3⟩ := specIdx_injection hok h2
  exact b3 d1 h1 ((a3 d1 h1).symm.trans (e.trans ((a3 d2 h2).trans b1)))

theorem Agrees.inBounds {src : Shape} {es : List Entry} {shp : Option (List Nat)} {idx : List Nat → Option (List Nat)}
    (h : Agrees src es shp idx) {v : IxView} (hv : shp.map (fun dst => (⟨src, dst, idx⟩ : IxView)) = some v) : v.InBounds := by
  obtain ⟨sels, _, hok, a2, a3⟩ := h
  subst a2
  cases hv
  intro d hd i hi
  obtain ⟨i', c, a, _⟩ := specIdx_injection hok hd
  cases (c.symm.trans ((a3 d hd).symm.trans hi))
  exact a

/-- the packed encoding agrees with the reference on the whole domain: the guard on `numInt` and `padZeros` pass by the
    length that `walks_agree` returns, the guard on `es.length - 1` by the two counts of `domEntries` -/
theorem slice_dom (shape : List Nat) (es : List Entry) (h : domEntries shape es = true) :
    Agrees shape es (shapeSlice shape es) (sliceIdx shape es) := by
  simp only [domEntries, Bool.and_eq_true, decide_eq_true_eq] at h
  obtain ⟨⟨h1, h2⟩, h4⟩ := h
  obtain ⟨sels, hs, hok, hsh, hlen, hi⟩ := walks_agree _ shape es h4
  have hle : ¬ es.length - 1 > shape.length := Nat.not_lt.2 (Nat.le_trans (Nat.sub_le_sub_left h1 _) h2)
  refine ⟨sels, ?_, hok, ?_, fun d hd => ?_⟩
  · rw [specSlice, if_neg (not_or.2 ⟨Nat.not_lt.2 h1, Nat.not_lt.2 h2⟩), ← hs]
    by_cases h0 : numEllipsis es = 0
    · exact specGo_noEllipsis _ _ shape es h0
    · rw [show numEllipsis es = 1 by omega]
  · rw [shapeSlice, if_neg (Nat.not_lt.2 (hlen ▸ Nat.le_add_left _ _)), if_neg hle, hsh]
    exact padZeros_exact _ _ (Nat.eq_sub_of_add_eq hlen)
  · obtain ⟨i, a1, a3, _⟩ := specIdx_injection hok hd
    rw [sliceIdx, if_neg hle, hi d hd, a1]
    exact padZeros_exact _ _ a3.length_eq

end NmVerif.Slice
