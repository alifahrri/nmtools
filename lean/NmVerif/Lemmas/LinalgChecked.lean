import NmVerif.Lemmas.LinalgMatmul
import NmVerif.Lemmas.LinalgMatmulV2
import NmVerif.Lemmas.LinalgDot
import NmVerif.Lemmas.LinalgTensordot
import NmVerif.Lemmas.Axis
/-
  MODEL and SPEC are the same partial array (`Arr.OptEquiv`).  The views with the contracted-extent validation of fix
  C15-contraction-extent (`matmulV2C`, `innerC`, `vecdotC`, `tensordotIntC`, `tensordotAxesC`) are "pipeline, then the
  check": the pipeline is right on what the spec accepts (for matmulv2: `matmulV2_eq_spec`, the rank cases of LinalgMatmulV2 against
  `specMatmulTerms`) and the check decides the acceptance (`Arr.OptEquiv.guard`).
  `view::dot` has no check; it answers `Nothing` through the element count of its reshape (tile by the rhs column count,
  reshape to `… ++ [n, k']`): `k·n = n·k'` only for `k = k'`.
-/
namespace NmVerif
open NmVerif.MB
open Linalg

def Arr.OptEquiv {α : Type} (o sp : Option (Arr α)) : Prop :=
  (o.isSome ↔ sp.isSome) ∧
    ∀ s, sp = some s → ∃ r, o = some r ∧ r.shape = s.shape ∧ ∀ d, InShape d s.shape → r.get d = s.get d

theorem Arr.OptEquiv.intro {α : Type} {o sp : Option (Arr α)}
    (hval : ∀ s, sp = some s → ∃ r, o = some r ∧ r.shape = s.shape ∧ ∀ d, InShape d s.shape → r.get d = s.get d)
    (hrej : o.isSome → sp.isSome) : Arr.OptEquiv o sp :=
  ⟨⟨hrej, fun h => by
    obtain ⟨s, hs⟩ := Option.isSome_iff_exists.1 h
    obtain ⟨r, hr, -⟩ := hval s hs
    rw [hr]; rfl⟩, hval⟩

theorem bind_guard_eq_some {α : Type} {o : Option α} {c : Bool} {r : α} :
    (o.bind fun r => if c then some r else none) = some r ↔ o = some r ∧ c = true := by
  cases o <;> cases c <;> simp

theorem bind_guard_isSome {α : Type} {o : Option α} {c : Bool} :
    (o.bind fun r => if c then some r else none).isSome ↔ o.isSome ∧ c = true := by
  cases o <;> cases c <;> simp

theorem Arr.OptEquiv.guard {α : Type} {o sp : Option (Arr α)} {c : Bool}
    (hval : ∀ s, sp = some s → ∃ r, o = some r ∧ r.shape = s.shape ∧ ∀ d, InShape d s.shape → r.get d = s.get d)
    (hc : o.isSome → (c = true ↔ sp.isSome)) :
    Arr.OptEquiv (o.bind fun r => if c then some r else none) sp :=
  .intro (fun s hs => by
      obtain ⟨r, hr, h⟩ := hval s hs
      exact ⟨r, bind_guard_eq_some.2 ⟨hr, (hc (hr ▸ rfl)).2 (hs ▸ rfl)⟩, h⟩)
    fun h => (hc (bind_guard_isSome.1 h).1).1 (bind_guard_isSome.1 h).2

theorem matmulV2_eq_spec (sa sb dst : Shape) (ha : 1 ≤ sa.length) (hb : 1 ≤ sb.length) (hpa : Pos sa) (hpb : Pos sb)
    (hacc : specMatmulShape sa sb = some dst) :
    ∃ r, matmulV2 sa sb = some r ∧ r.shape = dst ∧ ∀ d, InShape d dst → r.get d = specMatmulTerms sa sb d := by
  rcases singleton_or_append_two sa ha with ⟨k, rfl⟩ | ⟨ba, m, k, rfl⟩ <;>
    rcases singleton_or_append_two sb hb with ⟨k', rfl⟩ | ⟨bb, k', n, rfl⟩
  · simp [specMatmulShape] at hacc
    obtain ⟨rfl, rfl⟩ := hacc
    obtain ⟨r, hr, hsh, hget⟩ := matmulV2_elem_x1 [] k
    refine ⟨r, hr, hsh, ?_⟩
    intro d hd
    obtain rfl := List.eq_nil_of_length_eq_zero hd.length_eq
    rw [hget [] hd, specMatmulTerms_11]
    rfl
  · simp [specMatmulShape] at hacc
    obtain ⟨rfl, rfl⟩ := hacc
    obtain ⟨r, hr, hsh, hget⟩ := matmulV2_elem_12 bb k n
    refine ⟨r, hr, hsh, ?_⟩
    intro d hd
    obtain ⟨γ, j, rfl, hγ, hj⟩ := inShape_append_one hd
    rw [hget γ j hγ hj, specMatmulTerms_12, bcIdx_self hγ]
  · simp [specMatmulShape] at hacc
    obtain ⟨rfl, rfl⟩ := hacc
    have := matmulV2_elem_x1 (ba ++ [m]) k
    rw [List.append_assoc] at this
    obtain ⟨r, hr, hsh, hget⟩ := this
    refine ⟨r, hr, hsh, ?_⟩
    intro d hd
    obtain ⟨p, i, rfl, hp, hi⟩ := inShape_append_one hd
    rw [hget _ hd, specMatmulTerms_21, bcIdx_self hp]
    simp only [List.append_assoc, List.cons_append, List.nil_append]
  · simp [specMatmulShape] at hacc
    obtain ⟨rfl, bs, hbs, rfl⟩ := hacc
    have hpa' := Shape.pos_append.1 hpa
    have hpb' := Shape.pos_append.1 hpb
    obtain ⟨r, hr, hsh, hget⟩ := matmulV2_elem_22 ba bb bs m k n hbs hpa'.1 hpb'.1 (hpa'.2 m (by simp))
    refine ⟨r, hr, hsh, ?_⟩
    intro d hd
    obtain ⟨β, i, j, rfl, hβ, hi, hj⟩ := inShape_append_two hd
    rw [hget β i j hβ hi hj, specMatmulTerms_22]

theorem matmulV2C_equiv (sa sb : Shape) (ha : 1 ≤ sa.length) (hb : 1 ≤ sb.length) (hpa : Pos sa) (hpb : Pos sb) :
    Arr.OptEquiv (matmulV2C sa sb) (specMatmul sa sb) := by
  refine .guard (fun s hs => ?_) fun _ => ?_
  · obtain ⟨dst, hd, rfl⟩ := Option.map_eq_some_iff.1 hs
    exact matmulV2_eq_spec sa sb dst ha hb hpa hpb hd
  · rw [shapeMatmul_eq_spec sa sb ha hb, specMatmul, Option.isSome_map]

theorem lastAligned_append_one (X Y : Shape) (k k' : Nat) : lastAligned (X ++ [k]) (Y ++ [k']) = decide (k = k') := by
  simp [lastAligned, Bool.beq_eq_decide_eq]

theorem innerC_equiv (sa sb : Shape) (ha : 1 ≤ sa.length) (hb : 1 ≤ sb.length) (hpb : Pos sb) :
    Arr.OptEquiv (innerC sa sb) (specInner sa sb) := by
  obtain ⟨X, k, rfl⟩ := List.exists_snoc sa ha
  obtain ⟨Y, k', rfl⟩ := List.exists_snoc sb hb
  rw [specInner_append]
  refine .guard (fun s hacc => ?_) fun _ => ?_
  · split at hacc <;> cases hacc
    subst k'
    obtain ⟨r, hr, hsh, hget⟩ := inner_elem X Y k (Shape.pos_append.1 hpb).1
    refine ⟨r, hr, hsh, fun d hd => ?_⟩
    obtain ⟨p, q, rfl, hp, hq⟩ := Shape.inShape_append_split.1 hd
    rw [hget p q hp hq]
    simp [← hp.length_eq]
  · rw [lastAligned_append_one, decide_eq_true_iff]
    exact Option.isSome_ite.symm

theorem vecdotC_equiv (sa sb : Shape) (ha : 1 ≤ sa.length) (hb : 1 ≤ sb.length) :
    Arr.OptEquiv (vecdotC sa sb) (specVecdot sa sb) := by
  obtain ⟨X, k, rfl⟩ := List.exists_snoc sa ha
  obtain ⟨Y, k', rfl⟩ := List.exists_snoc sb hb
  rw [specVecdot_append]
  refine .guard (fun s hacc => ?_) fun hp' => ?_
  · split at hacc
    · subst k'
      obtain ⟨bs, hbs, rfl⟩ := Option.map_eq_some_iff.1 hacc
      obtain ⟨r, hr, hsh, hget⟩ := vecdot_elem X Y bs k hbs
      exact ⟨r, hr, hsh, fun d hd => hget d hd.length_eq⟩
    · cases hacc
  · rw [lastAligned_append_one, decide_eq_true_iff]
    refine ⟨fun e => ?_, fun h => by split at h; assumption; cases h⟩
    -- the multiply of the pipeline broadcast the full shapes, hence the leading parts
    subst e
    rw [if_pos rfl, Option.isSome_map]
    cases hb : broadcastShape X Y with
    | none => simp [vecdot, mulT, bcast2, ident, broadcastShape_append_one, bc1_self, hb] at hp'
    | some bs => rfl

theorem tensordotAligned_of (sa sb lt rt FA FB CA CB : List Nat)
    (hta : lt.mapM (fun k => sa[k]?) = some (FA ++ CA)) (htb : rt.mapM (fun k => sb[k]?) = some (FB ++ CB))
    (hl : CA.length = CB.length) :
    tensordotAligned sa sb lt rt CA.length = decide (CA = CB) := by
  simp [tensordotAligned, hta, htb, hl, Bool.beq_eq_decide_eq]

theorem tensordotIntC_elem (FA FB C : Shape) (hpb : Pos FB) :
    ∃ r, tensordotIntC (FA ++ C) (C ++ FB) C.length = some r ∧ r.shape = FA ++ FB ∧
      ∀ p q, InShape p FA → InShape q FB →
        r.get (p ++ q) = (allIdx C).map (fun c => (p ++ c, c ++ q)) := by
  obtain ⟨r, hr, hsh, hget⟩ := tensordotInt_elem FA FB C hpb
  refine ⟨r, ?_, hsh, hget⟩
  unfold tensordotIntC
  rw [if_pos (by simp)]
  refine bind_guard_eq_some.2 ⟨hr, ?_⟩
  rw [tensordotAligned_of (FA ++ C) (C ++ FB) _ _ FA FB C C (List.mapM_getElem?_range (FA ++ C)) (moveToEnd_prefix_mapM C FB) rfl]
  simp

/-- `normalize_axis` as the tensordot views call it is `index::normalize_axis` -/
theorem normAxis_eq_model (a : Int) (dim : Nat) : normAxis a dim = normalizeAxis dim a := by
  simp only [normAxis, normalizeAxis, Int.add_comm]

theorem normAxis_lt {a : Int} {dim k : Nat} (h : normAxis a dim = some k) : k < dim :=
  normalizeAxis_lt dim a k (normAxis_eq_model a dim ▸ h)

theorem mapM_normAxis_lt {la : List Int} {dim : Nat} {la' : List Nat} (h : la.mapM (normAxis · dim) = some la') :
    ∀ x ∈ la', x < dim := fun x hx =>
  let ⟨_, _, ha⟩ := List.mem_of_mapM_eq_some h x hx
  normAxis_lt ha

theorem specTensordot_isSome_valid {sa sb : Shape} {la' ra' : List Nat} (h : (specTensordot sa sb la' ra').isSome) :
    la'.length = ra'.length ∧ la'.Nodup ∧ ra'.Nodup :=
  have hcond := Option.isSome_ite.mp h
  ⟨hcond.1, hcond.2.1, hcond.2.2.1⟩

theorem tensordotAxesC_equiv (sa sb : Shape) (la ra : List Int) (la' ra' : List Nat)
    (hla : la.mapM (normAxis · sa.length) = some la') (hra : ra.mapM (normAxis · sb.length) = some ra')
    (hnda : la'.Nodup) (hndb : ra'.Nodup) (hlen : la.length = ra.length) (hpb : Pos sb) :
    Arr.OptEquiv (tensordotAxesC sa sb la ra) (specTensordot sa sb la' ra') := by
  have e : tensordotAxesC sa sb la ra = (tensordotAxes sa sb la ra).bind fun r =>
      if tensordotAligned sa sb (moveToEnd sa.length la') (moveToEnd sb.length ra') la.length then some r else none := by
    simp only [tensordotAxesC, tensordotAxes, tensordotCoreC, hla, hra, Option.bind_eq_bind, Option.bind_some]
  rw [e]
  refine .guard (fun s => tensordotAxes_eq_spec sa sb la ra la' ra' s hla hra hpb) fun _ => ?_
  -- the closing check with valid axis lists decides NumPy's acceptance: the paired extents agree
  have hlta := mapM_normAxis_lt hla
  have hltb := mapM_normAxis_lt hra
  have hl' : la'.length = ra'.length := by rw [List.length_of_mapM_eq_some hla, List.length_of_mapM_eq_some hra, hlen]
  have hl2 : (la'.filterMap (fun x => sa[x]?)).length = (ra'.filterMap (fun x => sb[x]?)).length := by
    rw [List.length_filterMap_getElem? sa la' hlta, List.length_filterMap_getElem? sb ra' hltb, hl']
  have := tensordotAligned_of sa sb _ _ _ _ _ _ (moveToEnd_mapM sa la' hlta) (moveToEnd_mapM sb ra' hltb) hl2
  rw [List.length_filterMap_getElem? sa la' hlta, List.length_of_mapM_eq_some hla] at this
  rw [this, decide_eq_true_iff]
  refine Iff.trans ⟨fun hC => ⟨hl', hnda, hndb, hlta, hltb, ?_⟩, fun hcond => filterMap_eq_of_map_eq hcond.2.2.2.2.2⟩
    Option.isSome_ite.symm
  -- on in-range axes the list of optional extents is `map some` of the extents
  rw [List.map_getElem?_eq_map_some sa la' hlta, List.map_getElem?_eq_map_some sb ra' hltb, hC]

theorem prod_eq_of_reshape_some {α : Type} {a : Arr α} {t : Shape} {r : Arr α} (h : reshape a t = some r) : prod a.shape = prod t :=
  (Option.ite_none_right_eq_some.mp h).1

theorem dot_some_prod {sa sb : Shape} {r : Arr (List Term)} (h : dot sa sb = some r) :
    ∃ dst, dotLhsReshape sa sb = some dst ∧ prod (shapeTile sa (dotLhsTile sa sb)) = prod dst := by
  obtain ⟨dst, hd, h⟩ := Option.bind_eq_some_iff.1 h
  obtain ⟨t, hr, -⟩ := Option.bind_eq_some_iff.1 h
  exact ⟨dst, hd, prod_eq_of_reshape_some hr⟩

theorem dot_equiv (sa sb : Shape) (ha : 1 ≤ sa.length) (hb : 1 ≤ sb.length) (hpa : Pos sa) (hpb : Pos sb) :
    Arr.OptEquiv (dot sa sb) (specDot sa sb) := by
  refine .intro (fun s => dot_eq_spec sa sb s ha hb hpb) fun h => ?_
  obtain ⟨ba, k, rfl⟩ := List.exists_snoc sa ha
  obtain ⟨r, hr⟩ := Option.isSome_iff_exists.1 h
  have hpba : 0 < prod ba := prod_pos (Shape.pos_append.1 hpa).1
  obtain ⟨dst, hd, hp⟩ := dot_some_prod hr
  rcases singleton_or_append_two sb hb with ⟨k', rfl⟩ | ⟨bb, k', n, rfl⟩
  · rw [dotLhsReshape_x1] at hd
    cases hd
    rw [dotLhsTile_x1, shapeTile_eq_length _ _ (by simp), zipWith_mul_replicate_one] at hp
    simp only [prod_append, prod_singleton] at hp
    rw [specDot_x1, if_pos (Nat.eq_of_mul_eq_mul_left hpba hp)]; rfl
  · have hn : 0 < n := (Shape.pos_append.1 hpb).2 n (by simp)
    rw [dotLhsReshape_x2] at hd
    cases hd
    rw [dotLhsTile_x2, tile_last_shape] at hp
    simp only [prod_append, Shape.prod_replicate_one, prod_singleton, prod_two, Nat.mul_one] at hp
    have : k * n = n * k' := Nat.eq_of_mul_eq_mul_left hpba hp
    rw [Nat.mul_comm k n] at this
    rw [specDot_x2, if_pos (Nat.eq_of_mul_eq_mul_left hn this)]; rfl

end NmVerif
