import NmVerif.Basic
import NmVerif.Lemmas.ListBasics
/-
  Transposition on lists.  `gatherAt x σ` reads `x` at the positions `σ` (what a transpose does to a shape); `scatterAt d σ`
  writes `d[i]` to position `σ[i]` of a zero list: the fold that both models of `index::scatter` (`NmVerif.scatter`,
  Index/Transpose.lean; `Linalg.scatter`, Linalg.lean) unfold to, so every lemma here applies to them as it stands.
  `scatterAt · σ` undoes `gatherAt x σ` as soon as `σ` is as long as `x` and lists every position; for a permutation they are
  inverse bijections.
-/
namespace NmVerif

def gatherAt (x σ : List Nat) : List Nat := σ.map (fun k => x.getD k 0)

/-- `ret = zeros(len d); for i: ret[σ[i]] = d[i]` -/
def scatterAt (d σ : List Nat) : List Nat :=
  (d.zip σ).foldl (fun acc p => acc.set p.2 p.1) (List.replicate d.length 0)

theorem gatherAt_append (x σ τ : List Nat) : gatherAt x (σ ++ τ) = gatherAt x σ ++ gatherAt x τ := List.map_append

theorem gatherAt_length (x σ : List Nat) : (gatherAt x σ).length = σ.length := List.length_map _

theorem gatherAt_get (x σ : List Nat) (k a : Nat) (hk : σ[k]? = some a) (ha : a < x.length) :
    (gatherAt x σ)[k]? = x[a]? := by
  simp [gatherAt, hk, List.getD_eq_getElem?_getD, List.getElem?_eq_getElem ha]

theorem gatherAt_range' {L pre x post : List Nat} {s n : Nat} (hL : L = pre ++ (x ++ post)) (hs : s = pre.length)
    (hn : n = x.length) : gatherAt L (List.range' s n) = x := by
  subst hL hs hn
  rw [gatherAt, List.range'_eq_map_range, List.map_map]
  refine Eq.trans (List.map_congr_left fun i hi => ?_) (List.map_getD_range x 0)
  have hi := List.mem_range.1 hi
  simp only [Function.comp, List.getD_eq_getElem?_getD]
  rw [List.getElem?_append_right (Nat.le_add_right _ _), Nat.add_sub_cancel_left, List.getElem?_append_left hi]

theorem mapM_getElem?_eq_gatherAt (s σ : List Nat) (h : ∀ k ∈ σ, k < s.length) :
    σ.mapM (fun k => s[k]?) = some (gatherAt s σ) :=
  List.mapM_eq_some_map fun k hk => by
    rw [List.getD_eq_getElem?_getD, List.getElem?_eq_getElem (h k hk)]; rfl

theorem scatterAt_length (d σ : List Nat) : (scatterAt d σ).length = d.length :=
  (List.length_foldl_set _ _).trans List.length_replicate

theorem getElem?_foldl_set_fn (f : Nat → Nat) (j : Nat) (σ acc : List Nat) (hj : j < acc.length) :
    (σ.foldl (fun acc k => acc.set k (f k)) acc)[j]? = if j ∈ σ then some (f j) else acc[j]? := by
  fun_induction List.foldl (fun acc k => acc.set k (f k)) acc σ with
  | case1 acc => simp
  | case2 acc k σ ih =>
    rw [ih (by rw [List.length_set]; exact hj)]
    by_cases h1 : j ∈ σ
    · rw [if_pos h1, if_pos (List.mem_cons_of_mem _ h1)]
    · rw [if_neg h1]
      by_cases h2 : k = j
      · subst h2
        rw [List.getElem?_set_self hj, if_pos List.mem_cons_self]
      · rw [List.getElem?_set_ne h2, if_neg (by simp [h1, Ne.symm h2])]

/-- `σ` need not be duplicate-free: a position written twice receives the same value twice -/
theorem scatterAt_of_gatherAt {d x σ : List Nat} (hg : gatherAt x σ = d) (hlen : σ.length = x.length)
    (hcov : ∀ k, k < x.length → k ∈ σ) : scatterAt d σ = x := by
  subst hg
  refine List.ext_of_length_eq (by rw [scatterAt_length, gatherAt_length, hlen]) rfl fun j hj => ?_
  unfold scatterAt gatherAt
  rw [List.zip_eq_zipWith, List.zipWith_map_left, List.zipWith_self, List.foldl_map,
    getElem?_foldl_set_fn _ j σ _ (by simp [hlen, hj]), if_pos (hcov j hj),
    List.getD_eq_getElem?_getD, List.getElem?_eq_getElem hj]
  rfl

/-- what the transpose proofs read off "`p` is a permutation of the axes" -/
theorem of_perm_range (p : List Nat) (n : Nat) (h : p.Perm (List.range n)) :
    p.length = n ∧ p.Nodup ∧ ∀ a ∈ p, a < n :=
  ⟨by simpa using h.length_eq, h.nodup_iff.2 List.nodup_range, fun a ha => by simpa using h.mem_iff.1 ha⟩

/-- NumPy's defining equation of a transposed index: `(scatterAt d p)[p[k]] = d[k]` -/
theorem scatterAt_get (d p : List Nat) (n : Nat) (hp : p.Perm (List.range n)) (hd : d.length = n)
    (k a : Nat) (hk : p[k]? = some a) : (scatterAt d p)[a]? = d[k]? := by
  obtain ⟨hlen, hnd, hlt⟩ := of_perm_range p n hp
  have hk' : k < d.length := by rw [hd, ← hlen]; exact (List.getElem?_eq_some_iff.1 hk).1
  rw [List.getElem?_eq_getElem hk']
  refine List.getElem?_foldl_set_of_mem (d.zip p) _ ?_
    (List.mem_iff_getElem?.2 ⟨k, List.getElem?_zip_eq_some.2 ⟨List.getElem?_eq_getElem hk', hk⟩⟩)
    (by rw [List.length_replicate, hd]; exact hlt a (List.mem_of_getElem? hk))
  rw [List.map_snd_zip (Nat.le_of_eq (hlen.trans hd.symm))]
  exact hnd

theorem scatterAt_gatherAt_perm (i p : List Nat) (n : Nat) (hp : p.Perm (List.range n)) (hi : i.length = n) :
    scatterAt (gatherAt i p) p = i :=
  scatterAt_of_gatherAt rfl (hp.length_eq.trans (by rw [List.length_range, hi]))
    fun k hk => hp.mem_iff.2 (List.mem_range.2 (hi ▸ hk))

theorem eq_gatherAt {L x p : List Nat} (hl : L.length = p.length) (hlt : ∀ a ∈ p, a < x.length)
    (h : ∀ k a : Nat, p[k]? = some a → L[k]? = x[a]?) : L = gatherAt x p := by
  refine List.ext_of_length_eq hl (gatherAt_length x p) fun k hk => ?_
  have hk' := List.getElem?_eq_getElem hk
  rw [h k _ hk', gatherAt_get x p k _ hk' (hlt _ (List.getElem_mem hk))]

theorem gatherAt_scatterAt (d p : List Nat) (n : Nat) (hp : p.Perm (List.range n)) (hd : d.length = n) :
    gatherAt (scatterAt d p) p = d := by
  obtain ⟨hlen, _, hlt⟩ := of_perm_range p _ hp
  exact (eq_gatherAt (hd.trans hlen.symm) (fun a ha => by rw [scatterAt_length, hd]; exact hlt a ha)
    fun k a hk => (scatterAt_get d p n hp hd k a hk).symm).symm

theorem scatterAt_eq_gatherAt_of_inv (d p q : List Nat) (n : Nat) (hd : d.length = n)
    (hp : p.Perm (List.range n)) (hq : q.Perm (List.range n))
    (hinv : ∀ (k a : Nat), p[k]? = some a → q[a]? = some k) : scatterAt d q = gatherAt d p := by
  obtain ⟨hlen, _, hlt⟩ := of_perm_range p _ hp
  exact eq_gatherAt (by rw [scatterAt_length, hd, hlen]) (fun a ha => hd ▸ hlt a ha)
    fun k a hk => scatterAt_get d q n hq hd a k (hinv k a hk)

theorem inShape_map {α} (p : List α) (f g : α → Nat) : InShape (p.map f) (p.map g) ↔ ∀ a ∈ p, f a < g a := by
  induction p with
  | nil => simp [InShape]
  | cons a p ih => simp [InShape, ih]

theorem inShape_gatherAt_iff (i s p : List Nat) (n : Nat) (hp : p.Perm (List.range n)) (hi : i.length = n)
    (hs : s.length = n) : InShape (gatherAt i p) (gatherAt s p) ↔ InShape i s := by
  subst hi
  conv => rhs; rw [← List.map_getD_range i 0, ← List.map_getD_range s 0, hs]
  rw [gatherAt, gatherAt, inShape_map, inShape_map]
  exact forall_congr' fun a => by rw [hp.mem_iff]

theorem scatterAt_inShape (src d p : List Nat) (hp : p.Perm (List.range src.length))
    (hd : InShape d (gatherAt src p)) : InShape (scatterAt d p) src := by
  have hdl : d.length = src.length := by
    rw [hd.length_eq, gatherAt_length]; exact (of_perm_range p _ hp).1
  rw [← inShape_gatherAt_iff _ src p _ hp (by rw [scatterAt_length, hdl]) rfl, gatherAt_scatterAt d p _ hp hdl]
  exact hd

end NmVerif
