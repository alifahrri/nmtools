import NmVerif.Linalg
/-
  Cross-check that MODEL and SPEC of tensordot (explicit axes; the pipeline `tensordotAxes`, without the closing extent
  check of `tensordotAxesC`) and kron are executable and agree: every operand shape of rank 1 or 2 with extents 1..2 (no
  rank-0 operand; kron also on ranks (1,3), (3,1)), every axis choice NumPy accepts (a refused one is not compared), every
  element, by kernel evaluation (`decide +kernel`, no native code).
  The general theorems are in Lemmas/LinalgTensordot.lean and Lemmas/LinalgKron.lean.
-/
namespace NmVerif
open Linalg

def arrEqOn {β : Type} [DecidableEq β] (a b : Arr β) : Bool :=
  a.shape == b.shape && (allIdx a.shape).all (fun d => a.get d == b.get d)

def optArrEq {β : Type} [DecidableEq β] (m s : Option (Arr β)) : Bool :=
  match m, s with
  | some a, some b => arrEqOn a b
  | none, none => true
  | _, _ => false

/-- all shapes of rank exactly `r` with extents `1..e` -/
def shapesOfRank (r e : Nat) : List Shape := (allIdx (List.replicate r e)).map (fun i => i.map (· + 1))

/-- all injective lists of length `n` over `0..dim-1` (ordered axis selections) -/
def axisLists (dim : Nat) : Nat → List (List Nat)
  | 0 => [[]]
  | n + 1 => (axisLists dim n).flatMap (fun l => ((List.range dim).filter (fun i => !l.contains i)).map (fun i => l ++ [i]))

def axisChoices (dim : Nat) : List (List Nat) := (List.range (dim + 1)).flatMap (fun n => axisLists dim n)

/-- for every ordered choice of contracted axes NumPy accepts: same shape, same term list at every index -/
def tensordotAgrees (sa sb : Shape) : Bool :=
  (axisChoices sa.length).all (fun la => (axisChoices sb.length).all (fun ra =>
    match specTensordot sa sb la ra with
    | none => true
    | some s => optArrEq (tensordotAxes sa sb (la.map Int.ofNat) (ra.map Int.ofNat)) (some s)))

def kronAgrees (sa sb : Shape) : Bool := optArrEq (kron sa sb) (some (specKron sa sb))

/-- shapes of rank 1 and 2 with extents 1..2 -/
def smallShapes : List Shape := shapesOfRank 1 2 ++ shapesOfRank 2 2

theorem tensordot_small : ∀ sa ∈ smallShapes, ∀ sb ∈ smallShapes, tensordotAgrees sa sb = true := by decide +kernel

theorem kron_small : ∀ sa ∈ smallShapes, ∀ sb ∈ smallShapes, kronAgrees sa sb = true := by decide +kernel

/-- the rank-difference recursion of `kron_dst_transpose` two levels deep -/
theorem kron_small_13 : ∀ sa ∈ shapesOfRank 1 2, ∀ sb ∈ shapesOfRank 3 2, kronAgrees sa sb = true := by decide +kernel
theorem kron_small_31 : ∀ sa ∈ shapesOfRank 3 2, ∀ sb ∈ shapesOfRank 1 2, kronAgrees sa sb = true := by decide +kernel

end NmVerif
