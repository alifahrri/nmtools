import NmVerif.Index.SlidingWindow
import NmVerif.Lemmas.SelCommon
/-
  SPEC of `view::sliding_window` with a window LIST (`numpy.lib.stride_tricks.sliding_window_view(a, window_shape, axis)`):
  `swShape`, `swIndex`, written with the per-axis total `winSum`; the loops of the model computed against them.
-/
namespace NmVerif.Index

/-- total of the entries of `o` listed for axis `p` (0 for an axis that is not listed) -/
def winSum : List Nat → List Nat → Nat → Nat
  | k :: ks, x :: o, p => (if k = p then x else 0) + winSum ks o p
  | _, _, _ => 0

/-- NumPy: `x_shape_trimmed[ax] -= dim - 1` for every `(ax, dim)`, then `+ window_shape` -/
def swShape (s : Shape) (ks ws : List Nat) : Shape :=
  s.mapIdx (fun p e => e - winSum ks (ws.map (· - 1)) p) ++ ws

/-- NumPy: `out_strides = x.strides + (x.strides[ax] for ax in axis)`, i.e. coordinate `p` of the source index is
    `i[p]` plus every window coordinate whose axis is `p` -/
def swIndex (i : Idx) (ks o : List Nat) : Idx := i.mapIdx (fun p x => x + winSum ks o p)

theorem indexSlidingWindow_append (i o : Idx) (n : Nat) (hi : i.length = n) (axes : Option (List Int)) :
    indexSlidingWindow (i ++ o) n axes = match axes with
      | none => some (List.zipWith (· + ·) i (o ++ List.replicate (n - o.length) 0))
      | some l => addWindowOffsets i l o := by
  subst hi
  cases axes <;> simp only [indexSlidingWindow, List.take_left, List.drop_left]

theorem shrinkAxes_eq (s : Shape) (ks ws : List Nat) (hks : ∀ k ∈ ks, k < s.length) :
    shrinkAxes s ks ws = s.mapIdx (fun p e => e - winSum ks (ws.map (· - 1)) p) := by
  induction ks generalizing s ws with
  | nil => exact (mapIdx_eq_self _ s fun _ e _ => Nat.sub_zero e).symm
  | cons k ks ih =>
    cases ws with
    | nil => exact (mapIdx_eq_self _ s fun _ e _ => Nat.sub_zero e).symm
    | cons w ws =>
      have hk : k < s.length := hks k List.mem_cons_self
      simp only [shrinkAxes, List.getElem?_eq_getElem hk, List.map_cons, winSum]
      rw [ih _ ws (fun k' hk' => by rw [List.length_set]; exact hks k' (List.mem_cons_of_mem _ hk'))]
      refine mapIdx_set _ _ s k _ hk ?_ fun p e hkp => ?_
      · simp only [if_true, Nat.sub_sub]
      · simp only [hkp, if_false, Nat.zero_add]

theorem addWindowOffsets_eq {n : Nat} (i : Idx) (axes : List Int) (ks o : List Nat) (hi : i.length = n)
    (h : AxesNorm n axes ks) : addWindowOffsets i axes o = some (swIndex i ks o) := by
  induction h generalizing i o with
  | nil => cases o <;> exact congrArg some (mapIdx_eq_self _ i fun _ e _ => Nat.add_zero e).symm
  | @cons ax k axes ks hk _ ih =>
    subst hi
    cases o with
    | nil => exact congrArg some (mapIdx_eq_self _ i fun _ e _ => Nat.add_zero e).symm
    | cons x o =>
      have hkn := (normalizeAxis1_some ax _ k hk).1
      simp only [addWindowOffsets, atPy_of_normalizeAxis1 i ax k hk, List.getElem?_eq_getElem hkn,
        setPy_of_normalizeAxis1 i ax k _ hk]
      rw [ih (i.set k (i[k] + x)) o List.length_set]
      refine congrArg some (mapIdx_set _ _ i k _ hkn ?_ fun p e hkp => ?_)
      · simp only [winSum, if_true, Nat.add_assoc]
      · simp only [winSum, hkp, if_false, Nat.zero_add]

theorem winSum_le (ks o ws : List Nat) (p : Nat) (ho : InShape o ws) : winSum ks o p ≤ winSum ks (ws.map (· - 1)) p := by
  fun_induction winSum ks o p generalizing ws with
  | case1 k ks x o p ih =>
    rcases ws with _ | ⟨w, ws⟩
    · exact ho.elim
    rw [List.map_cons, winSum]
    split
    · exact Nat.add_le_add (Nat.le_sub_one_of_lt ho.1) (ih ws ho.2)
    · exact Nat.add_le_add_left (ih ws ho.2) 0
  | case2 => exact Nat.zero_le _

theorem swIndex_inShape (s : Shape) (ks ws : List Nat) (i o : Idx)
    (hi : InShape i (s.mapIdx (fun p e => e - winSum ks (ws.map (· - 1)) p))) (ho : InShape o ws) :
    InShape (swIndex i ks o) s :=
  inShape_mapIdx _ _ hi fun p x n _ hxm => by
    have := winSum_le ks o ws p ho
    show x + winSum ks o p < n
    change x < n - winSum ks (ws.map (· - 1)) p at hxm
    omega

/-- axis None: every axis has its own window -/
theorem zipWith_add_inShape (s ws : List Nat) (i o : Idx) (hl : ws.length = s.length)
    (hi : InShape i (List.zipWith (fun e w => e - (w - 1)) s ws)) (ho : InShape o ws) :
    InShape (List.zipWith (· + ·) i o) s := by
  induction o, ws, ho using inShape_ind generalizing s i with
  | nil => cases List.length_eq_zero_iff.1 hl.symm; rw [List.zipWith_nil_right]; trivial
  | cons x o w ws hx _ ih =>
    obtain ⟨e, s, rfl⟩ := List.exists_cons_of_length_eq_add_one hl.symm
    rcases i with _ | ⟨y, i⟩
    · exact hi.elim
    have hy : y < e - (w - 1) := hi.1
    exact ⟨(by omega : y + x < e), ih s i (Nat.succ.inj hl) hi.2⟩

end NmVerif.Index
