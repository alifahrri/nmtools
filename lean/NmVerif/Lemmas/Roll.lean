import NmVerif.Index.Roll
import NmVerif.Lemmas.SelCommon
/-
  SPEC of np.roll and proofs that the MODEL meets it for every shift (positive extents).
  NumPy: `np.roll(a, shift, axis=k)[…, x, …] = a[…, (x - shift) mod n, …]` (`n` the extent; Python's non-negative mod);
         axis None rolls the flattened array and restores the shape.
-/
namespace NmVerif.Index

/-- NumPy: source position of destination position `x` on an axis of extent `n` rolled by `shift` -/
def rollSrc (n x : Nat) (shift : Int) : Nat := (((x : Int) - shift) % (n : Int)).toNat

theorem rollSrc_lt (n x : Nat) (shift : Int) (hn : 0 < n) : rollSrc n x shift < n := by
  unfold rollSrc
  have h1 := Int.emod_nonneg ((x : Int) - shift) (by omega : (n : Int) ≠ 0)
  have h2 := Int.emod_lt_of_pos ((x : Int) - shift) (by omega : (0 : Int) < n)
  omega

theorem rollSrc_zero (n x : Nat) (h : x < n) : rollSrc n x 0 = x := by
  unfold rollSrc
  rw [Int.sub_zero, Int.emod_eq_of_lt (by omega) (by omega)]
  simp

theorem rollSrc_rollSrc (n x : Nat) (a b : Int) (hn : 0 < n) : rollSrc n (rollSrc n x a) b = rollSrc n x (a + b) := by
  unfold rollSrc
  rw [Int.toNat_of_nonneg (Int.emod_nonneg _ (by omega)), Int.emod_sub_emod, Int.sub_sub]

theorem normalizeRollIndex_eq (n : Nat) (a : Int) (hn : 0 < n) :
    normalizeRollIndex a n = a % (n : Int) := by
  have hpos : (0 : Int) < n := by omega
  have h1 := Int.emod_nonneg a (by omega : (n : Int) ≠ 0)
  have h2 := Int.emod_lt_of_pos a hpos
  have h := @Int.tmod_eq_emod a (n : Int)
  simp only [normalizeRollIndex]
  by_cases hc : 0 ≤ a ∨ (n : Int) ∣ a
  · rw [if_pos hc] at h
    rw [h]
    split <;> omega
  · rw [if_neg hc] at h
    have habs : (n : Int).natAbs = n := by omega
    rw [habs] at h
    rw [h]
    split <;> omega

theorem i2u_normalizeRollIndex (n x : Nat) (shift : Int) (hn : 0 < n) :
    i2u (normalizeRollIndex ((x : Int) - shift) n) = rollSrc n x shift := by
  rw [normalizeRollIndex_eq n _ hn, i2u_of_nonneg _ (Int.emod_nonneg _ (by omega))]
  rfl

theorem indexRollLoop_cons (s : Shape) (d : Idx) (ax : Int) (axes : List Int) (sh : Int) (shifts : List Int)
    (res : Idx) (hres : InShape res s) (k : Nat) (hk : normalizeAxis1 ax s.length = some k)
    (n y : Nat) (hn : s[k]? = some n) (hy : res[k]? = some y) :
    indexRollLoop s d (ax :: axes) (sh :: shifts) res =
      indexRollLoop s d axes shifts (res.set k (rollSrc n y sh)) := by
  obtain ⟨hkn, hp⟩ := normalizeAxis1_some ax _ k hk
  simp only [indexRollLoop, atPy, hp, hres.length_eq, Option.bind_some, hn, hy, setPy]
  rw [i2u_normalizeRollIndex n y sh (Nat.zero_lt_of_lt (hres.getElem?_lt hy hn))]

theorem indexRollU_single (s : Shape) (d : Idx) (shift axis : Int) (k : Nat)
    (hk : normalizeAxis1 axis s.length = some k) (hd : InShape d s) (n x : Nat) (hn : s[k]? = some n)
    (hx : d[k]? = some x) : indexRollU s d [shift] [axis] = some (d.set k (rollSrc n x shift)) :=
  indexRollLoop_cons s d axis [] shift [] d hd k hk n x hn hx

/-- NumPy adds up the shifts of an axis that is listed more than once: total shift of axis `j` -/
def shiftSum : List Nat → List Int → Nat → Int
  | k :: ks, sh :: shs, j => (if k = j then sh else 0) + shiftSum ks shs j
  | _, _, _ => 0

/-- the loop over the axis list as ONE `mapIdx`: coordinate `p` is rolled once, by the total shift listed for `p`
    (`s[p]?.getD 0` is the extent `s[p]`: `res` lies in `s`, so every position of `res` is one of `s`) -/
theorem indexRollLoop_eq (s : Shape) (d : Idx) (axes : List Int) (ks : List Nat) (shifts : List Int) (res : Idx)
    (hk : AxesNorm s.length axes ks) (hlen : shifts.length = axes.length) (hres : InShape res s) :
    indexRollLoop s d axes shifts res =
      some (res.mapIdx fun p x => rollSrc (s[p]?.getD 0) x (shiftSum ks shifts p)) := by
  induction hk generalizing shifts res with
  | nil =>
    refine congrArg some (mapIdx_eq_self _ res fun p x hx => ?_).symm
    have hn := List.getElem?_eq_getElem (hres.length_eq ▸ (List.getElem?_eq_some_iff.1 hx).1 : p < s.length)
    show rollSrc (s[p]?.getD 0) x 0 = x
    rw [hn]
    exact rollSrc_zero _ x (hres.getElem?_lt hx hn)
  | @cons ax k axes ks hk _ ih =>
    cases shifts with
    | nil => cases hlen
    | cons sh shifts =>
      have hks := (normalizeAxis1_some ax _ k hk).1
      have hkr : k < res.length := hres.length_eq ▸ hks
      have hn := List.getElem?_eq_getElem hks
      have hx := List.getElem?_eq_getElem hkr
      have hpos : 0 < s[k] := Nat.zero_lt_of_lt (hres.getElem?_lt hx hn)
      have hres' : InShape (res.set k (rollSrc s[k] res[k] sh)) s := by
        have := Shape.inShape_set k hres (rollSrc_lt s[k] res[k] sh hpos)
        rwa [List.set_getElem_self] at this
      rw [indexRollLoop_cons s d ax axes sh shifts res hres k hk _ _ hn hx,
        ih shifts _ (Nat.succ.inj hlen) hres']
      refine congrArg some (mapIdx_set _ _ res k _ hkr ?_ fun p x hkp => ?_)
      · simp only [shiftSum, if_true, hn, Option.getD_some, rollSrc_rollSrc _ _ _ _ hpos]
      · simp only [shiftSum, hkp, if_false, Int.zero_add]

theorem shapeRoll_of_axesNorm (s : Shape) (axes : List Int) (ks : List Nat) (h : AxesNorm s.length axes ks) :
    shapeRoll s axes = some s := by
  have : axes.all (fun a => (normalizeAxis1 a s.length).isSome) = true := by
    induction h with
    | nil => rfl
    | cons hk _ ih => simp [hk, ih]
  simp [shapeRoll, this]

end NmVerif.Index

/-! `C04.roll_nothing` stands here and not in Props/C04 because C15 cites it (no lemma file imports a property file) -/

namespace NmVerif.Props.C04
open NmVerif NmVerif.Index

theorem roll_nothing (s : Shape) (shift axis : Int) (h : axis < -(s.length : Int) ∨ (s.length : Int) ≤ axis) :
    rollView s shift axis = none := by
  simp [rollView, rollAxesView, shapeRoll, normalizeAxis1_none axis s.length h]

end NmVerif.Props.C04
