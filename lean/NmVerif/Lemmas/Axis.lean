import NmVerif.Index.NormalizeAxis
import NmVerif.Lemmas.ListBasics
/-
  `index::normalize_axis`, specified once.  `normalizeAxis_eq_some_iff` splits it into its cases; other
  copies of the function in the model are shown equal to `normalizeAxis`: `atPos` here, `Checked.normalizeAxis` in Lemmas/Checked,
  `Checked.axisInRange` / `Checked.normPos` (its guard and its value, apart) and `Index.normalizeAxis1` in Lemmas/CheckedOps,
  `Reduce.normalizeAxis` in Lemmas/ReduceArg, `Linalg.normAxis` in Lemmas/LinalgChecked.
-/
namespace NmVerif

theorem normalizeAxis_eq_some_iff (n : Nat) (a : Int) (k : Nat) :
    normalizeAxis n a = some k ↔ (-(n : Int) ≤ a ∧ a < n) ∧ (k : Int) = if a < 0 then a + n else a := by
  have toNat_eq (z : Int) (h : 0 ≤ z) : z.toNat = k ↔ (k : Int) = z := by
    rw [← Int.toNat_of_nonneg h, Int.natCast_inj, Int.toNat_natCast, eq_comm]
  rw [normalizeAxis, Option.ite_some_none_eq_some]
  refine and_congr_right fun hr => ?_
  split
  · rw [Int.add_comm, toNat_eq _ (Int.add_nonneg_iff_neg_le.mpr hr.1)]
  · rw [toNat_eq _ (Int.not_lt.mp ‹_›)]

theorem add_natCast_lt {n : Nat} {a : Int} (h : a < 0) : a + n < n := by
  have := Int.add_lt_add_right h (n : Int)
  rwa [Int.zero_add] at this

theorem normalizeAxis_lt (n : Nat) (a : Int) (k : Nat) (h : normalizeAxis n a = some k) : k < n := by
  obtain ⟨⟨_, h2⟩, h3⟩ := (normalizeAxis_eq_some_iff n a k).1 h
  refine Int.ofNat_lt.mp (h3 ▸ ?_)
  split
  · exact add_natCast_lt ‹_›
  · exact h2

theorem natCast_mem_axisRange {n k : Nat} (h : k < n) : -(n : Int) ≤ (k : Int) ∧ (k : Int) < n :=
  ⟨Int.le_trans (Int.neg_nonpos_of_nonneg (Int.natCast_nonneg n)) (Int.natCast_nonneg k), Int.ofNat_lt.2 h⟩

theorem normalizeAxis_ofNat (n k : Nat) (h : k < n) : normalizeAxis n (Int.ofNat k) = some k :=
  (normalizeAxis_eq_some_iff n _ k).2 ⟨natCast_mem_axisRange h, (if_neg (Int.not_lt.2 (Int.natCast_nonneg k))).symm⟩

theorem atPos_eq_normalizeAxis (n : Nat) (a : Int) : atPos n a = normalizeAxis n a := by
  unfold atPos normalizeAxis
  by_cases h0 : 0 ≤ a
  · rw [if_pos h0, if_neg (Int.not_lt.2 h0)]
    refine ite_congr (propext ?_) (fun _ => rfl) (fun _ => rfl)
    rw [Int.toNat_lt h0]
    exact ⟨fun h => ⟨Int.le_trans (Int.neg_nonpos_of_nonneg (Int.natCast_nonneg n)) h0, h⟩, And.right⟩
  · have h0' := Int.not_le.1 h0
    rw [if_neg h0, if_pos h0']
    refine ite_congr (propext ?_) (fun h => ?_) (fun _ => rfl)
    · exact ⟨fun h => ⟨Int.neg_le_of_neg_le h, Int.lt_of_lt_of_le h0' (Int.natCast_nonneg n)⟩,
        fun h => Int.neg_le_of_neg_le h.1⟩
    · rw [← Int.sub_neg, Int.toNat_sub'' (Int.natCast_nonneg n) (Int.neg_nonneg_of_nonpos (Int.le_of_lt h0')),
        Int.toNat_natCast]

theorem normalizeAxes_lt (n : Nat) (ax : List Int) (p : List Nat) (h : normalizeAxes n ax = some p) :
    ∀ a ∈ p, a < n := by
  intro a ha
  obtain ⟨x, _, hx⟩ := List.mem_of_mapM_eq_some h a ha
  exact normalizeAxis_lt _ _ _ hx

theorem normalizeAxes_ofNat (n : Nat) (p : List Nat) (h : ∀ a ∈ p, a < n) :
    normalizeAxes n (p.map Int.ofNat) = some p := by
  rw [normalizeAxes, List.mapM_eq_some_iff, List.map_map]
  exact List.map_congr_left (fun a ha => normalizeAxis_ofNat n a (h a ha))

theorem normalizeAxis_eq_mod (ndim : Nat) (a : Int) (k : Nat) :
    normalizeAxis ndim a = some k ↔ (-(ndim : Int) ≤ a ∧ a < (ndim : Int) ∧ (k : Int) = a % (ndim : Int)) := by
  have hmod : (-(ndim : Int) ≤ a ∧ a < ndim) → a % (ndim : Int) = if a < 0 then a + ndim else a := by
    rintro ⟨h1, h2⟩
    split
    · rw [Int.emod_eq_add_self_emod, Int.emod_eq_of_lt (Int.add_nonneg_iff_neg_le.mpr h1) (add_natCast_lt ‹_›)]
    · rw [Int.emod_eq_of_lt (Int.not_lt.mp ‹_›) h2]
  rw [normalizeAxis_eq_some_iff, and_assoc]
  exact and_congr_right fun h1 => and_congr_right fun h2 => by rw [hmod ⟨h1, h2⟩]

end NmVerif
