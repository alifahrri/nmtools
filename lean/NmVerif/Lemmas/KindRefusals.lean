/-
  Lemmas for property C09 about the ONE reference function per operation (NmVerif.Containers.KindRefs).  The kind matrix
  compares every kind-specific C++ branch with the reference answer `nothing` on sampled members of the refusal classes;
  `Props/C09` shows that the reference refuses EVERY member and that broadcasting does not depend on the operand order, from
  what stands here: `reshape` spelled out once (`reshape_eq_some_iff`), `broadcastShape` as an instance of `bcShape`
  (Lemmas/BcLoop), one mismatching axis refuses.  `WF` (as many elements as the shape demands) is what the accepted answers of
  the tabulated reference views satisfy.
-/
import NmVerif.Lemmas.Addressing
import NmVerif.Lemmas.ListBasics
import NmVerif.Lemmas.BcLoop
import NmVerif.Containers.KindRefs
namespace NmVerif.KindRefs
open NmVerif

theorem bdim_comm (a b : Nat) : bdim a b = bdim b a := by
  unfold bdim
  by_cases h1 : a = b
  · subst h1; rfl
  · have h2 : ¬ b = a := fun h => h1 h.symm
    simp only [h1, h2, if_false]
    by_cases ha : a = 1 <;> by_cases hb : b = 1 <;> simp [ha, hb] <;> omega

theorem bshapeRev_eq : bshapeRev = bcLoop bdim :=
  eq_bcLoop (fun _ => by rw [bshapeRev]) (fun _ _ => by rw [bshapeRev]; exact nofun) fun a as b bs => by
    rw [bshapeRev]; cases bdim a b <;> cases bshapeRev as bs <;> rfl

theorem broadcastShape_eq : broadcastShape = bcShape bdim := by
  funext a b; rw [broadcastShape, bshapeRev_eq]; rfl

theorem bshapeRev_none_of_mismatch {ra rb : List Nat} (k : Nat) {x y : Nat} (h1 : ra[k]? = some x) (h2 : rb[k]? = some y)
    (h3 : bdim x y = none) : bshapeRev ra rb = none := by
  fun_induction bshapeRev ra rb generalizing k with
  | case1 => cases h1
  | case2 => cases h2
  | case3 p ps q qs ih =>
    cases k with
    | zero => cases h1; cases h2; simp only [h3, Option.bind_eq_bind, Option.bind_none]
    | succ k => simp only [ih k h1 h2]; cases bdim p q <;> rfl

theorem bdim_none {x y : Nat} (hxy : x ≠ y) (hx : x ≠ 1) (hy : y ≠ 1) : bdim x y = none := by
  simp [bdim, hxy, hx, hy]

/-- an array value is well formed when it has as many elements as its shape demands -/
def WF (a : ArrV) : Prop := a.2.length = prod a.1

theorem tabulate_wf (r : List Nat) (f : List Nat → Nat) : WF (tabulate r f) := by
  simp [WF, tabulate, Shape.allIdx_length]

theorem wf_of_map_tabulate {α : Type} {x : Option α} {sh : α → List Nat} {f : α → List Nat → Nat} {v : ArrV}
    (h : x.map (fun r => tabulate (sh r) (f r)) = some v) : WF v := by
  obtain ⟨r, -, rfl⟩ := Option.map_eq_some_iff.mp h
  exact tabulate_wf _ _

/-- the target with its unknown slots filled by `q` -/
def fillUnknown (q : Nat) (dst : List Int) : List Nat := dst.map (fun d => if d < 0 then q else d.toNat)

theorem prod_fillUnknown (q : Nat) (dst : List Int) :
    prod (fillUnknown q dst)
      = q ^ (dst.filter (· < 0)).length * prod ((dst.filter (· ≥ 0)).map Int.toNat) := by
  induction dst with
  | nil => rfl
  | cons d t ih =>
    have e : fillUnknown q (d :: t) = (if d < 0 then q else d.toNat) :: fillUnknown q t := rfl
    rw [e, prod, ih]
    by_cases hd : d < 0
    · rw [if_pos hd, List.filter_cons_of_pos (by simpa using hd),
        List.filter_cons_of_neg (by simpa using hd), List.length_cons, Nat.pow_succ, Nat.mul_comm _ q,
        Nat.mul_assoc]
    · rw [if_neg hd, List.filter_cons_of_neg (by simpa using hd),
        List.filter_cons_of_pos (by simpa using hd), List.map_cons, prod, Nat.mul_left_comm]

theorem fillUnknown_zero (dst : List Int) : fillUnknown 0 dst = dst.map Int.toNat :=
  List.map_congr_left fun _ _ => ite_eq_right_iff.mpr fun hd => (Int.toNat_of_nonpos (Int.le_of_lt hd)).symm

theorem reshape_eq_some_iff (src : List Nat) (dst : List Int) (r : List Nat) :
    reshape src dst = some r ↔
      (dst.filter (· < 0)).any (· ≠ -1) = false ∧
      (((dst.filter (· < 0)).length = 0 ∧ prod ((dst.filter (· ≥ 0)).map Int.toNat) = prod src ∧
          r = dst.map Int.toNat) ∨
       ((dst.filter (· < 0)).length = 1 ∧ prod ((dst.filter (· ≥ 0)).map Int.toNat) ≠ 0 ∧
          prod src % prod ((dst.filter (· ≥ 0)).map Int.toNat) = 0 ∧
          r = fillUnknown (prod src / prod ((dst.filter (· ≥ 0)).map Int.toNat)) dst)) := by
  unfold reshape fillUnknown
  simp only
  generalize prod ((dst.filter (· ≥ 0)).map Int.toNat) = known
  generalize (dst.filter (· < 0)).length = negs
  cases (dst.filter (· < 0)).any (· ≠ -1)
  · match negs with
    | 0 => simp [eq_comm]
    | 1 => by_cases hk : known = 0 <;> simp [hk, eq_comm]
    | _ + 2 => simp
  · simp

theorem filter_sign_of_pos (d : List Int) (h : ∀ x ∈ d, 0 < x) : d.filter (· < 0) = [] ∧ d.filter (· ≥ 0) = d :=
  ⟨List.filter_eq_nil_iff.mpr fun x hx => by have := h x hx; simp; omega,
    List.filter_eq_self.mpr fun x hx => by have := h x hx; simp; omega⟩

/-- entry `j` of the last `j + k + 1` extents is entry `k` counted from the end: `matmulShape` reads the former, its refusal
    theorem names the latter.  The suffix length is written `j + k + 1` so that no subtraction occurs -/
theorem getD_drop_of_reverse {l : List Nat} {n j k x : Nat} (hl : l.length = n + (j + k + 1))
    (h : l.reverse[k]? = some x) : (l.drop n).getD j 0 = x := by
  have hk : k < l.length := hl ▸ Nat.lt_add_left n (Nat.lt_succ_of_le (Nat.le_add_left k j))
  have e : l.length - 1 - k = n + j := by
    rw [hl, ← Nat.add_assoc, Nat.add_sub_cancel, ← Nat.add_assoc, Nat.add_sub_cancel]
  rw [List.getElem?_reverse hk, e] at h
  rw [List.getD_eq_getElem?_getD, List.getElem?_drop, h]
  rfl

end NmVerif.KindRefs
