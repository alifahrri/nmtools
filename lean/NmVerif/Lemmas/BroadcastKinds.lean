import NmVerif.Index.BroadcastKinds
import NmVerif.Lemmas.Broadcast
/-
  Lemmas for the kinded model of broadcast_shape (Index/BroadcastKinds.lean): the result container that
  `resolveBroadcast` (mirror of meta::resolve_optype<broadcast_shape_t>) picks is never too small for the broadcast
  of well-formed operands, for single calls (`resolveBroadcast_fits`, `kPair_faithful`) and for nests
  (`keval_faithful`).  The property-level statements are in Props/C06.lean.
-/
namespace NmVerif

theorem LeL.le_listMax {r bs : List Nat} (h : LeL r bs) : ∀ v ∈ r, v ≤ listMax bs := by
  refine h.induction nofun fun hxy _ ih v hv => ?_
  rcases List.mem_cons.1 hv with rfl | hv
  · exact Nat.le_trans hxy (Nat.le_max_left _ _)
  · exact Nat.le_trans (ih v hv) (Nat.le_max_right _ _)

/-- the run-time value of an operand is consistent with what its type says (`lenv = 0`: length not known at compile
    time) -/
def KShape.WF (a : KShape) : Prop :=
  Pos a.vals ∧
  (a.info.isNone = true → a.vals = [] ∧ a.info.const = false ∧ a.info.bounds = none) ∧
  (a.info.const = true → a.info.bounds = none ∧ a.info.lenv = a.vals.length) ∧
  (∀ bs, a.info.bounds = some bs → LeL a.vals bs ∧ a.info.lenv = bs.length) ∧
  (0 < a.info.lenv → a.info.lenv = a.vals.length) ∧
  (∀ c, a.info.bsize = some c → a.vals.length ≤ c)

/-- `v` is a run-time value of an operand of TYPE `a`: in a nest the resolver is asked about the result types of earlier
    calls (`RType.asOperand`), whose `vals` are the value only where the type is constant -/
def KShape.Holds (a : KShape) (v : Shape) : Prop := KShape.WF ⟨a.info, v⟩ ∧ (a.info.const = true → v = a.vals)

theorem KShape.WF.holds {a : KShape} (h : a.WF) : a.Holds a.vals := ⟨h, fun _ => rfl⟩

theorem KShape.Holds.vals_of_none {a : KShape} {v : Shape} (h : a.Holds v) (hn : a.info.isNone = true) : v = [] :=
  (h.1.2.1 hn).1

theorem KShape.Holds.lenv_eq {a : KShape} {v : Shape} (h : a.Holds v) (hl : 0 < a.info.lenv) : a.info.lenv = v.length :=
  h.1.2.2.2.2.1 hl

theorem KShape.Holds.le_bsize {a : KShape} {v : Shape} (h : a.Holds v) {c : Nat} (hc : a.info.bsize = some c) :
    v.length ≤ c :=
  h.1.2.2.2.2.2 c hc

/-- the extents `r` can be stored into the container `t` without clamping / overflow (and are the constant the
    type carries, for a constant type) -/
def RType.Fits (t : RType) (r : Shape) : Prop :=
  match t with
  | .error => False
  | .noneT => r = []
  | .constT v => r = v
  | .clippedT bs => LeL r bs
  | .arr n => r.length = n
  | .clippedArr m n => r.length = n ∧ ∀ v ∈ r, v ≤ m
  | .svec c => r.length ≤ c
  | .list => True

theorem map_min_eq_iff {r : List Nat} {m : Nat} : r.map (min · m) = r ↔ ∀ v ∈ r, v ≤ m := by
  induction r with
  | nil => simp
  | cons x xs ih =>
    simp only [List.map_cons, List.cons.injEq, ih, List.forall_mem_cons]
    exact and_congr_left' (by omega)

theorem RType.store_of_fits {t : RType} {r : Shape} (h : t.Fits r) : t.store r = (r, 0, 0) := by
  revert h
  fun_cases RType.store t r
  · next bs =>
    intro (h : LeL r bs)
    rw [zipWith_min_of_LeL h, noClamp_of_LeL h]
  · next m n =>
    intro (h : r.length = n ∧ ∀ v ∈ r, v ≤ m)
    -- one common bound `m` is the bound list `replicate _ m`
    rw [map_min_eq_iff.2 h.2, ← List.zipWith_replicate_right (fun v b => if v > b then 1 else 0) r m,
      noClamp_of_LeL (replicate_LeL h.2)]
  · exact fun _ => rfl
  · next hc => exact fun h => absurd h hc
  · exact fun _ => rfl

theorem KShape.wf_none : KShape.WF ⟨KInfo.none', []⟩ :=
  ⟨nofun, fun _ => ⟨rfl, rfl, rfl⟩, nofun, nofun, nofun, nofun⟩

theorem KShape.wf_ct {v : Shape} (hp : Pos v) : KShape.WF ⟨KInfo.ct v.length, v⟩ :=
  ⟨hp, nofun, fun _ => ⟨rfl, rfl⟩, nofun, fun _ => rfl, fun _ e => by cases e; exact Nat.le_refl _⟩

/-- clipped integers in a tuple (`c = false`) or in an array: the definition does not look at `clippedArray` -/
theorem KShape.wf_cl {v bs : List Nat} (c : Bool) (hp : Pos v) (h : LeL v bs) :
    KShape.WF ⟨{ KInfo.cl bs with clippedArray := c }, v⟩ :=
  ⟨hp, nofun, nofun, fun _ e => by cases e; exact ⟨h, rfl⟩, fun _ => h.length_eq.symm,
    fun _ e => by cases e; exact Nat.le_of_eq h.length_eq⟩

theorem KShape.wf_arr {v : Shape} (hp : Pos v) : KShape.WF ⟨KInfo.arr v.length, v⟩ :=
  ⟨hp, nofun, nofun, nofun, fun _ => rfl, fun _ e => by cases e; exact Nat.le_refl _⟩

theorem KShape.wf_sv {v : Shape} {c : Nat} (hp : Pos v) (h : v.length ≤ c) : KShape.WF ⟨KInfo.sv c, v⟩ :=
  ⟨hp, nofun, nofun, nofun, fun h0 => absurd h0 (Nat.lt_irrefl 0), fun _ e => by cases e; exact h⟩

theorem KShape.wf_dyn {v : Shape} (hp : Pos v) : KShape.WF ⟨KInfo.dyn, v⟩ :=
  ⟨hp, nofun, nofun, nofun, fun h0 => absurd h0 (Nat.lt_irrefl 0), nofun⟩

/-- a value that fits its container is a well-formed operand of the next call -/
theorem RType.wf_of_fits {t : RType} {r : Shape} (hp : Pos r) (h : t.Fits r) : KShape.WF ⟨t.info, r⟩ := by
  cases t with
  | error => exact h.elim
  | noneT => cases h; exact KShape.wf_none
  | constT v => cases h; exact KShape.wf_ct hp
  | clippedT bs => exact KShape.wf_cl false hp h
  | arr n => cases h; exact KShape.wf_arr hp
  | clippedArr m n => obtain ⟨hl, hm⟩ := h; subst hl; exact KShape.wf_cl true hp (replicate_LeL hm)
  | svec c => exact KShape.wf_sv hp h
  | list => exact KShape.wf_dyn hp

theorem RType.ofOperand_fits {a : KShape} {v : Shape} (h : a.Holds v) : (RType.ofOperand a).Fits v := by
  obtain ⟨⟨hp, hn, hc, hb, hl, hs⟩, hv⟩ := h
  fun_cases RType.ofOperand a
  · exact (hn ‹_›).1
  · exact hv ‹_›
  · next bs hbs _ => exact ⟨(hb bs hbs).1.length_eq, (hb bs hbs).1.le_listMax⟩
  · exact (hb _ ‹_›).1
  · exact (hl ‹_›).symm
  · exact hs _ ‹_›
  · trivial

theorem KShape.toValue_spec {a : KShape} {v : Shape} (h : a.Holds v) (hs : a.isStatic = true) :
    ∃ A, a.toValue = some A ∧ LeL v A ∧ a.info.lenv = A.length ∧ (a.info.const = true → A = v) := by
  obtain ⟨⟨hp, hn, hc, hb, hl, hz⟩, hv⟩ := h
  unfold KShape.toValue
  split
  · next c => exact ⟨v, congrArg some (hv c).symm, LeL.refl _, (hc c).2, fun _ => rfl⟩
  · next c =>
    obtain ⟨bs, hbs⟩ := Option.isSome_iff_exists.1 ((Bool.or_eq_true_iff.1 hs).resolve_left c)
    exact ⟨bs, hbs, (hb bs hbs).1, (hb bs hbs).2, fun e => absurd e c⟩

theorem constVsFixed_fits {A b r : Shape} {n : Nat} (hl : b.length ≤ A.length)
    (hr : broadcastShape2 A b = some r) (hn : r.length = n) : (constVsFixed A n).Fits r := by
  fun_cases constVsFixed A n
  · next h => rw [bc2_eq_left (fun v hv => of_decide_eq_true (List.all_eq_true.1 h v hv)) hl hr]; exact LeL.refl _
  · exact hn

theorem resolveFixed_fits {a b : KShape} {av bv : Shape} (ha : a.Holds av) (hb : b.Holds bv) (hla : 0 < a.info.lenv)
    (hlb : 0 < b.info.lenv) {r : Shape} (hr : broadcastShape2 av bv = some r) : (resolveFixed a b).Fits r := by
  have ea := ha.lenv_eq hla
  have eb := hb.lenv_eq hlb
  have hlen : r.length = max a.info.lenv b.info.lenv := by rw [ea, eb]; exact bc2_length hr
  fun_cases resolveFixed a b
  · next h =>
    simp only [Bool.and_eq_true, decide_eq_true_eq, ea, eb] at h
    rw [← ha.2 h.1]
    exact constVsFixed_fits h.2 hr hlen
  · next h =>
    simp only [Bool.and_eq_true, decide_eq_true_eq, ea, eb] at h
    rw [← hb.2 h.1]
    exact constVsFixed_fits h.2 (bc2_comm _ _ ▸ hr) hlen
  · exact hlen

theorem resolveVsBounded_fits {x y : KShape} {xv yv : Shape} (hx : x.Holds xv) (hy : y.Holds yv) (hlx : 0 < x.info.lenv)
    {cy : Nat} (hcy : y.info.bsize = some cy) {r : Shape} (hr : broadcastShape2 xv yv = some r) :
    (resolveVsBounded x cy).Fits r := by
  have ex := hx.lenv_eq hlx
  have ey : yv.length ≤ cy := hy.le_bsize hcy
  have hlen : r.length ≤ max x.info.lenv cy := by rw [bc2_length hr, ex]; exact Nat.max_le_max (Nat.le_refl _) ey
  fun_cases resolveVsBounded x cy
  · next h =>
    simp only [Bool.and_eq_true, decide_eq_true_eq, ex] at h
    rw [← hx.2 h.1]
    fun_cases constVsBounded xv _
    · exact hlen
    · next hany =>
      have hgt : ∀ v ∈ xv, 1 < v := fun v hv => Nat.lt_of_le_of_ne (hx.1.1 v hv) fun e =>
        List.any_eq_false.1 (Bool.eq_false_iff.2 hany) v hv (beq_iff_eq.2 e.symm)
      rw [bc2_eq_left hgt (Nat.le_trans ey h.2) hr]
      exact ⟨rfl, (LeL.refl _).le_listMax⟩
  · exact hlen

theorem resolveIndex_fits {a b : KShape} {av bv : Shape} (ha : a.Holds av) (hb : b.Holds bv) {r : Shape}
    (hr : broadcastShape2 av bv = some r) : (resolveIndex a b).Fits r := by
  fun_cases resolveIndex a b
  · next h => exact resolveFixed_fits ha hb h.1 h.2 hr
  · next cb hcb hla => exact resolveVsBounded_fits ha hb (of_decide_eq_true hla) hcb hr
  · next ca hca hlb _ => exact resolveVsBounded_fits hb ha (of_decide_eq_true hlb) hca (bc2_comm _ _ ▸ hr)
  · next ca cb hcb hca _ _ =>
    show r.length ≤ _
    rw [bc2_length hr]
    exact Nat.max_le_max (ha.le_bsize hca) (hb.le_bsize hcb)
  · trivial

theorem resolveStatic_fits {a b : KShape} {av bv A B : Shape}
    (hA : LeL av A) (hB : LeL bv B) (hla : a.info.lenv = A.length) (hlb : b.info.lenv = B.length)
    (hcA : a.info.const = true → A = av) (hcB : b.info.const = true → B = bv)
    {r : Shape} (hr : broadcastShape2 av bv = some r) :
    (resolveStatic (a.info.const && b.info.const) (max a.info.lenv b.info.lenv) A B).Fits r := by
  have hconst : (a.info.const && b.info.const) = true → broadcastShape2 A B = some r := fun hc => by
    rw [Bool.and_eq_true] at hc
    rw [hcA hc.1, hcB hc.2, hr]
  fun_cases resolveStatic _ _ A B
  · next R hR hc => exact Option.some.inj ((hconst hc).symm.trans hR)
  · next R hR _ =>
    -- below the bounds the result is below the result of the bounds
    rw [broadcastShape2_eq] at hr hR
    exact bcShape_mono bc1_mono hr hR hA hB
  · next hR hc => cases (hconst hc).symm.trans hR
  · rw [hla, hlb, ← hA.length_eq, ← hB.length_eq]
    exact bc2_length hr

/-- **the container never is too small**: whatever the kinds of two well-formed operands, a broadcast result fits
    the container `meta::resolve_optype` chose for it -/
theorem resolveBroadcast_fits {a b : KShape} {av bv : Shape} (ha : a.Holds av) (hb : b.Holds bv) {r : Shape}
    (hr : broadcastShape2 av bv = some r) : (resolveBroadcast a b).Fits r := by
  fun_cases resolveBroadcast a b
  · next hs A B eB eA =>
    simp only [Bool.and_eq_true] at hs
    obtain ⟨A', eA', lA, nA, cA⟩ := KShape.toValue_spec ha hs.1
    obtain ⟨B', eB', lB, nB, cB⟩ := KShape.toValue_spec hb hs.2
    cases eA.symm.trans eA'; cases eB.symm.trans eB'
    exact resolveStatic_fits lA lB nA nB cA cB hr
  · next hs hno =>
    simp only [Bool.and_eq_true] at hs
    obtain ⟨A', eA', -⟩ := KShape.toValue_spec ha hs.1
    obtain ⟨B', eB', -⟩ := KShape.toValue_spec hb hs.2
    exact hno _ _ eA' eB'
  · next hna hnb =>
    rw [ha.vals_of_none hna, bc2_nil_left] at hr
    cases hr; exact hb.vals_of_none hnb
  · next hna _ =>
    rw [ha.vals_of_none hna, bc2_nil_left] at hr
    cases hr; exact RType.ofOperand_fits hb
  · next _ hnb =>
    rw [hb.vals_of_none hnb, bc2_nil_right] at hr
    cases hr; exact RType.ofOperand_fits ha
  · exact resolveIndex_fits ha hb hr

/-- a call that does not compile (two constant shapes that are incompatible) is a refusal -/
theorem resolveBroadcast_error {a b : KShape} {av bv : Shape} (ha : a.Holds av) (hb : b.Holds bv)
    (he : resolveBroadcast a b = .error) : broadcastShape2 av bv = none := by
  cases hr : broadcastShape2 av bv with
  | none => rfl
  | some r => exact absurd (resolveBroadcast_fits ha hb hr) (by rw [he]; exact id)

/-- the resolver looks at the VALUES of an operand only when they are part of its type -/
theorem resolveBroadcast_vals_irrel (i j : KInfo) (v v' w w' : Shape)
    (hv : i.const = true → v = v') (hw : j.const = true → w = w') :
    resolveBroadcast ⟨i, v⟩ ⟨j, w⟩ = resolveBroadcast ⟨i, v'⟩ ⟨j, w'⟩ := by
  -- one operand at a time: for a non-constant type every branch that reads the values is switched off
  have left : ∀ b : KShape, resolveBroadcast ⟨i, v⟩ b = resolveBroadcast ⟨i, v'⟩ b := by
    intro b
    cases hci : i.const
    · simp only [resolveBroadcast, KShape.isStatic, KShape.toValue, resolveIndex, resolveFixed, resolveVsBounded,
        RType.ofOperand, hci, Bool.false_and, Bool.false_eq_true, if_false]
    · rw [hv hci]
  have right : ∀ a : KShape, resolveBroadcast a ⟨j, w⟩ = resolveBroadcast a ⟨j, w'⟩ := by
    intro a
    cases hcj : j.const
    · simp only [resolveBroadcast, KShape.isStatic, KShape.toValue, resolveIndex, resolveFixed, resolveVsBounded,
        RType.ofOperand, hcj, Bool.false_and, Bool.false_eq_true, if_false]
    · rw [hw hcj]
  rw [left, right]

/-- invariant of the results of a nest: no hook event, a real container, the value (if any) fits it, and a constant /
    None type is never Nothing -/
structure KOut.Good (o : KOut) : Prop where
  ev : o.clamps = 0 ∧ o.overflows = 0
  ne : o.ty ≠ .error
  fits : ∀ r, o.val = some r → o.ty.Fits r ∧ Pos r
  constSome : ∀ v, o.ty = .constT v → o.val = some v
  noneSome : o.ty = .noneT → o.val = some []

theorem RType.info_static_iff (t : RType) :
    (t.info.const = true ↔ ∃ v, t = .constT v) ∧ (t.info.isNone = true ↔ t = .noneT) := by
  cases t <;> simp [RType.info, KInfo.ct, KInfo.cl, KInfo.arr, KInfo.sv, KInfo.dyn, KInfo.none']

theorem KOut.Good.operand {o : KOut} (h : o.Good) {r : Shape} (hr : o.val = some r) :
    KShape.WF ⟨o.ty.info, r⟩ ∧ (o.ty.info.const = true → r = o.ty.constVals) := by
  obtain ⟨hf, hp⟩ := h.fits r hr
  refine ⟨RType.wf_of_fits hp hf, fun hc => ?_⟩
  obtain ⟨v, hv⟩ := o.ty.info_static_iff.1.1 hc
  have := h.constSome v hv
  rw [hr] at this
  cases this
  simp [hv, RType.constVals]

theorem KOut.Good.holds {o : KOut} (h : o.Good) {r : Shape} (hr : o.val = some r) : o.ty.asOperand.Holds r :=
  h.operand hr

/-- a value in a container it fits is a good result: for a constant / None type `Fits` says the value is the type's own -/
theorem KOut.Good.of_fits {t : RType} {r : Shape} {c o : Nat} (hev : c = 0 ∧ o = 0) (hf : t.Fits r) (hp : Pos r) :
    KOut.Good { ty := t, val := some r, clamps := c, overflows := o } :=
  { ev := hev, ne := fun e => by subst e; exact hf, fits := fun _ h => by cases h; exact ⟨hf, hp⟩,
    constSome := fun _ e => by subst e; exact congrArg some hf, noneSome := fun e => by subst e; exact congrArg some hf }

theorem KShape.out_good {a : KShape} (h : a.WF) : a.out.Good :=
  .of_fits ⟨rfl, rfl⟩ (RType.ofOperand_fits h.holds) h.1

/-- a container filled at run time: `kPair` stores the loop's result into it -/
def RType.Runtime : RType → Prop
  | .error | .noneT | .constT _ => False
  | _ => True

/-- a container fixed at compile time: the value is part of the type -/
def RType.Static (t : RType) : Prop := (∃ v, t = .constT v) ∨ t = .noneT

theorem RType.runtime_or (t : RType) : t.Runtime ∨ t = .error ∨ t.Static := by
  cases t <;> simp [RType.Runtime, RType.Static]

theorem RType.Static.spec {t : RType} (h : t.Static) : ¬ t.Runtime ∧ t ≠ .error ∧ t.Fits t.constVals := by
  rcases h with ⟨v, rfl⟩ | rfl <;> exact ⟨id, nofun, rfl⟩

theorem constVsFixed_runtime (A : Shape) (n : Nat) : (constVsFixed A n).Runtime := by
  fun_cases constVsFixed A n <;> trivial

theorem resolveFixed_runtime (a b : KShape) : (resolveFixed a b).Runtime := by
  fun_cases resolveFixed a b
  · exact constVsFixed_runtime _ _
  · exact constVsFixed_runtime _ _
  · trivial

theorem resolveVsBounded_runtime (a : KShape) (c : Nat) : (resolveVsBounded a c).Runtime := by
  fun_cases resolveVsBounded a c
  · fun_cases constVsBounded a.vals _ <;> trivial
  · trivial

theorem resolveIndex_runtime (a b : KShape) : (resolveIndex a b).Runtime := by
  fun_cases resolveIndex a b
  · exact resolveFixed_runtime a b
  · exact resolveVsBounded_runtime a _
  · exact resolveVsBounded_runtime b _
  · trivial
  · trivial

theorem RType.ofOperand_static {a : KShape} (h : ¬ (RType.ofOperand a).Runtime) :
    (a.info.const = true ∨ a.info.isNone = true) ∧ ∀ {v}, a.Holds v → (RType.ofOperand a).constVals = v := by
  revert h
  fun_cases RType.ofOperand a
  · next hn => exact fun _ => ⟨.inr hn, fun w => (w.vals_of_none hn).symm⟩
  · next hc => exact fun _ => ⟨.inl hc, fun w => (w.2 hc).symm⟩
  all_goals exact fun h => absurd trivial h

theorem resolveStatic_static {c : Bool} {n : Nat} {A B : Shape} (h : ¬ (resolveStatic c n A B).Runtime)
    (he : resolveStatic c n A B ≠ .error) :
    c = true ∧ broadcastShape2 A B = some (resolveStatic c n A B).constVals := by
  revert h he
  fun_cases resolveStatic c n A B
  · next R hR hc => exact fun _ _ => ⟨hc, hR⟩
  · exact fun h _ => absurd trivial h
  · exact fun _ he => absurd rfl he
  · exact fun h _ => absurd trivial h

/-- a container that is not filled at run time comes from operand types that are constant or None and carries the
    broadcast of their values (`¬ Runtime` rather than `Static`, here and in the two lemmas above: the run-time clauses
    of the model functions then close by `absurd trivial h`) -/
theorem resolveBroadcast_static {a b : KShape} (h : ¬ (resolveBroadcast a b).Runtime)
    (he : resolveBroadcast a b ≠ .error) :
    (a.info.const = true ∨ a.info.isNone = true) ∧ (b.info.const = true ∨ b.info.isNone = true) ∧
    ∀ {av bv}, a.Holds av → b.Holds bv → broadcastShape2 av bv = some (resolveBroadcast a b).constVals := by
  revert h he
  fun_cases resolveBroadcast a b
  · next A B eB eA =>
    intro h he
    obtain ⟨hc, hv⟩ := resolveStatic_static h he
    simp only [Bool.and_eq_true] at hc
    simp only [KShape.toValue, hc.1, hc.2, if_true, Option.some.injEq] at eA eB
    exact ⟨.inl hc.1, .inl hc.2, fun wa wb => by rw [wa.2 hc.1, wb.2 hc.2, eA, eB]; exact hv⟩
  · exact fun _ he => absurd rfl he
  · next hna hnb =>
    exact fun _ _ => ⟨.inr hna, .inr hnb, fun wa wb => by rw [wa.vals_of_none hna, wb.vals_of_none hnb]; rfl⟩
  · next hna _ =>
    intro h _
    obtain ⟨hb1, hb2⟩ := RType.ofOperand_static h
    exact ⟨.inr hna, hb1, fun wa wb => by rw [wa.vals_of_none hna, bc2_nil_left, hb2 wb]⟩
  · next _ hnb =>
    intro h _
    obtain ⟨ha1, ha2⟩ := RType.ofOperand_static h
    exact ⟨ha1, .inr hnb, fun wa wb => by rw [wb.vals_of_none hnb, bc2_nil_right, ha2 wa]⟩
  · exact fun h _ => absurd (resolveIndex_runtime a b) h

theorem KOut.Good.val_of_static {o : KOut} (h : o.Good) (hs : o.ty.info.const = true ∨ o.ty.info.isNone = true) :
    o.val = some o.ty.constVals := by
  rcases hs with hc | hn
  · obtain ⟨v, hv⟩ := o.ty.info_static_iff.1.1 hc
    rw [hv]; exact h.constSome v hv
  · have hn := o.ty.info_static_iff.2.1 hn
    rw [hn]; exact h.noneSome hn

theorem kPair_error {x y : KOut} (ht : resolveBroadcast x.ty.asOperand y.ty.asOperand = .error) :
    kPair x y = none := by
  unfold kPair; rw [ht]

theorem kPair_static {x y : KOut} {t : RType} (ht : resolveBroadcast x.ty.asOperand y.ty.asOperand = t)
    (hs : t.Static) :
    kPair x y = some { ty := t, val := some t.constVals, clamps := x.clamps + y.clamps,
                       overflows := x.overflows + y.overflows } := by
  unfold kPair; rw [ht]
  rcases hs with ⟨v, rfl⟩ | rfl <;> rfl

theorem kPair_runtime {x y : KOut} {t : RType} (ht : resolveBroadcast x.ty.asOperand y.ty.asOperand = t)
    (hrt : t.Runtime) :
    kPair x y = some { kRuntime t x.val y.val with
      clamps := x.clamps + y.clamps + (kRuntime t x.val y.val).clamps,
      overflows := x.overflows + y.overflows + (kRuntime t x.val y.val).overflows } := by
  unfold kPair; rw [ht]
  cases t <;> first | exact hrt.elim | rfl

theorem KOut.Good.of_none {t : RType} (hrt : t.Runtime) : KOut.Good { ty := t, val := none } :=
  { ev := ⟨rfl, rfl⟩, ne := fun e => by subst e; exact hrt, fits := nofun,
    constSome := fun _ e => by subst e; exact hrt.elim, noneSome := fun e => by subst e; exact hrt.elim }

theorem kRuntime_good {t : RType} {x y : KOut} (hx : x.Good) (hy : y.Good)
    (ht : resolveBroadcast x.ty.asOperand y.ty.asOperand = t) (hrt : t.Runtime) :
    (kRuntime t x.val y.val).Good ∧
    (kRuntime t x.val y.val).val = (x.val.bind fun a => y.val.bind fun b => broadcastShape2 a b) := by
  unfold kRuntime
  cases hxv : x.val with
  | none => exact ⟨.of_none hrt, rfl⟩
  | some xv =>
    cases hyv : y.val with
    | none => exact ⟨.of_none hrt, rfl⟩
    | some yv =>
      have w1 := hx.holds hxv
      have w2 := hy.holds hyv
      simp only [Option.bind_some]
      cases hr : broadcastShape2 xv yv with
      | none => exact ⟨.of_none hrt, rfl⟩
      | some r =>
        have hf : t.Fits r := ht ▸ resolveBroadcast_fits w1 w2 hr
        simp only [RType.store_of_fits hf]
        exact ⟨.of_fits ⟨rfl, rfl⟩ hf (bc2_pos w1.1.1 w2.1.1 hr), trivial⟩

/-- a kinded result `k` is faithful to the kind-blind value `v` -/
def Faithful : Option KOut → Option Shape → Prop
  | none, v => v = none
  | some o, v => o.Good ∧ o.val = v

theorem Faithful.events {k : Option KOut} {v : Option Shape} (h : Faithful k v) :
    (k = none → v = none) ∧ ∀ o, k = some o → o.val = v ∧ o.clamps = 0 ∧ o.overflows = 0 := by
  refine ⟨fun e => ?_, fun o e => ?_⟩
  · subst e; exact h
  · subst e; exact ⟨h.2, h.1.ev⟩

/-- one call on results of earlier calls: if it does not compile the kind-blind value is a refusal as well; if it
    compiles the result is the kind-blind value, without hook event, in a container it fits -/
theorem kPair_faithful (x y : KOut) (hx : x.Good) (hy : y.Good) :
    Faithful (kPair x y) (x.val.bind fun a => y.val.bind fun b => broadcastShape2 a b) := by
  have ev0 : x.clamps + y.clamps = 0 ∧ x.overflows + y.overflows = 0 := by
    rw [hx.ev.1, hx.ev.2, hy.ev.1, hy.ev.2]; exact ⟨rfl, rfl⟩
  rcases (resolveBroadcast x.ty.asOperand y.ty.asOperand).runtime_or with hrt | ht | hs
  · obtain ⟨g, e⟩ := kRuntime_good hx hy rfl hrt
    rw [kPair_runtime rfl hrt]
    exact ⟨{ g with ev := by simp only [ev0, g.ev.1, g.ev.2, and_self] }, e⟩
  · rw [kPair_error ht]
    exact Option.bind_eq_none_iff.2 fun xv hxv => Option.bind_eq_none_iff.2 fun yv hyv =>
      resolveBroadcast_error (hx.holds hxv) (hy.holds hyv) ht
  · -- the operand types are constant / None, so both operands have values
    rw [kPair_static rfl hs]
    obtain ⟨hnr, hne, hfit⟩ := hs.spec
    obtain ⟨sa, sb, hval⟩ := resolveBroadcast_static hnr hne
    have hxv := hx.val_of_static sa
    have hyv := hy.val_of_static sb
    have w1 := hx.holds hxv
    have w2 := hy.holds hyv
    have hval := hval w1 w2
    exact ⟨.of_fits ev0 hfit (bc2_pos w1.1.1 w2.1.1 hval), by rw [hxv, hyv]; exact hval.symm⟩

theorem faithful_pair {k1 k2 : Option KOut} {v1 v2 : Option Shape} (h1 : Faithful k1 v1) (h2 : Faithful k2 v2) :
    Faithful (k1.bind fun x => k2.bind fun y => kPair x y) (v1.bind fun a => v2.bind fun b => broadcastShape2 a b) := by
  cases k1 with
  | none => rw [show v1 = none from h1]; rfl
  | some x =>
    cases k2 with
    | none => rw [show v2 = none from h2]; cases v1 <;> rfl
    | some y => exact h1.2 ▸ h2.2 ▸ kPair_faithful x y h1.1 h2.1

theorem eval_tri_eq (env : List Shape) (x y z : BExpr) :
    (BExpr.tri x y z).eval env = (BExpr.pair (.pair x y) z).eval env := by
  simp only [BExpr.eval, Option.bind_assoc]
  refine Option.bind_congr fun a _ => Option.bind_congr fun b _ => ?_
  -- the variadic call evaluates `z` before it broadcasts `x` with `y`, the nest of two calls after
  exact Option.bind_comm ..

theorem keval_tri_eq (env : List KShape) (x y z : BExpr) :
    (BExpr.tri x y z).keval env = (BExpr.pair (.pair x y) z).keval env := by
  simp only [BExpr.keval, bind, Option.bind_assoc]
  refine Option.bind_congr fun a _ => Option.bind_congr fun b _ => ?_
  exact Option.bind_comm ..

/-- **a nest of calls under any operand kinds**: it is faithful to the kind-blind nest -/
theorem keval_faithful (env : List KShape) (henv : ∀ a ∈ env, a.WF) (e : BExpr) :
    Faithful (e.keval env) (e.eval (env.map (·.vals))) := by
  induction e with
  | leaf i =>
    simp only [BExpr.keval, BExpr.eval, List.getElem?_map]
    cases h : env[i]? with
    | none => rfl
    | some a => exact ⟨KShape.out_good (henv a (List.mem_of_getElem? h)), rfl⟩
  | pair l r ihl ihr => exact faithful_pair ihl ihr
  | tri x y z ihx ihy ihz =>
    rw [keval_tri_eq, eval_tri_eq]
    exact faithful_pair (faithful_pair ihx ihy) ihz

end NmVerif
