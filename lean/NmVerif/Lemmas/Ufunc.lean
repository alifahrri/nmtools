import NmVerif.Index.Ufunc
import NmVerif.Lemmas.BroadcastRule
/-
  The part of C07 that the NN routines (C17), the evaluator (C10) and the checked views (C15) build on: what `view::ufunc` computes
  for any arity (`ufunc_spec`), when it refuses, that it sees its operands only through their denotation (`ufunc_congr`), and the
  typed binary / ternary calls as the any-arity call on operands tagged with their position (`ufunc2_eq_ufunc`, `ufunc3_eq_ufunc`).
-/
namespace NmVerif.Props.C07
open NmVerif NmVerif.Props.C06

private theorem compatible_single (s : Shape) : Compatible [s] := by
  intro k a ha b hb
  simp only [List.mem_cons, List.not_mem_nil, or_false] at ha hb
  subst ha; subst hb
  exact Or.inl rfl

private theorem reads_spec {α : Type} {r : Shape} {d : Idx} (hd : InShape d r) (as : List (Arr α)) (vs : List IxView)
    (h : (as.map (·.shape)).mapM (fun s => broadcastToView s r) = some vs) :
    (as.zip vs).mapM (fun p => p.2.read p.1 d) = some (as.map fun a => a.get (specBroadcastIdx a.shape d)) ∧
    ∀ a ∈ as, InShape (specBroadcastIdx a.shape d) a.shape := by
  induction as generalizing vs with
  | nil => cases h; exact ⟨rfl, nofun⟩
  | cons a t ih =>
    simp only [List.map_cons, List.mapM_cons, Option.bind_eq_bind, Option.bind_eq_some_iff, Option.pure_def,
      Option.some.injEq] at h
    obtain ⟨v, hv, vt, hvt, rfl⟩ := h
    obtain ⟨e, hin⟩ := ih vt hvt
    obtain ⟨e0, hin0⟩ := broadcastTo_index_spec _ _ v hv d hd
    refine ⟨?_, List.forall_mem_cons.2 ⟨hin0, hin⟩⟩
    rw [List.zip_cons_cons, List.mapM_cons, e]
    simp [IxView.read, e0]

/-- what `view::ufunc` computes, every arity: shape, element rule, and every operand read inside its own shape -/
theorem ufunc_spec {α β : Type} (op : List α → β) (as : List (Arr α)) (u : Arr (Option β))
    (h : ufunc op as = some u) :
    broadcastShape (as.map (·.shape)) = some u.shape ∧
    ∀ d, InShape d u.shape →
      u.get d = some (op (as.map (fun a => a.get (specBroadcastIdx a.shape d)))) ∧
      ∀ a ∈ as, InShape (specBroadcastIdx a.shape d) a.shape := by
  rcases as with _ | ⟨a, _ | ⟨b, rest⟩⟩
  · cases h
  · cases h
    refine ⟨rfl, fun d hd => ?_⟩
    have e := specBroadcastIdx_self a.shape d hd
    exact ⟨by rw [List.map_cons, List.map_nil, e], List.forall_mem_cons.2 ⟨e.symm ▸ hd, nofun⟩⟩
  · simp only [ufunc, broadcastArraysViews, Option.bind_eq_some_iff, Option.map_eq_some_iff] at h
    obtain ⟨vs, ⟨r, hr, hvs⟩, v0, hv0, rfl⟩ := h
    -- the shape is read off the first view; every view was made by `broadcast_to … r`
    obtain ⟨s, _, hs⟩ := List.mem_of_mapM_eq_some hvs v0 (List.mem_of_mem_head? hv0)
    obtain ⟨-, rfl⟩ := broadcastTo_shape _ _ _ hs
    refine ⟨hr, fun d hd => ?_⟩
    obtain ⟨e, hin⟩ := reads_spec hd _ vs hvs
    exact ⟨congrArg (Option.map op) e, hin⟩

/-- two or more operands: the call is `Nothing` exactly when `broadcast_arrays` of the operand shapes is -/
theorem ufunc_eq_none_iff {α β : Type} (op : List α → β) (a b : Arr α) (rest : List (Arr α)) :
    ufunc op (a :: b :: rest) = none ↔ broadcastArraysViews ((a :: b :: rest).map (·.shape)) = none := by
  simp only [ufunc]
  cases hvs : broadcastArraysViews ((a :: b :: rest).map (·.shape)) with
  | none => simp
  | some vs =>
    obtain ⟨v, vt, rfl⟩ := List.exists_cons_of_length_eq_add_one (broadcastArrays_length hvs)
    simp

/-- at least one operand, positive extents: `Nothing` exactly when the operand shapes are not broadcast-compatible -/
theorem ufunc_none_iff_incompatible {α β : Type} (op : List α → β) (as : List (Arr α)) (hne : as ≠ [])
    (hp : AllPos (as.map (·.shape))) : ufunc op as = none ↔ ¬ Compatible (as.map (·.shape)) := by
  rcases as with _ | ⟨a, _ | ⟨b, rest⟩⟩
  · exact absurd rfl hne
  · exact ⟨nofun, fun h => absurd (compatible_single a.shape) h⟩
  · rw [ufunc_eq_none_iff, ← broadcastArrays_isSome_iff _ (by simp) hp, Option.not_isSome_iff_eq_none]

/-- every operand is read inside its own shape (feeds C02) -/
theorem ufunc_reads_inBounds {α β : Type} (op : List α → β) (as : List (Arr α)) (u : Arr (Option β))
    (h : ufunc op as = some u) (d : Idx) (hd : InShape d u.shape) :
    ∀ a ∈ as, InShape (specBroadcastIdx a.shape d) a.shape :=
  ((ufunc_spec op as u h).2 d hd).2

private theorem equiv_maps {α : Type} {as bs : List (Arr α)} (hl : as.length = bs.length)
    (he : ∀ p ∈ as.zip bs, p.1.Equiv p.2) :
    as.map (·.shape) = bs.map (·.shape) ∧
    ∀ d, (∀ a ∈ as, InShape (specBroadcastIdx a.shape d) a.shape) →
      as.map (fun a => a.get (specBroadcastIdx a.shape d)) = bs.map (fun b => b.get (specBroadcastIdx b.shape d)) := by
  induction as generalizing bs with
  | nil =>
    cases bs with
    | nil => exact ⟨rfl, fun _ _ => rfl⟩
    | cons b tb => simp at hl
  | cons a t ih =>
    cases bs with
    | nil => simp at hl
    | cons b tb =>
      have h0 := he (a, b) (by simp)
      obtain ⟨e1, e2⟩ := ih (by simpa using hl) (fun p hp => he p (by simp [hp]))
      refine ⟨by rw [List.map_cons, List.map_cons, h0.1, e1], fun d hin => ?_⟩
      rw [List.map_cons, List.map_cons, e2 d (fun x hx => hin x (by simp [hx])), ← h0.1, h0.2 _ (hin a (by simp))]

/-- operands that are themselves views: the result depends on the operands only through shape and in-shape
    elements (so an operand may be replaced by any array/view with the same denotation) -/
theorem ufunc_congr {α β : Type} (op : List α → β) (as bs : List (Arr α)) (u w : Arr (Option β))
    (hl : as.length = bs.length) (he : ∀ p ∈ as.zip bs, p.1.Equiv p.2)
    (hu : ufunc op as = some u) (hw : ufunc op bs = some w) :
    u.shape = w.shape ∧ ∀ d, InShape d u.shape → u.get d = w.get d := by
  obtain ⟨hshape, hget⟩ := equiv_maps hl he
  obtain ⟨hs1, h1⟩ := ufunc_spec op as u hu
  obtain ⟨hs2, h2⟩ := ufunc_spec op bs w hw
  have hsh : u.shape = w.shape := Option.some.inj (hs1.symm.trans (hshape ▸ hs2))
  refine ⟨hsh, fun d hd => ?_⟩
  rw [(h1 d hd).1, (h2 d (hsh ▸ hd)).1, hget d (h1 d hd).2]

/-- forget which operand failed -/
def joinArr {γ : Type} (u : Arr (Option (Option γ))) : Arr (Option γ) := ⟨u.shape, fun d => (u.get d).join⟩

/-- `ufunc_congr` for a call whose elements are flattened by `joinArr`, with the refusal side: whether a call is
    `Nothing` depends on the operand shapes only -/
theorem ufunc_join_congr {α γ : Type} (op : List α → Option γ) {a b a' b' : Arr α} {rest rest' : List (Arr α)}
    (hl : (a :: b :: rest).length = (a' :: b' :: rest').length)
    (he : ∀ p ∈ (a :: b :: rest).zip (a' :: b' :: rest'), p.1.Equiv p.2) :
    ((ufunc op (a :: b :: rest)).map joinArr = none ↔ (ufunc op (a' :: b' :: rest')).map joinArr = none) ∧
    ∀ u u', (ufunc op (a :: b :: rest)).map joinArr = some u → (ufunc op (a' :: b' :: rest')).map joinArr = some u' →
      u.Equiv u' := by
  constructor
  · rw [Option.map_eq_none_iff, Option.map_eq_none_iff, ufunc_eq_none_iff, ufunc_eq_none_iff, (equiv_maps hl he).1]
  · intro u u' hu hu'
    obtain ⟨w, hw, rfl⟩ := Option.map_eq_some_iff.1 hu
    obtain ⟨w', hw', rfl⟩ := Option.map_eq_some_iff.1 hu'
    obtain ⟨hs, hg⟩ := ufunc_congr op _ _ w w' hl he hw hw'
    exact ⟨hs, fun d hd => congrArg Option.join (hg d hd)⟩

/-- a binary operation on the list of its two operands, tagged by position -/
def op2 {α β γ : Type} (op : α → β → γ) : List (α ⊕ β) → Option γ
  | [.inl x, .inr y] => some (op x y)
  | _ => none

def op3 {α β γ δ : Type} (op : α → β → γ → δ) : List (α ⊕ β ⊕ γ) → Option δ
  | [.inl x, .inr (.inl y), .inr (.inr z)] => some (op x y z)
  | _ => none

/-- the typed binary call is the any-arity call on the operands tagged with their position: the theorems of `ufunc`
    hold of it -/
theorem ufunc2_eq_ufunc {α β γ : Type} (op : α → β → γ) (a : Arr α) (b : Arr β) :
    ufunc2 op a b = (ufunc (op2 op) [a.map .inl, b.map .inr]).map joinArr := by
  unfold ufunc2 ufunc
  rw [Option.map_bind]
  refine Option.bind_congr fun vs h => ?_
  match vs, broadcastArrays_length h with
  | [va, vb], _ =>
    simp only [List.head?_cons, Option.map_some, joinArr, Function.comp_apply, Option.some.injEq, Arr.mk.injEq, true_and]
    funext d
    simp only [List.zip_cons_cons, List.zip_nil_right, List.mapM_cons, List.mapM_nil, IxView.read, Arr.map]
    cases va.map d <;> cases vb.map d <;> rfl

theorem ufunc3_eq_ufunc {α β γ δ : Type} (op : α → β → γ → δ) (a : Arr α) (b : Arr β) (c : Arr γ) :
    ufunc3 op a b c = (ufunc (op3 op) [a.map .inl, b.map (.inr ∘ .inl), c.map (.inr ∘ .inr)]).map joinArr := by
  unfold ufunc3 ufunc
  rw [Option.map_bind]
  refine Option.bind_congr fun vs h => ?_
  match vs, broadcastArrays_length h with
  | [va, vb, vc], _ =>
    simp only [List.head?_cons, Option.map_some, joinArr, Function.comp_apply, Option.some.injEq, Arr.mk.injEq, true_and]
    funext d
    simp only [List.zip_cons_cons, List.zip_nil_right, List.mapM_cons, List.mapM_nil, IxView.read, Arr.map]
    cases va.map d <;> cases vb.map d <;> cases vc.map d <;> rfl

/-- binary: broadcast shape, element rule -/
theorem ufunc2_spec {α β γ : Type} (op : α → β → γ) (a : Arr α) (b : Arr β) (u : Arr (Option γ))
    (h : ufunc2 op a b = some u) :
    broadcastShape2 a.shape b.shape = some u.shape ∧
    ∀ d, InShape d u.shape →
      u.get d = some (op (a.get (specBroadcastIdx a.shape d)) (b.get (specBroadcastIdx b.shape d))) := by
  rw [ufunc2_eq_ufunc] at h
  obtain ⟨w, hw, rfl⟩ := Option.map_eq_some_iff.1 h
  obtain ⟨hs, he⟩ := ufunc_spec _ _ w hw
  exact ⟨(broadcast_pair ..).symm.trans hs, fun d hd => congrArg Option.join (he d hd).1⟩

/-- binary, positive extents: `Nothing` exactly when the two shapes are incompatible -/
theorem ufunc2_none_iff_incompatible {α β γ : Type} (op : α → β → γ) (a : Arr α) (b : Arr β)
    (ha : Pos a.shape) (hb : Pos b.shape) : ufunc2 op a b = none ↔ ¬ Compatible [a.shape, b.shape] := by
  rw [ufunc2_eq_ufunc, Option.map_eq_none_iff]
  exact ufunc_none_iff_incompatible _ _ (by simp) (List.forall_mem_cons.2 ⟨ha, List.forall_mem_cons.2 ⟨hb, nofun⟩⟩)

end NmVerif.Props.C07
