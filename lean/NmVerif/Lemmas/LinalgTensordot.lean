import NmVerif.Lemmas.LinalgViews
/-
  tensordot: the pipeline once both transposes are known (`tensordotCore_elem`); for an integer `n` the rhs transpose is a
  rotation, for explicit axes transposing by "free axes, then the listed ones" is `placeIdx` (`scatter_moveToEnd`).
-/
namespace NmVerif
open NmVerif.MB
open Linalg

/-- the `tensordot` pipeline once the two transposes are known: free axes of lhs, free axes of rhs, and the sum over
    the contracted block in row-major order -/
theorem tensordotCore_elem (sa sb lt rt FA FB C : List Nat) (hpb : Pos FB)
    (hta : lt.mapM (fun k => sa[k]?) = some (FA ++ C)) (htb : rt.mapM (fun k => sb[k]?) = some (FB ++ C))
    (hlb : sb.length = FB.length + C.length) :
    ∃ r, tensordotCore sa sb lt rt C.length = some r ∧ r.shape = FA ++ FB ∧
      ∀ p q, InShape p FA → InShape q FB →
        r.get (p ++ q) = (allIdx C).map (fun c => (scatter (p ++ c) lt, scatter (q ++ c) rt)) := by
  obtain ⟨b, hb, hbsh, hbget⟩ := reshape_insert_ones (α := Idx) ⟨FA ++ C, fun d => scatter d lt⟩ FA C FB.length rfl
  obtain ⟨m, hm, -, hrsh, hrget⟩ := contract_block b ⟨FB ++ C, fun d => scatter d rt⟩ (FA ++ List.replicate FB.length 1) FB (FA ++ FB) C
    hbsh rfl (broadcastShape_ones_right FA hpb)
  have e1 : tensordotLhsReshape (FA ++ C) sb.length C.length = FA ++ List.replicate FB.length 1 ++ C := by
    simp [tensordotLhsReshape, hlb]
  refine ⟨_, ?_, hrsh, ?_⟩
  · exact Option.bind_eq_some_iff.2 ⟨_, transpose_ident hta, Option.bind_eq_some_iff.2 ⟨b, e1 ▸ hb,
      Option.bind_eq_some_iff.2 ⟨_, transpose_ident htb, Option.bind_eq_some_iff.2 ⟨m, hm, rfl⟩⟩⟩⟩
  · intro p q hp hq
    rw [hrget (p ++ q) (by simp [hp.length_eq, hq.length_eq])]
    apply List.map_congr_left
    intro cc hcc
    have hcc' : InShape cc C := (Shape.mem_allIdx_iff C cc).1 hcc
    rw [bcIdx_append_ones hp hq, bcIdx_append_right hq, hbget p cc hp hcc']

theorem moveToEnd_prefix (n m : Nat) : moveToEnd (n + m) (List.range n) = List.range' n m ++ List.range n := by
  have h1 : (List.range n).filter (fun i => !(List.range n).contains i) = [] := by
    rw [List.filter_eq_nil_iff]; intro a ha; simp [ha]
  have h2 : (List.range' n m).filter (fun i => !(List.range n).contains i) = List.range' n m := by
    rw [List.filter_eq_self]; intro a ha
    simp only [List.mem_range'_1] at ha
    simp; omega
  rw [moveToEnd, List.range_add, ← List.range'_eq_map_range, List.filter_append, h1, h2]; rfl

/-- moving the first `|c|` axes to the end, read as a gather: of the operand's shape and of a source index alike -/
theorem gatherAt_rotate (c q : List Nat) :
    gatherAt (c ++ q) (List.range' c.length q.length ++ List.range' 0 c.length) = q ++ c := by
  rw [gatherAt_append, gatherAt_range' (pre := c) (x := q) (post := []) (by simp) rfl rfl,
    gatherAt_range' (L := c ++ q) (pre := []) (x := c) (post := q) (s := 0) rfl rfl rfl]

theorem scatter_rotate {q c : List Nat} {m n : Nat} (hq : q.length = m) (hc : c.length = n) :
    scatter (q ++ c) (List.range' n m ++ List.range n) = c ++ q := by
  subst hq hc
  rw [List.range_eq_range']
  refine scatterAt_of_gatherAt (gatherAt_rotate c q) (by simp [Nat.add_comm]) fun k hk => ?_
  simp only [List.length_append] at hk
  simp only [List.mem_append, List.mem_range'_1]
  omega

theorem moveToEnd_prefix_mapM (C FB : Shape) :
    (moveToEnd (C ++ FB).length (List.range C.length)).mapM (fun k => (C ++ FB)[k]?) = some (FB ++ C) := by
  rw [List.length_append, moveToEnd_prefix, mapM_getElem?_eq_gatherAt _ _ (by simp; omega), List.range_eq_range',
    gatherAt_rotate]

/-- `tensordot(a, b, n)` with an integer: the last `n` axes of `a` against the first `n` axes of `b`, in order -/
theorem tensordotInt_elem (FA FB C : Shape) (hpb : Pos FB) :
    ∃ r, tensordotInt (FA ++ C) (C ++ FB) C.length = some r ∧ r.shape = FA ++ FB ∧
      ∀ p q, InShape p FA → InShape q FB →
        r.get (p ++ q) = (allIdx C).map (fun c => (p ++ c, c ++ q)) := by
  obtain ⟨r, hr, hrsh, hrget⟩ := tensordotCore_elem (FA ++ C) (C ++ FB) _ _ FA FB C hpb
    (List.mapM_getElem?_range (FA ++ C)) (moveToEnd_prefix_mapM C FB) (List.length_append.trans (Nat.add_comm _ _))
  refine ⟨r, hr, hrsh, fun p q hp hq => ?_⟩
  rw [hrget p q hp hq]
  apply List.map_congr_left
  intro cc hcc
  have hcc' : InShape cc C := (Shape.mem_allIdx_iff C cc).1 hcc
  have e1 : (FA ++ C).length = (p ++ cc).length := by simp [hp.length_eq, hcc'.length_eq]
  rw [e1, scatter_range, List.length_append, moveToEnd_prefix, scatter_rotate hq.length_eq hcc'.length_eq]

/-- explicit axes: shape and terms, with the two transposes left in `scatter` form -/
theorem tensordotAxes_elem_scatter (sa sb : Shape) (la ra : List Int) (la' ra' : List Nat) (FA FB C : Shape)
    (hla : la.mapM (normAxis · sa.length) = some la') (hra : ra.mapM (normAxis · sb.length) = some ra')
    (hta : (moveToEnd sa.length la').mapM (fun k => sa[k]?) = some (FA ++ C))
    (htb : (moveToEnd sb.length ra').mapM (fun k => sb[k]?) = some (FB ++ C))
    (hn : la.length = C.length) (hlb : sb.length = FB.length + C.length) (hpb : Pos FB) :
    ∃ r, tensordotAxes sa sb la ra = some r ∧ r.shape = FA ++ FB ∧
      ∀ p q, InShape p FA → InShape q FB →
        r.get (p ++ q) = (allIdx C).map (fun c =>
          (scatter (p ++ c) (moveToEnd sa.length la'), scatter (q ++ c) (moveToEnd sb.length ra'))) := by
  obtain ⟨r, hr, hrsh, hrget⟩ := tensordotCore_elem sa sb _ _ FA FB C hpb hta htb hlb
  exact ⟨r, Option.bind_eq_some_iff.2 ⟨la', hla, Option.bind_eq_some_iff.2 ⟨ra', hra, hn ▸ hr⟩⟩, hrsh, hrget⟩

theorem lookup_zip_isNone (A c : List Nat) (hl : A.length = c.length) (i : Nat) :
    ((A.zip c).lookup i).isNone = !A.contains i := by
  rw [Bool.eq_iff_iff, Option.isNone_iff_eq_none, List.lookup_eq_none_iff, Bool.not_eq_true', List.contains_eq_mem,
    decide_eq_false_iff_not]
  conv => rhs; rw [← List.map_fst_zip (l₁ := A) (l₂ := c) (Nat.le_of_eq hl), List.mem_map]
  exact ⟨fun h ⟨p, hp, e⟩ => bne_iff_ne.1 (h p hp) e.symm, fun h p hp => bne_iff_ne.2 fun e => h ⟨p, hp, e.symm⟩⟩

/-- `placeIdx` along its own recursion, each axis of `L` paired with the coordinate it receives: the coordinates of the
    non-listed axes are `free`, in order, and a listed axis holds its listed coordinate -/
theorem placeIdx_zip (A c L free : List Nat) (ok : Nat → Bool) (hok : ∀ i, ((A.zip c).lookup i).isNone = ok i)
    (h : free.length = (L.filter ok).length) :
    (placeIdx A c L free).length = L.length ∧
    ((L.zip (placeIdx A c L free)).filter fun q => ok q.1).map Prod.snd = free ∧
    ∀ q ∈ L.zip (placeIdx A c L free), ∀ v, (A.zip c).lookup q.1 = some v → q.2 = v := by
  fun_induction placeIdx A c L free with
  | case1 free =>
    cases List.length_eq_zero_iff.1 h
    exact ⟨rfl, rfl, nofun⟩
  | case2 a L free v hlk ih =>
    rw [List.filter_cons_of_neg (by simp [← hok, hlk])] at h
    obtain ⟨h1, h2, h3⟩ := ih h
    refine ⟨congrArg (· + 1) h1, ?_, fun q hq w hw => ?_⟩
    · rw [List.zip_cons_cons, List.filter_cons_of_neg (by simp [← hok, hlk])]
      exact h2
    · rcases List.mem_cons.1 hq with rfl | hq
      · exact Option.some.inj (hlk.symm.trans hw)
      · exact h3 q hq w hw
  | case3 a L hlk f fs ih =>
    rw [List.filter_cons_of_pos (by simp [← hok, hlk])] at h
    obtain ⟨h1, h2, h3⟩ := ih (Nat.succ.inj h)
    refine ⟨congrArg (· + 1) h1, ?_, fun q hq w hw => ?_⟩
    · rw [List.zip_cons_cons, List.filter_cons_of_pos (by simp [← hok, hlk]), List.map_cons, h2]
    · rcases List.mem_cons.1 hq with rfl | hq
      · cases hlk.symm.trans hw
      · exact h3 q hq w hw
  | case4 a L hlk =>
    rw [List.filter_cons_of_pos (by simp [← hok, hlk])] at h
    nomatch h

theorem map_eq_of_lookup_zip (f : Nat → Nat) (A c : List Nat) (hnd : A.Nodup) (hl : A.length = c.length)
    (h : ∀ i ∈ A, ∀ w, (A.zip c).lookup i = some w → f i = w) : A.map f = c := by
  induction A, c, hl using eqLength_ind with
  | nil => rfl
  | cons a A y c _ ih =>
    have hnd' := List.nodup_cons.1 hnd
    rw [List.map_cons, h a List.mem_cons_self y List.lookup_cons_self,
      ih hnd'.2 fun i hi w hw => h i (List.mem_cons_of_mem _ hi) w ?_]
    have hne : i ≠ a := fun e => hnd'.1 (e ▸ hi)
    rw [List.zip_cons_cons, List.lookup_cons, beq_eq_false_iff_ne.2 hne]
    exact hw

theorem length_moveToEnd (dim : Nat) (A : List Nat) (hnd : A.Nodup) (hlt : ∀ x ∈ A, x < dim) :
    (moveToEnd dim A).length = dim := by
  rw [moveToEnd, List.length_append,
    List.length_filter_not_contains _ A List.nodup_range hnd fun a ha => List.mem_range.mpr (hlt a ha), List.length_range]

/-- transposing by "free axes in order, then the listed axes" puts `p` on the free axes in order and `c[t]` on axis `A[t]`:
    gathering `placeIdx` back along these axes gives `p`, then `c` -/
theorem scatter_moveToEnd (dim : Nat) (A c p : List Nat) (hnd : A.Nodup) (hlt : ∀ x ∈ A, x < dim)
    (hc : c.length = A.length) (hp : p.length = ((List.range dim).filter (fun i => !A.contains i)).length) :
    scatter (p ++ c) (moveToEnd dim A) = placeIdx A c (List.range dim) p := by
  obtain ⟨hl, hf, hv⟩ := placeIdx_zip A c (List.range dim) p (fun i => !A.contains i)
    (lookup_zip_isNone A c hc.symm) hp
  generalize placeIdx A c (List.range dim) p = x at hl hf hv ⊢
  rw [List.length_range] at hl
  subst hl
  rw [List.zip_range_eq_map_getD x 0] at hf hv
  refine scatterAt_of_gatherAt ?_ (length_moveToEnd _ A hnd hlt) fun k hk => ?_
  · rw [moveToEnd, gatherAt_append]
    congr 1
    · rw [← hf, List.filter_map, List.map_map]; rfl
    · exact map_eq_of_lookup_zip _ A c hnd hc.symm fun i hi w hw =>
        hv (i, x.getD i 0) (List.mem_map.2 ⟨i, List.mem_range.2 (hlt i hi), rfl⟩) w hw
  · rw [moveToEnd, List.mem_append, List.mem_filter, List.mem_range]
    by_cases hk' : k ∈ A
    · exact .inr hk'
    · exact .inl ⟨hk, by simpa using hk'⟩

theorem pos_filterMap_getElem? (s L : List Nat) (hp : Pos s) : Pos (L.filterMap (fun i => s[i]?)) :=
  Shape.pos_of_subset (fun _ hx => let ⟨_, _, hi⟩ := List.mem_filterMap.1 hx; List.mem_of_getElem? hi) hp

theorem moveToEnd_mapM (s : Shape) (A : List Nat) (hlt : ∀ x ∈ A, x < s.length) :
    (moveToEnd s.length A).mapM (fun k => s[k]?) =
      some (((List.range s.length).filter (fun i => !A.contains i)).filterMap (fun i => s[i]?) ++ A.filterMap (fun x => s[x]?)) := by
  rw [List.mapM_getElem?_of_lt]
  · simp only [moveToEnd, List.filterMap_append]
  · intro i hi
    simp only [moveToEnd, List.mem_append] at hi
    rcases hi with hi | hi
    · exact List.mem_range.1 (List.mem_filter.1 hi).1
    · exact hlt i hi

theorem filterMap_eq_of_map_eq {α β γ : Type} {f : α → Option γ} {g : β → Option γ} {A : List α} {B : List β}
    (h : A.map f = B.map g) : A.filterMap f = B.filterMap g := by
  have := congrArg (List.filterMap id) h
  rwa [List.filterMap_map, List.filterMap_map] at this

/-- the pipeline of `view::tensordot` with explicit axes (`tensordotAxes`, before the closing extent check) = `np.tensordot`:
    every rank, every pair of axis lists NumPy accepts, positive rhs extents -/
theorem tensordotAxes_eq_spec (sa sb : Shape) (la ra : List Int) (la' ra' : List Nat) (s : Arr (List Term))
    (hla : la.mapM (normAxis · sa.length) = some la') (hra : ra.mapM (normAxis · sb.length) = some ra')
    (hpb : Pos sb) (hacc : specTensordot sa sb la' ra' = some s) :
    ∃ r, tensordotAxes sa sb la ra = some r ∧ r.shape = s.shape ∧ ∀ d, InShape d s.shape → r.get d = s.get d := by
  revert hacc
  fun_cases specTensordot sa sb la' ra' with
  | case2 => nofun
  | case1 hcond fa fb C =>
    rintro ⟨⟩
    obtain ⟨hlen, hnda, hndb, hlta, hltb, hext⟩ := hcond
    let FA := fa.filterMap (fun i => sa[i]?)
    let FB := fb.filterMap (fun i => sb[i]?)
    have hC' : ra'.filterMap (fun x => sb[x]?) = C := (filterMap_eq_of_map_eq hext).symm
    have hfa_lt : ∀ i ∈ fa, i < sa.length := fun i hi => List.mem_range.1 (List.mem_filter.1 hi).1
    have hfb_lt : ∀ i ∈ fb, i < sb.length := fun i hi => List.mem_range.1 (List.mem_filter.1 hi).1
    have hFAlen : FA.length = fa.length := List.length_filterMap_getElem? sa fa hfa_lt
    have hFBlen : FB.length = fb.length := List.length_filterMap_getElem? sb fb hfb_lt
    have hClen : C.length = la'.length := List.length_filterMap_getElem? sa la' hlta
    have hta : (moveToEnd sa.length la').mapM (fun k => sa[k]?) = some (FA ++ C) := moveToEnd_mapM sa la' hlta
    have htb : (moveToEnd sb.length ra').mapM (fun k => sb[k]?) = some (FB ++ C) := by
      rw [moveToEnd_mapM sb ra' hltb, hC']
    have hn : la.length = C.length := by
      rw [hClen, List.length_of_mapM_eq_some hla]
    have hlb : sb.length = FB.length + C.length := by
      rw [← List.length_append, List.length_of_mapM_eq_some htb, length_moveToEnd _ _ hndb hltb]
    obtain ⟨r, hr, hrsh, hrget⟩ := tensordotAxes_elem_scatter sa sb la ra la' ra' FA FB C hla hra hta htb hn hlb
      (pos_filterMap_getElem? sb fb hpb)
    refine ⟨r, hr, hrsh, ?_⟩
    intro d hd
    obtain ⟨p, q, rfl, hp, hq⟩ := Shape.inShape_append_split.1 hd
    rw [hrget p q hp hq]
    apply List.map_congr_left
    intro c hc
    have hc' : InShape c C := (Shape.mem_allIdx_iff C c).1 hc
    have hpl : p.length = fa.length := by rw [hp.length_eq, hFAlen]
    have hql : q.length = fb.length := by rw [hq.length_eq, hFBlen]
    rw [scatter_moveToEnd sa.length la' c p hnda hlta (by rw [hc'.length_eq, hClen]) hpl,
        scatter_moveToEnd sb.length ra' c q hndb hltb (by rw [hc'.length_eq, hClen, hlen]) hql]
    rw [List.take_left' hpl, List.drop_left' hpl]

end NmVerif
