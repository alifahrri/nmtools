import NmVerif.Index.CheckedOps
import NmVerif.Lemmas.Rearrange
import NmVerif.Lemmas.RearrangePerm
import NmVerif.Lemmas.SelCommon
import NmVerif.Lemmas.Concatenate
/-
  Lemmas for NmVerif.Index.CheckedOps (C15): the mirrored validation loops decide exactly NumPy's validity predicates.
  `normalizeAxis1` is the selecting views' copy of `normalize_axis`, bridged by `normalizeAxis1_eq_normalizeAxis`.
-/
namespace NmVerif.Checked
open NmVerif NmVerif.Index

/-- the shape of every checked constructor: a decidable `c` guards the value model -/
theorem ite_checked {α} (c V : Prop) [Decidable c] (view : Option α) (hok : c ↔ V)
    (hsome : c → view.isSome = true) :
    ((if c then view else none).isSome = true ↔ V) ∧ (V → (if c then view else none) = view) := by
  by_cases h : c
  · rw [if_pos h]; exact ⟨⟨fun _ => hok.1 h, fun _ => hsome h⟩, fun _ => rfl⟩
  · rw [if_neg h]; exact ⟨⟨nofun, fun v => absurd (hok.2 v) h⟩, fun v => absurd (hok.2 v) h⟩

theorem ite_ite_none {α} (c d : Prop) [Decidable c] [Decidable d] (view : Option α) :
    (if c then (if d then view else none) else none) = if c ∧ d then view else none := by
  by_cases hc : c <;> simp [hc]

theorem axisInRange_iff (dim : Nat) (a : Int) : axisInRange dim a = true ↔ (-(dim : Int) ≤ a ∧ a < (dim : Int)) := by
  simp [axisInRange]

theorem normalizeAxis_inRange_iff (dim : Nat) (a : Int) (k : Nat) :
    NmVerif.normalizeAxis dim a = some k ↔ axisInRange dim a = true ∧ normPos dim a = k :=
  Option.ite_some_none_eq_some.trans (and_congr_left' (axisInRange_iff dim a).symm)

theorem normalizeAxes_cons_iff (dim : Nat) (a : Int) (rest : List Int) (p : List Nat) :
    NmVerif.normalizeAxes dim (a :: rest) = some p ↔
      axisInRange dim a = true ∧ ∃ p', NmVerif.normalizeAxes dim rest = some p' ∧ p = normPos dim a :: p' := by
  simp only [normalizeAxes, List.mapM_cons, Option.bind_eq_bind, Option.pure_def, Option.bind_eq_some_iff,
    normalizeAxis_inRange_iff, Option.some.injEq, and_assoc, exists_and_left, exists_eq_left', eq_comm (a := p)]

theorem transposeAxesLoop_iff (dim : Nat) (ax : List Int) (seen : List Nat) :
    transposeAxesLoop dim ax seen = true ↔
      ∃ p, NmVerif.normalizeAxes dim ax = some p ∧ p.Nodup ∧ ∀ x ∈ p, x ∉ seen := by
  induction ax generalizing seen with
  | nil => exact iff_of_true rfl ⟨[], rfl, List.nodup_nil, nofun⟩
  | cons a rest ih =>
    rw [transposeAxesLoop, Bool.and_eq_true, Bool.and_eq_true, ih, Bool.not_eq_true', ← Bool.not_eq_true,
      List.contains_iff_mem]
    constructor
    · rintro ⟨⟨hr, hns⟩, p, hp, hnd, hdis⟩
      refine ⟨_, (normalizeAxes_cons_iff dim a rest _).2 ⟨hr, p, hp, rfl⟩,
        List.nodup_cons.2 ⟨fun hm => hdis _ hm List.mem_cons_self, hnd⟩, fun x hx hs => ?_⟩
      rcases List.mem_cons.1 hx with rfl | hx
      · exact hns hs
      · exact hdis x hx (List.mem_cons_of_mem _ hs)
    · rintro ⟨p, hp, hnd, hdis⟩
      obtain ⟨hr, p', hp', rfl⟩ := (normalizeAxes_cons_iff dim a rest p).1 hp
      have hnd' := List.nodup_cons.1 hnd
      refine ⟨⟨hr, hdis _ List.mem_cons_self⟩, p', hp', hnd'.2, fun x hx hs => ?_⟩
      rcases List.mem_cons.1 hs with rfl | hs
      · exact hnd'.1 hx
      · exact hdis x (List.mem_cons_of_mem _ hx) hs

/-- `view::transposer` accepts run-time axes iff they are (a spelling of) a permutation of the axes -/
theorem transposeAxesOk_iff (dim : Nat) (ax : List Int) :
    transposeAxesOk dim ax = true ↔ ∃ p, NmVerif.normalizeAxes dim ax = some p ∧ p.Perm (List.range dim) := by
  unfold transposeAxesOk
  simp only [Bool.and_eq_true, decide_eq_true_eq]
  constructor
  · rintro ⟨hlen, hl⟩
    obtain ⟨p, hp, hnd, _⟩ := (transposeAxesLoop_iff dim ax []).1 hl
    exact ⟨p, hp, perm_range_of_nodup p dim hnd (normalizeAxes_lt dim ax p hp)
      ((List.length_of_mapM_eq_some hp).trans hlen)⟩
  · rintro ⟨p, hp, hperm⟩
    obtain ⟨hlen, hnd, _⟩ := of_perm_range p dim hperm
    exact ⟨(List.length_of_mapM_eq_some hp).symm.trans hlen,
      (transposeAxesLoop_iff dim ax []).2 ⟨p, hp, hnd, fun _ _ => List.not_mem_nil⟩⟩

theorem pairwiseDistinct_iff (l : List Nat) : pairwiseDistinct l = true ↔ l.Nodup := by
  induction l with
  | nil => simp [pairwiseDistinct]
  | cons x xs ih =>
    rw [pairwiseDistinct, Bool.and_eq_true, Bool.not_eq_true', ← Bool.not_eq_true, List.contains_iff_mem, ih,
      List.nodup_cons]

/-- the value model of swapaxes is defined for every pair of in-range axes (no positivity needed) -/
theorem swapaxesView_isSome (src : Shape) (a1 a2 : Int)
    (h : (axisInRange src.length a1 && axisInRange src.length a2) = true) : (swapaxesView src a1 a2).isSome := by
  rw [Bool.and_eq_true] at h
  have e1 := (normalizeAxis_inRange_iff _ _ _).2 ⟨h.1, rfl⟩
  have e2 := (normalizeAxis_inRange_iff _ _ _).2 ⟨h.2, rfl⟩
  obtain ⟨hperm, hn, hsw⟩ := swapaxesView_eq_transpose src a1 a2 _ _ e1 e2
  rw [hsw, transposeView_some src _ _ hn hperm]
  rfl

theorem normalizeAxis1_eq_normalizeAxis (dim : Nat) (a : Int) : normalizeAxis1 a dim = NmVerif.normalizeAxis dim a := by
  unfold normalizeAxis1 normalizeAxis
  by_cases hr : -(dim : Int) ≤ a ∧ a < dim
  · rw [if_pos hr, if_neg (fun h => h.elim (Int.not_lt.2 hr.1) (Int.not_le.2 hr.2))]
    split <;> rfl
  · rw [if_neg hr, if_pos ((Decidable.not_and_iff_not_or_not.1 hr).imp Int.not_le.1 Int.not_lt.1)]

theorem normalizeAxis1_of_inRange (dim : Nat) (a : Int) (h : axisInRange dim a = true) :
    ∃ k, normalizeAxis1 a dim = some k ∧ k < dim := by
  have e := (normalizeAxis_inRange_iff dim a _).2 ⟨h, rfl⟩
  exact ⟨_, (normalizeAxis1_eq_normalizeAxis dim a).trans e, normalizeAxis_lt _ _ _ e⟩

theorem axisInRange_of_normalizeAxis1 (dim : Nat) (a : Int) (k : Nat) (h : normalizeAxis1 a dim = some k) :
    axisInRange dim a = true :=
  ((normalizeAxis_inRange_iff dim a k).1 (normalizeAxis1_eq_normalizeAxis dim a ▸ h)).1

theorem repeatView_isSome (s : Shape) (r : Nat) (a : Int) (h : axisInRange s.length a = true) :
    (repeatView s r (some a)).isSome := by
  obtain ⟨k, hk, hlt⟩ := normalizeAxis1_of_inRange _ _ h
  simp [repeatView, shapeRepeat, atPy_of_normalizeAxis1 s a k hk, List.getElem?_eq_getElem hlt]

theorem repeatListView_isSome (s : Shape) (rs : List Nat) (a : Int) (h : axisInRange s.length a = true) :
    (repeatListView s rs a).isSome := by
  obtain ⟨k, hk, hlt⟩ := normalizeAxis1_of_inRange _ _ h
  simp [repeatListView, shapeRepeatList, atPy_of_normalizeAxis1 s a k hk, List.getElem?_eq_getElem hlt]

/-- `.1` is the `success` flag of the concatenate loop: where it is set the extents agree off the axis (the converse is part
    of `shapeConcatenate_eq_spec`) -/
theorem shapeConcatLoop_ok (ax : Int) (i : Nat) (as bs : Shape) (hl : as.length = bs.length)
    (h : (shapeConcatLoop ax i as bs).1 = true) : ∀ j : Nat, ((i + j : Nat) : Int) ≠ ax → as[j]? = bs[j]? := by
  fun_induction shapeConcatLoop ax i as bs with
  | case1 => rw [List.eq_nil_of_length_eq_zero hl.symm]; exact fun _ _ => rfl
  | case2 => cases hl
  | case3 i a as b bs hi ok r hr ih =>
    rw [hr] at ih
    rintro (_ | j) hj
    · exact absurd hi hj
    · exact ih (Nat.succ.inj hl) h j (by rwa [Nat.add_right_comm, Nat.add_assoc])
  | case4 i as b bs _ ok r hr ih =>
    rw [hr] at ih
    rintro (_ | j) hj
    · rfl
    · exact ih (Nat.succ.inj hl) h j (by rwa [Nat.add_right_comm, Nat.add_assoc])
  | case5 => cases h

/-- NumPy accepts `concatenate((a, b), axis)`: equal ranks, axis in range, equal extents off the axis -/
def ValidConcat (a b : Shape) (axis : Int) : Prop :=
  ∃ k, normalizeAxis1 axis a.length = some k ∧ ConcatCompatible a b k

theorem concatenateOk_iff (a b : Shape) (axis : Int) : concatenateOk a b axis = true ↔ ValidConcat a b axis := by
  unfold concatenateOk ValidConcat
  simp only [Bool.and_eq_true, decide_eq_true_eq]
  constructor
  · rintro ⟨⟨⟨hl, h0⟩, h1⟩, hok⟩
    have hr : axisInRange a.length axis = true := by
      rw [axisInRange_iff]; unfold normAxis at h0 h1; omega
    obtain ⟨k, hk, hlt⟩ := normalizeAxis1_of_inRange _ _ hr
    refine ⟨k, hk, hl, hlt, ?_⟩
    rw [shapeConcatenate, if_pos hl, normAxis_of_normalizeAxis1 axis _ k hk] at hok
    exact fun j hj => shapeConcatLoop_ok _ 0 a b hl hok j
      (by rw [Nat.zero_add]; exact fun e => hj (Int.natCast_inj.1 e))
  · rintro ⟨k, hk, hc⟩
    have hna := normAxis_of_normalizeAxis1 axis _ k hk
    obtain ⟨x, y, _, _, e⟩ := shapeConcatenate_eq_spec a b k hc
    rw [shapeConcatenate, normAxis_nat, ← hna] at e
    exact ⟨⟨⟨hc.1, hna ▸ Int.natCast_nonneg k⟩, hna ▸ Int.ofNat_lt.2 hc.2.1⟩, by rw [shapeConcatenate, e]⟩

end NmVerif.Checked
