import NmVerif.Index.Tile
import NmVerif.Lemmas.ListBasics
/-
  SPEC of np.tile and proofs that the MODEL (Index/Tile.lean) meets it.
  NumPy doc: result rank = max(len reps, A.ndim); the shorter of shape / reps is promoted by prepending 1s;
  result extent = shape·reps; element `d` is the element of the (promoted) source at `d mod shape`.
-/
namespace NmVerif.Index

/-- NumPy's promotion of the shorter of shape / reps: `x` prepended up to length `n` -/
def leftPad (n : Nat) (x : Nat) (l : List Nat) : List Nat := List.replicate (n - l.length) x ++ l

/-- NumPy: shape of `np.tile(A, reps)` -/
def tileShapeSpec (s r : List Nat) : Shape :=
  List.zipWith (· * ·) (leftPad (max s.length r.length) 1 s) (leftPad (max s.length r.length) 1 r)

/-- NumPy: source index of element `d` of `np.tile(A, reps)`: drop the prepended axes, reduce mod the extent -/
def tileIdxSpec (s : Shape) (d : Idx) : Idx :=
  List.zipWith (fun i a => i % a) (d.drop (d.length - s.length)) s

theorem shapeTileRev_eq (s r : List Nat) :
    shapeTileRev s r = List.zipWith (· * ·) (s ++ List.replicate (max s.length r.length - s.length) 1)
      (r ++ List.replicate (max s.length r.length - r.length) 1) := by
  fun_induction shapeTileRev s r with
  | case1 r =>
    simp only [List.length_nil, Nat.zero_max, Nat.sub_zero, Nat.sub_self, List.replicate_zero,
      List.append_nil, List.nil_append, List.zipWith_replicate_left, Nat.one_mul, List.map_id']
  | case2 a s =>
    simp only [List.length_nil, Nat.max_zero, Nat.sub_zero, Nat.sub_self, List.replicate_zero,
      List.append_nil, List.nil_append, List.zipWith_replicate_right, Nat.mul_one, List.map_id']
  | case3 a s b r ih =>
    simp only [List.length_cons, List.cons_append, List.zipWith_cons_cons, Nat.succ_max_succ,
      Nat.succ_eq_add_one, Nat.add_sub_add_right, ih]

theorem leftPad_length (n x : Nat) (l : List Nat) (h : l.length ≤ n) : (leftPad n x l).length = n := by
  rw [leftPad, List.length_append, List.length_replicate, Nat.sub_add_cancel h]

theorem leftPad_reverse (n x : Nat) (l : List Nat) :
    (leftPad n x l).reverse = l.reverse ++ List.replicate (n - l.length) x := by
  simp [leftPad]

theorem shapeTile_eq_spec (s r : List Nat) : shapeTile s r = tileShapeSpec s r := by
  unfold shapeTile tileShapeSpec
  rw [shapeTileRev_eq]
  have hl : (leftPad (max s.length r.length) 1 s).length = (leftPad (max s.length r.length) 1 r).length := by
    rw [leftPad_length _ _ _ (Nat.le_max_left ..), leftPad_length _ _ _ (Nat.le_max_right ..)]
  rw [← List.reverse_inj, List.reverse_reverse, List.reverse_zipWith hl, leftPad_reverse, leftPad_reverse,
    List.length_reverse, List.length_reverse]

theorem indexTileRev_eq (s d : List Nat) :
    indexTileRev s d = List.zipWith (fun i a => i % a) d s := by
  fun_induction indexTileRev s d with
  | case1 a s i d ih => rw [List.zipWith_cons_cons, ih]
  | case2 s d h => exact (List.zipWith.eq_2 _ _ _ fun _ _ _ _ h1 h2 => h _ _ _ _ h2 h1).symm

theorem indexTile_eq_spec (s : Shape) (d : Idx) (h : s.length ≤ d.length) :
    indexTile s d = tileIdxSpec s d := by
  unfold indexTile tileIdxSpec
  rw [indexTileRev_eq]
  have hl : (d.drop (d.length - s.length)).length = s.length := by rw [List.length_drop, Nat.sub_sub_self h]
  rw [← List.reverse_inj, List.reverse_reverse, List.reverse_zipWith hl]
  rw [List.reverse_drop, Nat.sub_sub_self h, List.zipWith_take_left _ _ _ _ (Nat.le_of_eq List.length_reverse)]

theorem shapeTile_length (s r : List Nat) : (shapeTile s r).length = max s.length r.length := by
  rw [shapeTile_eq_spec, tileShapeSpec, List.length_zipWith, leftPad_length _ _ _ (Nat.le_max_left ..),
    leftPad_length _ _ _ (Nat.le_max_right ..), Nat.min_self]

theorem length_le_of_inShape_shapeTile {s r : List Nat} {d : Idx} (hd : InShape d (shapeTile s r)) : s.length ≤ d.length := by
  rw [hd.length_eq, shapeTile_length]
  exact Nat.le_max_left ..

theorem indexTile_inShape (s r : List Nat) (hs : Pos s) (d : Idx) (hd : InShape d (shapeTile s r)) :
    InShape (indexTile s d) s := by
  have hsd := length_le_of_inShape_shapeTile hd
  rw [indexTile_eq_spec s d hsd]
  exact Shape.inShape_zipWith_mod _ _ (by rw [List.length_drop, Nat.sub_sub_self hsd]) hs

end NmVerif.Index
