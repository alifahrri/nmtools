/-
  C09: the bounded vector as the image `embed` of the list it holds; permitted operations commute with `embed`.
  Then the fill pattern `fillOps` of the index functions (it fits, and run on a list it gives the list back) and the order
  `LeList` of a shape under its bounds.
-/
import NmVerif.Basic
import NmVerif.Containers.Kinds
namespace NmVerif.Kinds

/-- the bounded vector that holds `l` and has never held anything longer: `l`, then cells still zero -/
def embed (cap : Nat) (l : List Nat) : BVec cap := ⟨l ++ List.replicate (cap - l.length) 0, l.length⟩

theorem empty_eq_embed (cap : Nat) : BVec.empty cap = embed cap [] := rfl

theorem embed_toList (cap : Nat) (l : List Nat) : (embed cap l).toList = l :=
  List.take_left' rfl

theorem embed_resize {cap : Nat} (l : List Nat) {n : Nat} (h1 : l.length ≤ n) (h2 : n ≤ cap) :
    (embed cap l).resize n = embed cap (l ++ List.replicate (n - l.length) 0) := by
  have hn : (l ++ List.replicate (n - l.length) 0).length = n := by
    rw [List.length_append, List.length_replicate, Nat.add_sub_cancel' h1]
  -- growing to `n` only uncovers `n - l.length` of the zero cells
  rw [BVec.resize, if_pos h2, embed, embed, hn, List.append_assoc, List.replicate_append_replicate,
    ← Nat.sub_add_comm h1, Nat.add_sub_cancel' h2]

theorem embed_set {cap : Nat} (l : List Nat) {i : Nat} (v : Nat) (h : i < l.length) :
    (embed cap l).set i v = embed cap (l.set i v) := by
  rw [BVec.set, embed, embed, List.set_append_left _ _ h, List.length_set]

theorem embed_push {cap : Nat} (l : List Nat) (v : Nat) (h : l.length + 1 ≤ cap) :
    (embed cap l).push v = embed cap (l ++ [v]) := by
  obtain ⟨k, rfl⟩ := Nat.exists_eq_add_of_le' h
  -- the first of the `k + 1` zero cells receives `v`
  rw [BVec.push, embed, if_pos h, embed, List.length_append, List.length_singleton, Nat.add_sub_cancel,
    ← Nat.add_assoc, Nat.add_right_comm, Nat.add_sub_cancel, List.replicate_succ,
    List.set_append_right _ _ (Nat.le_refl _), Nat.sub_self, List.set_cons_zero, List.append_assoc,
    List.singleton_append]

theorem run_embed {cap : Nat} (ops : List VOp) (l : List Nat) (h : Fits cap ops l.length) :
    runBVec ops (embed cap l) = embed cap (runList ops l) := by
  generalize hn : l.length = len at h
  unfold runBVec runList
  -- one case per clause of `Fits`: the operation's equation on `embed`, then the rest of the run from the new list
  fun_induction Fits cap ops len generalizing l <;> subst hn <;> simp only [List.foldl_cons, List.foldl_nil, stepBVec, stepList]
  case case2 n ops ih =>
    obtain ⟨h1, h2, h3⟩ := h
    rw [List.take_of_length_le h1, embed_resize l h1 h2]
    exact ih _ (by rw [List.length_append, List.length_replicate, Nat.add_sub_cancel' h1]) h3
  case case3 i v ops ih => rw [embed_set l v h.1]; exact ih _ (List.length_set ..) h.2
  case case4 v ops ih => rw [embed_push l v h.1]; exact ih _ (List.length_append ..) h.2

theorem fits_sets (cap len : Nat) (f : Nat → Nat) (is : List Nat) (h : ∀ i ∈ is, i < len) :
    Fits cap (is.map (fun i => VOp.set i (f i))) len := by
  induction is with
  | nil => trivial
  | cons a t ih => exact ⟨h a List.mem_cons_self, ih fun i hi => h i (List.mem_cons_of_mem _ hi)⟩

theorem fits_fillOps (cap : Nat) (l : List Nat) (h : l.length ≤ cap) : Fits cap (fillOps l) 0 :=
  ⟨Nat.zero_le _, h, fits_sets cap l.length _ _ fun _ hi => List.mem_range.mp hi⟩

theorem runList_sets (l m : List Nat) (hm : m.length = l.length) (k : Nat) (hk : k ≤ l.length) :
    runList ((List.range k).map (fun i => VOp.set i (l.getD i 0))) m = l.take k ++ m.drop k := by
  induction k with
  | zero => rfl
  | succ k ih =>
    have hkl : k < l.length := hk
    have hlen : (l.take k).length = k := List.length_take_of_le (Nat.le_of_lt hkl)
    simp only [runList] at ih ⊢
    -- `m.drop k` starts with cell `k`, which receives `l[k]`; `l.take k ++ [l[k]] = l.take (k+1)`
    rw [List.range_succ, List.map_append, List.foldl_append, ih (Nat.le_of_lt hkl)]
    simp only [List.map_cons, List.map_nil, List.foldl_cons, List.foldl_nil, stepList]
    rw [List.set_append_right _ _ (Nat.le_of_eq hlen), hlen, Nat.sub_self,
      List.drop_eq_getElem_cons (hm ▸ hkl), List.set_cons_zero, List.take_succ_eq_append_getElem hkl,
      List.append_assoc, List.singleton_append, List.getD_eq_getElem?_getD, List.getElem?_eq_getElem hkl,
      Option.getD_some]

theorem runList_fillOps (l : List Nat) : runList (fillOps l) [] = l := by
  have h := runList_sets l (List.replicate l.length 0) List.length_replicate l.length (Nat.le_refl _)
  simp only [runList] at h
  simp only [fillOps, runList, List.foldl_cons, stepList, List.take_nil, List.length_nil, Nat.sub_zero,
    List.nil_append, h, List.take_length, List.drop_of_length_le (Nat.le_of_eq List.length_replicate),
    List.append_nil]

theorem leList_length {a b : List Nat} (h : LeList a b) : a.length = b.length := by
  fun_induction LeList a b with
  | case1 => rfl
  | case2 _ _ _ _ ih => exact congrArg (· + 1) (ih h.2)
  | case3 => exact h.elim

theorem leList_prod_le {a b : List Nat} (h : LeList a b) : prod a ≤ prod b := by
  fun_induction LeList a b with
  | case1 => exact Nat.le_refl _
  | case2 _ _ _ _ ih => exact Nat.mul_le_mul h.1 (ih h.2)
  | case3 => exact h.elim

end NmVerif.Kinds
