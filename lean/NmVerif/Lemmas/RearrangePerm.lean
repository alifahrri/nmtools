import NmVerif.Lemmas.Rearrange
/-
  Permutation lemmas for C03: a bijective index map permutes the elements; the orders swapaxes and moveaxis hand to
  transpose are permutations.
-/
namespace NmVerif

theorem perm_range_of_nodup (l : List Nat) (n : Nat) (hnd : l.Nodup) (hlt : ∀ x ∈ l, x < n) (hlen : l.length = n) :
    l.Perm (List.range n) := by
  have h := List.perm_filter_mem_range l n hnd hlt
  rwa [List.filter_eq_self.2 (List.length_filter_eq_length_iff.1 (by rw [← h.length_eq, hlen, List.length_range]))] at h

/-- an index map that is a bijection between the in-shape indices of `dst` and of the source (inverse `g`)
    makes the C-order element list of the view a permutation of the source's -/
theorem flat_perm_of_bij {α : Type} (a : Arr α) (dst : Shape) (f g : Idx → Idx)
    (hf : ∀ d, InShape d dst → InShape (f d) a.shape ∧ g (f d) = d)
    (hg : ∀ i, InShape i a.shape → InShape (g i) dst ∧ f (g i) = i) :
    ((allIdx dst).map (fun d => a.get (f d))).Perm a.flat := by
  have hperm : ((allIdx dst).map f).Perm (allIdx a.shape) := by
    rw [List.perm_ext_iff_of_nodup]
    · intro x
      simp only [List.mem_map, Shape.mem_allIdx_iff]
      constructor
      · rintro ⟨d, hd, rfl⟩; exact (hf d hd).1
      · intro hx; exact ⟨g x, (hg x hx).1, (hg x hx).2⟩
    · refine (Shape.allIdx_nodup dst).map_on fun x hx y hy hxy => ?_
      rw [Shape.mem_allIdx_iff] at hx hy
      rw [← (hf x hx).2, ← (hf y hy).2, hxy]
    · exact Shape.allIdx_nodup _
  have := hperm.map a.get
  rw [List.map_map] at this
  exact this

/-- SPEC: the axis permutation of `np.swapaxes(a, m1, m2)` — identity with `m1` and `m2` exchanged -/
def swapPos (m1 m2 k : Nat) : Nat := if k = m1 then m2 else if k = m2 then m1 else k

theorem swapPos_invol (m1 m2 k : Nat) : swapPos m1 m2 (swapPos m1 m2 k) = k := by
  unfold swapPos
  by_cases h1 : k = m1
  · rw [if_pos h1]
    by_cases h : m2 = m1
    · rw [if_pos h, h, h1]
    · rw [if_neg h, if_pos rfl, h1]
  · rw [if_neg h1]
    by_cases h2 : k = m2
    · rw [if_pos h2, if_pos rfl, h2]
    · rw [if_neg h2, if_neg h1, if_neg h2]

theorem swapPos_lt (m1 m2 k n : Nat) (h1 : m1 < n) (h2 : m2 < n) (hk : k < n) : swapPos m1 m2 k < n := by
  unfold swapPos; split <;> (try split) <;> assumption

theorem swap_order_eq (n m1 m2 : Nat) :
    ((List.range n).set m1 m2).set m2 m1 = (List.range n).map (swapPos m1 m2) := by
  apply List.ext_getElem (by simp)
  intro k _ _
  simp only [List.getElem_set, List.getElem_range, List.getElem_map, swapPos]
  by_cases hk1 : k = m1
  · by_cases hk2 : k = m2
    · rw [if_pos hk2.symm, if_pos hk1, ← hk1, hk2]
    · rw [if_neg (Ne.symm hk2), if_pos hk1.symm, if_pos hk1]
  · by_cases hk2 : k = m2
    · rw [if_pos hk2.symm, if_neg hk1, if_pos hk2]
    · rw [if_neg (Ne.symm hk2), if_neg (Ne.symm hk1), if_neg hk1, if_neg hk2]

theorem swap_order_perm (n m1 m2 : Nat) (h1 : m1 < n) (h2 : m2 < n) :
    ((List.range n).map (swapPos m1 m2)).Perm (List.range n) := by
  refine perm_range_of_nodup _ n
    (List.nodup_range.map_on fun x _ y _ e => by rw [← swapPos_invol m1 m2 x, e, swapPos_invol]) (fun x hx => ?_)
    (by rw [List.length_map, List.length_range])
  obtain ⟨k, hk, rfl⟩ := List.mem_map.1 hx
  exact swapPos_lt m1 m2 k n h1 h2 (List.mem_range.1 hk)

/-- swapaxes is the transpose along `σ = (range n).map (swapPos m1 m2)`; stated with what `transposeView_some` and
    `transpose_eq_spec` ask of `σ`: it is a permutation and, cast to `Int`, normalises to itself -/
theorem swapaxesView_eq_transpose (src : Shape) (a1 a2 : Int) (m1 m2 : Nat)
    (h1 : normalizeAxis src.length a1 = some m1) (h2 : normalizeAxis src.length a2 = some m2) :
    ((List.range src.length).map (swapPos m1 m2)).Perm (List.range src.length) ∧
    normalizeAxes src.length (((List.range src.length).map (swapPos m1 m2)).map Int.ofNat)
        = some ((List.range src.length).map (swapPos m1 m2)) ∧
    swapaxesView src a1 a2
        = transposeView src (some (((List.range src.length).map (swapPos m1 m2)).map Int.ofNat)) := by
  have hperm := swap_order_perm src.length m1 m2 (normalizeAxis_lt _ _ _ h1) (normalizeAxis_lt _ _ _ h2)
  refine ⟨hperm, normalizeAxes_ofNat _ _ (of_perm_range _ _ hperm).2.2, ?_⟩
  simp only [swapaxesView, swapaxesToTranspose, h1, h2, Option.bind_some, swap_order_eq]

theorem insertShift_padded (L : List Nat) (z d s : Nat) (hd : d ≤ L.length) :
    insertShift d s (L ++ List.replicate (z+1) 0) = L.insertIdx d s ++ List.replicate z 0 := by
  -- reassociate to `(L.insertIdx d s ++ replicate z 0) ++ [0]`, cut at the length of `(L ++ replicate z 0) ++ [0]`
  rw [insertShift, List.take_append_of_le_length hd, List.drop_append_of_le_length hd, List.replicate_succ',
    ← List.append_assoc L, ← List.append_assoc (L.drop d), ← List.cons_append, ← List.cons_append,
    ← List.append_assoc (L.take d), ← List.append_assoc (L.take d), ← List.insertIdx_eq_take_drop L d s hd]
  refine List.take_left' ?_
  rw [List.length_append, List.length_append, List.length_append, List.length_insertIdx_of_le_length hd,
    Nat.add_right_comm]
  rfl

theorem filter_insertIdx_of_neg (L : List Nat) (d s : Nat) (P : Nat → Bool) (hs : P s = false) :
    (L.insertIdx d s).filter P = L.filter P := by
  by_cases hd : d ≤ L.length
  · rw [List.insertIdx_eq_take_drop L d s hd, List.filter_append, List.filter_cons_of_neg (by simp [hs]), ← List.filter_append,
      List.take_append_drop]
  · rw [List.insertIdx_of_length_lt (by omega)]

/-- `order.insert(destination, source)` pair by pair; `qs` is the visiting order REVERSED (largest destination first) -/
def insertAllR (qs : List (Nat × Nat)) (L : List Nat) : List Nat := qs.foldr (fun p o => o.insertIdx p.1 p.2) L

/-- the moveaxis insertion loop, read from its LAST step: the last insertion has the largest destination, so it moves none
    of the earlier placements -/
theorem moveaxis_foldr (qs : List (Nat × Nat)) (L : List Nat) (z : Nat)
    (hs : (qs.map Prod.fst).Pairwise (· > ·)) (hB : ∀ p ∈ qs, p.1 < L.length + qs.length) :
    qs.foldr (fun p o => insertShift p.1 p.2 o) (L ++ List.replicate (qs.length + z) 0)
        = insertAllR qs L ++ List.replicate z 0 ∧
    (insertAllR qs L).length = L.length + qs.length ∧
    (∀ p ∈ qs, (insertAllR qs L)[p.1]? = some p.2) ∧
    (∀ P : Nat → Bool, (∀ p ∈ qs, P p.2 = false) → (insertAllR qs L).filter P = L.filter P) ∧
    (insertAllR qs L).Perm (qs.map Prod.snd ++ L) := by
  induction qs generalizing z with
  | nil => exact ⟨by rw [List.length_nil, Nat.zero_add]; rfl, rfl, nofun, fun _ _ => rfl, List.Perm.refl _⟩
  | cons p qs ih =>
    obtain ⟨d, s⟩ := p
    have hs' := List.pairwise_cons.1 (show List.Pairwise (· > ·) (d :: qs.map Prod.fst) from hs)
    have hlt : ∀ q ∈ qs, q.1 < d := fun q hq => hs'.1 q.1 (List.mem_map_of_mem hq)
    have hd := hB (d, s) List.mem_cons_self
    rw [List.length_cons] at hd
    obtain ⟨i1, i2, i3, i4, i5⟩ := ih (z + 1) hs'.2 (fun q hq => by have := hlt q hq; omega)
    have hd' : d ≤ (insertAllR qs L).length := by rw [i2]; omega
    refine ⟨?_, ?_, ?_, ?_, ?_⟩
    · rw [List.foldr_cons, List.length_cons, Nat.add_assoc, Nat.add_comm 1 z, i1]
      exact insertShift_padded _ z d s hd'
    · exact (List.length_insertIdx_of_le_length hd' s).trans (by rw [i2, List.length_cons, Nat.add_assoc])
    · intro q hq
      rcases List.mem_cons.1 hq with rfl | hq
      · exact List.getElem?_insertIdx_self.trans (if_pos hd')
      · exact (List.getElem?_insertIdx_of_lt (hlt q hq)).trans (i3 q hq)
    · intro P hP
      exact (filter_insertIdx_of_neg _ d s P (hP (d, s) List.mem_cons_self)).trans
        (i4 P fun q hq => hP q (List.mem_cons_of_mem _ hq))
    · exact (List.perm_insertIdx s _ hd').trans (i5.cons s)

theorem argsortInsert_does (key : Nat → Nat) (acc : List Nat) (x : Nat) :
    (argsortInsert key acc x).Perm (x :: acc) ∧
    (acc.Pairwise (fun a b => key b ≤ key a) → (argsortInsert key acc x).Pairwise (fun a b => key b ≤ key a)) := by
  fun_induction argsortInsert key acc x with
  | case1 => exact ⟨List.Perm.refl _, fun _ => List.pairwise_singleton _ _⟩
  | case2 y ys x hgt ih =>
    refine ⟨(ih.1.cons y).trans (List.Perm.swap x y ys), fun h => ?_⟩
    obtain ⟨hy, hys⟩ := List.pairwise_cons.1 h
    refine List.pairwise_cons.2 ⟨fun b hb => ?_, ih.2 hys⟩
    rcases List.mem_cons.1 (ih.1.mem_iff.1 hb) with rfl | hb
    · exact Nat.le_of_lt hgt
    · exact hy b hb
  | case3 y ys x hle =>
    refine ⟨List.Perm.refl _, fun h => List.pairwise_cons.2 ⟨fun b hb => ?_, h⟩⟩
    rcases List.mem_cons.1 hb with rfl | hb
    · exact Nat.le_of_not_lt hle
    · exact Nat.le_trans ((List.pairwise_cons.1 h).1 b hb) (Nat.le_of_not_lt hle)

theorem argsortFold_perm_sorted (key : Nat → Nat) (l acc : List Nat) (h : acc.Pairwise (fun a b => key b ≤ key a)) :
    (l.foldl (argsortInsert key) acc).Perm (l ++ acc) ∧
    (l.foldl (argsortInsert key) acc).Pairwise (fun a b => key b ≤ key a) := by
  induction l generalizing acc with
  | nil => exact ⟨List.Perm.refl _, h⟩
  | cons x l ih =>
    obtain ⟨hp, hs⟩ := argsortInsert_does key acc x
    obtain ⟨h1, h2⟩ := ih (argsortInsert key acc x) (hs h)
    exact ⟨h1.trans ((hp.append_left l).trans List.perm_middle), h2⟩

/-- `index::argsort` returns a permutation of the positions that sorts the keys (non-strictly) increasingly -/
theorem argsort_spec (l : List Nat) :
    (argsort l).Perm (List.range l.length) ∧ (argsort l).Pairwise (fun a b => l.getD a 0 ≤ l.getD b 0) := by
  obtain ⟨h1, h2⟩ := argsortFold_perm_sorted (fun i => l.getD i 0) (List.range l.length) [] List.Pairwise.nil
  exact ⟨(List.reverse_perm _).trans (h1.trans (.of_eq (List.append_nil _))), List.pairwise_reverse.2 h2⟩

/-- **moveaxis_to_transpose = NumPy's moveaxis order** (declaratively): for duplicate-free, equally long, in-range
    source / destination lists the order is a permutation of the axes, has every source axis at its destination,
    and keeps the other axes in their original order. -/
theorem moveaxisToTranspose_spec (dim : Nat) (source destination : List Int) (nsrc ndst : List Nat)
    (hs : normalizeAxes dim source = some nsrc) (hd : normalizeAxes dim destination = some ndst)
    (hlen : nsrc.length = ndst.length) (hns : nsrc.Nodup) (hnd : ndst.Nodup) :
    ∃ o, moveaxisToTranspose dim source destination = some o ∧
      o.Perm (List.range dim) ∧
      (∀ (j s d : Nat), nsrc[j]? = some s → ndst[j]? = some d → o[d]? = some s) ∧
      o.filter (fun i => !nsrc.contains i) = (List.range dim).filter (fun i => !nsrc.contains i) := by
  have hlt_s := normalizeAxes_lt dim source nsrc hs
  have hlt_d := normalizeAxes_lt dim destination ndst hd
  have hcnt := List.length_filter_not_contains (List.range dim) nsrc List.nodup_range hns (fun a ha => List.mem_range.2 (hlt_s a ha))
  rw [List.length_range] at hcnt
  obtain ⟨hperm, hsorted⟩ := argsort_spec ndst
  -- the `qs` of `moveaxis_foldr`: `ndst.zip nsrc` sorted by decreasing destination
  let qs := ((argsort ndst).map (fun i => (ndst.getD i 0, nsrc.getD i 0))).reverse
  have hzip : qs.Perm (ndst.zip nsrc) := by
    refine (List.reverse_perm _).trans ((hperm.map _).trans (List.Perm.of_eq ?_))
    rw [← List.zip_map', List.map_getD_range, ← hlen, List.map_getD_range]
  have hkeys : (qs.map Prod.fst).Perm ndst := List.map_fst_zip (Nat.le_of_eq hlen.symm) ▸ hzip.map Prod.fst
  have hvals : (qs.map Prod.snd).Perm nsrc := List.map_snd_zip (Nat.le_of_eq hlen) ▸ hzip.map Prod.snd
  have hqslen : qs.length = ndst.length := (List.length_map (f := Prod.fst)).symm.trans hkeys.length_eq
  have hB : ∀ p ∈ qs, p.1 < ((List.range dim).filter (fun i => !nsrc.contains i)).length + qs.length := by
    intro p hp
    rw [hqslen, ← hlen, hcnt]
    exact hlt_d p.1 (hkeys.mem_iff.1 (List.mem_map_of_mem hp))
  have hqsfst : (qs.map Prod.fst).Pairwise (· > ·) := by
    refine (List.Pairwise.and ?_ (hkeys.nodup_iff.2 hnd)).imp (fun h => Nat.lt_of_le_of_ne h.1 (Ne.symm h.2))
    rw [List.map_reverse, List.pairwise_reverse, List.map_map, List.pairwise_map]
    exact hsorted
  obtain ⟨f1, _, f3, f4, f5⟩ := moveaxis_foldr qs _ 0 hqsfst hB
  refine ⟨insertAllR qs ((List.range dim).filter (fun i => !nsrc.contains i)), ?_, ?_, ?_, ?_⟩
  · simp only [moveaxisToTranspose, hs, hd]
    rw [if_neg (not_not_intro hlen)]
    simp only [Option.some.injEq]
    have hz : dim - ((List.range dim).filter (fun i => !nsrc.contains i)).length = qs.length + 0 := by
      rw [hqslen, ← hlen]; exact Nat.sub_eq_of_eq_add' hcnt.symm
    rw [hz]
    refine Eq.trans ?_ (f1.trans (List.append_nil _))
    rw [List.foldr_reverse, List.foldl_map]
  · have h2 := List.perm_filter_of_mem_iff (List.range dim) nsrc (fun i => nsrc.contains i) List.nodup_range hns
      (fun a ha => List.mem_range.2 (hlt_s a ha)) fun _ => List.contains_iff_mem
    exact f5.trans ((hvals.append_right _).trans ((h2.append_right _).trans
      (List.filter_append_perm (fun i => nsrc.contains i) (List.range dim))))
  · intro j s d hjs hjd
    exact f3 (d, s) (hzip.mem_iff.2 (List.mem_iff_getElem?.2 ⟨j, List.getElem?_zip_eq_some.2 ⟨hjd, hjs⟩⟩))
  · rw [f4 (fun i => !nsrc.contains i), List.filter_filter]
    · simp only [Bool.and_self]
    intro p hp
    rw [List.contains_iff_mem.2 (hvals.mem_iff.1 (List.mem_map_of_mem hp))]; rfl

end NmVerif
