import NmVerif.Index.Reduce
import NmVerif.Lemmas.ListBasics
/-
  The folds of C08: `reducer` / `flattenReduce` (the model) are `foldFirst` / `foldNumpy` (the SPEC) of the list of elements
  in flat order; a fold with `optOp` over optional terms is `mapM` followed by the fold of the values.
-/
namespace NmVerif.Reduce
open NmVerif

theorem reducer_eq_foldFirst {α : Type} (op : α → α → α) (init : Option α) (n : Nat) (elem : Nat → α) :
    reducer op init n elem = foldFirst op init ((List.range n).map elem) := by
  cases init with
  | some i0 => simp [reducer, foldFirst, List.foldl_map]
  | none =>
    cases n with
    | zero => rfl
    | succ m => simp [reducer, foldFirst, List.range_eq_range', List.range'_succ, List.foldl_map]

theorem foldNumpy_of_ne_nil {α β : Type} (ident : Option α) (op : α → α → α) (init : Option α) (g : β → α) {l : List β}
    (h : l ≠ []) : foldNumpy ident op init (l.map g) = foldFirst op init (l.map g) := by
  cases l with
  | nil => exact absurd rfl h
  | cons x xs => rfl

theorem foldNumpy_none {α : Type} (op : α → α → α) (init : Option α) (l : List α) :
    foldNumpy none op init l = foldFirst op init l := by
  cases l with
  | nil => cases init <;> rfl
  | cons x xs => rfl

theorem foldNumpy_nil {α : Type} (ident : Option α) (op : α → α → α) (init : Option α) :
    foldNumpy ident op init [] = emptyFold ident init := rfl

theorem flattenReduce_eq {α : Type} (ident : Option α) (op : α → α → α) (init : Option α) (n : Nat) (elem : Nat → α) :
    flattenReduce ident op init n elem = foldNumpy ident op init ((List.range n).map elem) := by
  unfold flattenReduce
  split
  · subst n; rfl
  · rw [reducer_eq_foldFirst, foldNumpy_of_ne_nil _ _ _ _ (mt List.range_eq_nil.1 ‹_›)]

theorem foldFirst_map_defined {α β : Type} (f : α → α → α) (g : β → α) {l : List β} (h : l ≠ []) :
    ∃ y, foldFirst f none (l.map g) = some y := by
  cases l with
  | nil => exact absurd rfl h
  | cons x xs => exact ⟨_, rfl⟩

theorem foldl_optOp_mapM {α β : Type} (op : α → α → α) (f : β → Option α) (l : List β) (o : Option α) :
    (l.map f).foldl (optOp op) o = o.bind fun x => (l.mapM f).map fun ys => ys.foldl op x := by
  induction l generalizing o with
  | nil => cases o <;> rfl
  | cons b t ih =>
    rw [List.map_cons, List.foldl_cons, ih, List.mapM_cons]
    cases o <;> cases f b <;> cases t.mapM f <;> rfl

/-- a fold of optional terms in which an undefined term makes the result undefined is `mapM` followed by the fold: no term
    needs to be known defined to speak of the result -/
theorem foldFirst_optOp_mapM {α β : Type} (op : α → α → α) (f : β → Option α) (l : List β) :
    (foldFirst (optOp op) none (l.map f)).join = (l.mapM f).bind (foldFirst op none) := by
  cases l with
  | nil => rfl
  | cons b t =>
    show (t.map f).foldl (optOp op) (f b) = _
    rw [foldl_optOp_mapM, List.mapM_cons]
    cases f b <;> cases t.mapM f <;> rfl

theorem foldFirst_optOp_some {α β : Type} (f : α → α → α) (g : β → α) (l : List β) :
    (foldFirst (optOp f) none (l.map (fun i => some (g i)))).join = foldFirst f none (l.map g) := by
  rw [foldFirst_optOp_mapM, List.mapM_eq_some_map (fun _ _ => rfl)]
  rfl

theorem foldNumpy_optOp_some {α β : Type} (f : α → α → α) (z : Option α) (g : β → α) (l : List β) :
    (foldNumpy (z.map some) (optOp f) none (l.map (fun x => some (g x)))).join = foldNumpy z f none (l.map g) := by
  cases l with
  | nil => cases z <;> rfl
  | cons b t => exact foldFirst_optOp_some f g (b :: t)

end NmVerif.Reduce
