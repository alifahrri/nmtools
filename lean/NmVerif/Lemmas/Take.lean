import NmVerif.Index.Take
import NmVerif.Index.Compress
import NmVerif.Lemmas.SelCommon
/-
  SPEC of np.take (and compress = take at the non-zero positions) and proofs that the MODEL meets it.
  NumPy: `np.take(a, ind, axis=k).shape = a.shape[:k] + (len ind,) + a.shape[k+1:]`,
         `out[..., j, ...] = a[..., ind[j], ...]` (negative entries count from the end);
         axis None works on the flattened array.
-/
namespace NmVerif.Index

/-- NumPy: shape of `np.take(a, ind, axis=k)` for a 1-d index list of length `n` (`replaceExtent s k n` by `rfl`) -/
def takeShapeSpec (s : Shape) (n k : Nat) : Shape := s.take k ++ n :: s.drop (k + 1)

/-- NumPy's reading of one index entry against an axis of extent `n` (negative entries count from the end) -/
def normIndex (n : Nat) (v : Int) : Option Nat :=
  if 0 ≤ v ∧ v < n then some v.toNat
  else if -(n : Int) ≤ v ∧ v < 0 then some (v + n).toNat
  else none

theorem shapeTake_eq_spec (s : Shape) (n k : Nat) (hk : k < s.length) :
    shapeTake s n (k : Int) = takeShapeSpec s n k := by
  rw [shapeTake, mapAt_normAxis_nat _ k _ _ s (List.getElem?_eq_getElem hk)]
  exact (replaceExtent_eq_set s k n hk).symm

/-- `normalize_take_index` computes NumPy's reading of an entry inside `[-extent, extent)` -/
theorem takeEntry_norm (ind : List Int) (n x : Nat) (v : Int) (j : Nat) (h : ind[x]? = some v)
    (hn : normIndex n v = some j) : takeEntry ind n x = j := by
  rw [takeEntry]
  simp only [h]
  revert hn
  fun_cases normIndex n v with
  | case1 hc => rintro ⟨⟩; rw [if_neg (Int.not_lt.2 hc.1), i2u_of_nonneg _ hc.1]
  | case2 _ hc => rintro ⟨⟩; rw [if_pos hc.2, i2u_of_nonneg _ (Int.add_nonneg_iff_neg_le.2 hc.1)]
  | case3 => nofun

theorem takeEntry_nat (ind : List Int) (n x j : Nat) (h : ind[x]? = some (j : Int)) : takeEntry ind n x = j := by
  simp [takeEntry, h, Int.not_ofNat_neg, i2u_nat]

/-- a non-negative entry is used as it is, whatever the extent -/
theorem indexTake_eq_nat (d : Idx) (s : Shape) (ind : List Int) (k x j : Nat)
    (hx : d[k]? = some x) (hj : ind[x]? = some (j : Int)) : indexTake d s ind (k : Int) = d.set k j := by
  rw [indexTake, mapAt_normAxis_nat _ k _ x d hx, takeEntry_nat ind _ x j hj]

theorem normIndex_of_range (n : Nat) (v : Int) (h1 : -(n : Int) ≤ v) (h2 : v < n) : ∃ j, normIndex n v = some j ∧ j < n := by
  fun_cases normIndex n v with
  | case1 h => exact ⟨_, rfl, (Int.toNat_lt h.1).2 h.2⟩
  | case2 _ h =>
    exact ⟨_, rfl, (Int.toNat_lt (Int.add_nonneg_iff_neg_le.2 h1)).2
      (by have := Int.add_lt_add_right h.2 n; rwa [Int.zero_add] at this)⟩
  | case3 ha hb => exact (hb ⟨h1, Int.not_le.1 fun h => ha ⟨h, h2⟩⟩).elim

theorem axisExtent_nat (s : Shape) (k n : Nat) (h : s[k]? = some n) : axisExtent s (k : Int) = n := by
  simp [axisExtent, normAxis_nat, h]

theorem indexTake_eq (d : Idx) (s : Shape) (ind : List Int) (k x n : Nat) (v : Int) (j : Nat)
    (hx : d[k]? = some x) (hn : s[k]? = some n) (hv : ind[x]? = some v) (hj : normIndex n v = some j) :
    indexTake d s ind (k : Int) = d.set k j := by
  rw [indexTake, mapAt_normAxis_nat _ k _ x d hx, axisExtent_nat s k n hn, takeEntry_norm ind n x v j hv hj]

theorem takeView_axis_normalize (s : Shape) (ind : List Int) (axis : Int) (k : Nat)
    (hk : normalizeAxis1 axis s.length = some k) :
    takeView s ind (some axis) = takeView s ind (some (k : Int)) := by
  simp only [takeView, shapeTake, indexTake, axisExtent, normAxis_of_normalizeAxis1 axis _ k hk, normAxis_nat]

theorem takeShapeSpec_length (s : Shape) (n k : Nat) (hk : k < s.length) : (takeShapeSpec s n k).length = s.length := by
  rw [show takeShapeSpec s n k = replaceExtent s k n from rfl, replaceExtent_eq_set s k n hk, List.length_set]

theorem nonzeroIdxAux_spec (i : Nat) (cond : List Int) (j : Nat) (hj : j ∈ nonzeroIdxAux i cond) :
    ∃ p, j = i + p ∧ ∃ c, cond[p]? = some c ∧ c ≠ 0 := by
  fun_induction nonzeroIdxAux i cond with
  | case1 => nomatch hj
  | case2 i c cs hc ih =>
    rcases List.mem_cons.1 hj with rfl | hj
    · exact ⟨0, rfl, c, rfl, hc⟩
    · obtain ⟨p, hp, h⟩ := ih hj
      exact ⟨p + 1, by rw [hp, Nat.add_assoc, Nat.add_comm 1], h⟩
  | case3 i c cs _ ih =>
    obtain ⟨p, hp, h⟩ := ih hj
    exact ⟨p + 1, by rw [hp, Nat.add_assoc, Nat.add_comm 1], h⟩

end NmVerif.Index
