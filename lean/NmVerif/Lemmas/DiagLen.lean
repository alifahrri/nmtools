/-
  The length of a diagonal, three ways: `index::shape_diagonal` computes it in signed arithmetic with C++ conditionals and
  clamps at 0; NumPy documents `max(0, min(n1 + min(off,0), n2 - max(off,0)))` (`diagLen`); in truncated subtraction it is
  `min (n1 - max(-off,0)) (n2 - max(off,0))`, the form in which bounds are read off.  Core Lean only.
-/
/-- NumPy's diagonal length `max(0, min(n1 + min(off,0), n2 - max(off,0)))` -/
def NmVerif.Props.C04.diagLen (n1 n2 : Nat) (off : Int) : Nat :=
  (min ((n1 : Int) + min off 0) ((n2 : Int) - max off 0)).toNat

namespace NmVerif
open Props.C04 (diagLen)

theorem toNat_clamp (m : Int) : (if m < 0 then 0 else m).toNat = m.toNat := by
  split
  · exact (Int.toNat_of_nonpos (Int.le_of_lt ‹_›)).symm
  · rfl

theorem ite_lt_eq_min (a b : Int) : (if a < b then a else b) = min a b := by
  by_cases h : a < b
  · rw [if_pos h, Int.min_eq_left (Int.le_of_lt h)]
  · rw [if_neg h, Int.min_eq_right (Int.not_lt.1 h)]

theorem ite_neg_add_eq_add_min (n off : Int) : (if off < 0 then n + off else n) = n + min off 0 := by
  by_cases h : off < 0
  · rw [if_pos h, Int.min_eq_left (Int.le_of_lt h)]
  · rw [if_neg h, Int.min_eq_right (Int.not_lt.1 h), Int.add_zero]

theorem ite_pos_sub_eq_sub_max (n off : Int) : (if off > 0 then n - off else n) = n - max off 0 := by
  by_cases h : off > 0
  · rw [if_pos h, Int.max_eq_left (Int.le_of_lt h)]
  · rw [if_neg h, Int.max_eq_right (Int.not_lt.1 h), Int.sub_zero]

/-- this and the next: the shifts `offset < 0 ? -offset : 0`, `offset > 0 ? offset : 0` of `index::diagonal`, as the
    signed model of C16 / C08 (`diagonalIdx`) spells them -/
theorem ite_neg_eq_toNat (off : Int) : (if off < 0 then -off else 0) = ((-off).toNat : Int) := by
  by_cases h : off < 0
  · rw [if_pos h, Int.toNat_of_nonneg (Int.neg_nonneg_of_nonpos (Int.le_of_lt h))]
  · rw [if_neg h, Int.toNat_of_nonpos (Int.neg_nonpos_of_nonneg (Int.not_lt.1 h))]; rfl

theorem ite_pos_eq_toNat (off : Int) : (if off > 0 then off else 0) = (off.toNat : Int) := by
  by_cases h : off > 0
  · rw [if_pos h, Int.toNat_of_nonneg (Int.le_of_lt h)]
  · rw [if_neg h, Int.toNat_of_nonpos (Int.not_lt.1 h)]; rfl

theorem toNat_min (a b : Int) : (min a b).toNat = min a.toNat b.toNat := by
  rcases Int.le_total a b with h | h
  · rw [Int.min_eq_left h, Nat.min_eq_left (Int.toNat_le_toNat h)]
  · rw [Int.min_eq_right h, Nat.min_eq_right (Int.toNat_le_toNat h)]

theorem toNat_max_zero (x : Int) : (max x 0).toNat = x.toNat := by
  rw [← Int.toNat_eq_max, Int.toNat_natCast]

theorem toNat_sub_max_zero (n : Nat) (off : Int) : ((n : Int) - max off 0).toNat = n - off.toNat := by
  rw [← Int.toNat_eq_max, Int.toNat_sub]

theorem toNat_add_min_zero (n : Nat) (off : Int) : ((n : Int) + min off 0).toNat = n - (-off).toNat := by
  rw [← Int.sub_neg, ← Int.neg_max_neg, Int.neg_zero, toNat_sub_max_zero]

theorem diagLen_eq_min (n1 n2 : Nat) (off : Int) : diagLen n1 n2 off = min (n1 - (-off).toNat) (n2 - off.toNat) := by
  rw [diagLen, toNat_min, toNat_add_min_zero, toNat_sub_max_zero]

theorem lt_of_lt_diagLen {n1 n2 j : Nat} {off : Int} (h : j < diagLen n1 n2 off) :
    j + (max (-off) 0).toNat < n1 ∧ j + (max off 0).toNat < n2 := by
  rw [diagLen_eq_min, Nat.lt_min] at h
  rw [toNat_max_zero, toNat_max_zero]
  exact ⟨Nat.add_lt_of_lt_sub h.1, Nat.add_lt_of_lt_sub h.2⟩

end NmVerif
