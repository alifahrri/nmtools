import NmVerif.Index.Reduce
import NmVerif.Lemmas.Axis
/-
  The axis argument of a reduction: on an entry NumPy accepts (`ValidAxis`) the code's `normalize_axis` answers NumPy's
  `a mod ndim` (`normAxis`), on any other it refuses; `unwrapAxes` / `inAxis` on an accepted list.
-/
namespace NmVerif.Reduce
open NmVerif

/-- the reduction's `normalize_axis` is `index::normalize_axis` (Index/NormalizeAxis), written out again -/
theorem normalizeAxis_eq_model (n : Nat) (a : Int) : normalizeAxis n a = NmVerif.normalizeAxis n a := rfl

theorem normalizeAxis_of_valid {n : Nat} {a : Int} (h : ValidAxis n a) :
    normalizeAxis n a = some (normAxis n a) := by
  have hn : (n : Int) ≠ 0 := fun e => by
    have := Int.lt_of_le_of_lt h.1 h.2
    rw [e] at this
    exact Int.lt_irrefl 0 this
  rw [normalizeAxis_eq_model, normalizeAxis_eq_mod]
  exact ⟨h.1, h.2, Int.toNat_of_nonneg (Int.emod_nonneg a hn)⟩

theorem normalizeAxis_of_invalid {n : Nat} {a : Int} (h : ¬ ValidAxis n a) : normalizeAxis n a = none :=
  if_neg h

theorem normAxis_eq {n : Nat} {a : Int} (h : ValidAxis n a) :
    (normAxis n a : Int) = if a < 0 then a + n else a :=
  ((normalizeAxis_eq_some_iff n a _).1 (normalizeAxis_of_valid h)).2

theorem normAxis_lt {n : Nat} {a : Int} (h : ValidAxis n a) : normAxis n a < n :=
  normalizeAxis_lt n a _ (normalizeAxis_of_valid h)

theorem normAxis_ofNat {n k : Nat} (h : k < n) : normAxis n (Int.ofNat k) = k := by
  unfold normAxis
  rw [Int.emod_eq_of_lt (by simp) (by simpa using h)]
  simp

theorem normalizeAxes_eq (n : Nat) (l : List Int) :
    normalizeAxes n l = if (∀ a ∈ l, ValidAxis n a) then some (l.map (normAxis n)) else none := by
  induction l with
  | nil => simp [normalizeAxes]
  | cons a t ih =>
    simp only [normalizeAxes, ih, List.forall_mem_cons, List.map_cons]
    by_cases ha : ValidAxis n a
    · rw [normalizeAxis_of_valid ha]
      by_cases ht : ∀ a ∈ t, ValidAxis n a
      · rw [if_pos ht, if_pos ⟨ha, ht⟩]
      · rw [if_neg ht, if_neg (fun h => ht h.2)]
    · rw [normalizeAxis_of_invalid ha]
      simp [ha]

theorem unwrapAxes_some {n : Nat} {l : List Int} (hl : ∀ a ∈ l, ValidAxis n a) :
    unwrapAxes n (some l) = some (some (l.map (normAxis n))) := by
  rw [unwrapAxes, normalizeAxes_eq, if_pos hl]; rfl

theorem mem_map_normAxis_lt {n : Nat} {l : List Int} (hl : ∀ a ∈ l, ValidAxis n a) :
    ∀ k ∈ l.map (normAxis n), k < n := by
  intro k hk
  obtain ⟨a, ha, rfl⟩ := List.mem_map.1 hk
  exact normAxis_lt (hl a ha)

/-- `mean` and `var` hand the normalised axes to `reduce` as its axis argument: accepted again, the same axis set -/
theorem validAxes_renorm (n : Nat) (l : List Int) (hv : ValidAxes n (some l)) :
    ValidAxes n (some ((l.map (normAxis n)).map Int.ofNat)) ∧
    axisSet n (some ((l.map (normAxis n)).map Int.ofNat)) = axisSet n (some l) := by
  obtain ⟨hval, hnd⟩ := hv
  have hmap : ((l.map (normAxis n)).map Int.ofNat).map (normAxis n) = l.map (normAxis n) := by
    rw [List.map_map, List.map_map]
    exact List.map_congr_left (fun a ha => normAxis_ofNat (normAxis_lt (hval a ha)))
  refine ⟨⟨?_, by rw [hmap]; exact hnd⟩, hmap⟩
  intro a ha
  simp only [List.mem_map] at ha
  obtain ⟨k, ⟨b, hb, rfl⟩, rfl⟩ := ha
  exact natCast_mem_axisRange (normAxis_lt (hval b hb))

theorem validAxes_single {n : Nat} {axis : Int} (hv : ValidAxis n axis) : ValidAxes n (some [axis]) :=
  ⟨fun _ ha => List.mem_singleton.1 ha ▸ hv, List.pairwise_singleton _ _⟩

/-- the axis `ct<-1>` that `trace` and the NN routines pass -/
theorem validAxes_neg_one (m : Nat) : ValidAxes (m+1) (some [-1]) ∧ axisSet (m+1) (some [-1]) = [m] := by
  have hv : ValidAxis (m+1) (-1) := by unfold ValidAxis; omega
  have := normAxis_eq hv
  rw [if_pos (by decide)] at this
  exact ⟨validAxes_single hv, congrArg (· :: []) (by omega)⟩

/-- `in_axis` as membership in `axisSet`, for either form of the axis argument: the form in which `specShape_eq_loop` and
    `proj_eq_loop` take the predicate -/
theorem inAxis_some (l : List Nat) (k : Nat) : inAxis (some l) k = decide (k ∈ l) := by
  simp [inAxis]

theorem inAxis_none {n k : Nat} (hk : k < n) : inAxis none k = decide (k ∈ List.range n) :=
  (decide_eq_true (List.mem_range.2 hk)).symm

end NmVerif.Reduce
