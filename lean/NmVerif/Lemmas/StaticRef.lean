import NmVerif.StaticMore
import NmVerif.StaticGen
import NmVerif.Lemmas.LeAll
import NmVerif.Lemmas.BcLoop
import NmVerif.Lemmas.Scatter
/-
  C11, the reference shape functions (NumPy semantics): rank, product and monotonicity under `LeAll` of each (`refX_spec`:
  what the shape-kind lemmas of Lemmas/StaticOps need of `refX`, in one statement), as facts about lists of extents — no
  kind of the abstract domains occurs here.  Two proof-side definitions stand among them: `bcastStep` (the step that makes `bcastRev`
  a `bcLoop`) and `WinV.len`.
-/
namespace NmVerif.Static
open NmVerif

theorem prod_perm {a b : List Nat} (h : a.Perm b) : prod a = prod b := by
  induction h with
  | nil => rfl
  | cons x _ ih => simp [prod, ih]
  | swap x y l => simp only [prod]; rw [← Nat.mul_assoc, ← Nat.mul_assoc, Nat.mul_comm y x]
  | trans _ _ ih1 ih2 => exact ih1.trans ih2

theorem prod_set_le (s : Shape) (a n c : Nat) (h : s[a]? = some n) (hc : c ≤ n) : prod (s.set a c) ≤ prod s := by
  fun_induction List.set s a c with
  | case1 => cases h; exact Nat.mul_le_mul_right _ hc
  | case2 _ _ _ _ ih => exact Nat.mul_le_mul_left _ (ih h hc)
  | case3 => exact nomatch h

theorem prod_eraseIdx_le (l : List Nat) (a : Nat) (h : Pos l) : prod (l.eraseIdx a) ≤ prod l := by
  fun_induction List.eraseIdx l a with
  | case1 => exact Nat.le_refl _
  | case2 => exact Nat.le_mul_of_pos_left _ h.head
  | case3 _ _ _ ih => exact Nat.mul_le_mul_left _ (ih h.tail)

theorem pos_set_one (l : List Nat) (a : Nat) (h : Pos l) : Pos (l.set a 1) := by
  intro x hx
  rcases List.mem_or_eq_of_mem_set hx with hx | hx
  · exact h x hx
  · omega

theorem length_insertSorted (a : Nat) (l : List Nat) : (insertSorted a l).length = l.length + 1 := by
  fun_induction insertSorted a l with
  | case1 | case2 => rfl
  | case3 _ _ _ ih => exact congrArg Nat.succ ih

theorem length_sortAsc (l : List Nat) : (sortAsc l).length = l.length := by
  induction l with
  | nil => rfl
  | cons a as ih => exact (length_insertSorted a _).trans (congrArg Nat.succ ih)

theorem length_fillNeg (q : Nat) (t : List Int) : (fillNeg q t).length = t.length := by simp [fillNeg]

theorem prod_fillNeg (q : Nat) (t : List Int) : prod (fillNeg q t) = q ^ (t.countP (· < 0)) * knownProd t := by
  induction t with
  | nil => exact (Nat.one_mul 1).symm
  | cons x xs ih =>
    show (if x < 0 then q else x.toNat) * prod (fillNeg q xs) = _
    rw [ih, List.countP_cons, knownProd]
    by_cases hx : x < 0
    · rw [if_pos hx, if_pos hx, if_pos (decide_eq_true hx), Nat.pow_succ, Nat.mul_assoc]
      exact Nat.mul_left_comm ..
    · rw [if_neg hx, if_neg hx, if_neg (by simpa using hx), Nat.add_zero, Nat.mul_left_comm]

theorem fillNeg_of_nonneg (q : Nat) {t : List Int} (h : ∀ x ∈ t, 0 ≤ x) : fillNeg q t = t.map Int.toNat := by
  unfold fillNeg
  apply List.map_congr_left
  intro x hx
  have := h x hx
  simp; omega

theorem refReshape_spec {targ : List Int} {s t : Shape} (h : refReshape targ s = some t) :
    t.length = targ.length ∧ prod t = prod s ∧ ((∀ x ∈ targ, 0 ≤ x) → t = targ.map Int.toNat) := by
  by_cases hc : targ.countP (· < 0) = 0
  · obtain ⟨hk, ⟨⟩⟩ := Option.ite_none_right_eq_some.mp ((if_pos hc).symm.trans h)
    refine ⟨length_fillNeg _ _, ?_, fun hn => fillNeg_of_nonneg 0 hn⟩
    rw [prod_fillNeg, hc, ← hk, Nat.pow_zero, Nat.one_mul]
  · obtain ⟨hk, ⟨⟩⟩ := Option.ite_none_right_eq_some.mp ((if_neg hc).symm.trans h)
    refine ⟨length_fillNeg _ _, ?_, fun hn => absurd (List.countP_eq_zero.mpr fun x hx => by have := hn x hx; simp; omega) hc⟩
    rw [prod_fillNeg, hk.1, Nat.pow_one]
    exact Nat.div_mul_cancel (Nat.dvd_of_mod_eq_zero hk.2.2.2)

theorem length_tileRev (a r : List Nat) : (tileRev a r).length = max a.length r.length := by
  fun_induction tileRev a r with
  | case1 => exact (Nat.zero_max _).symm
  | case2 => exact (Nat.max_zero _).symm
  | case3 _ _ _ _ ih => exact (congrArg Nat.succ ih).trans (Nat.succ_max_succ ..).symm

theorem length_refTile (reps s : List Nat) : (refTile reps s).length = max s.length reps.length := by
  simp [refTile, length_tileRev]

theorem gather_eq_mapM (p : List Nat) (s : Shape) : gather p s = p.mapM (fun a => s[a]?) := by
  induction p with
  | nil => rfl
  | cons a as ih =>
    rw [gather, ih, List.mapM_cons]
    cases s[a]? <;> cases as.mapM (fun a => s[a]?) <;> rfl

theorem refTranspose_some {p : List Nat} {s t : Shape} (h : refTranspose (some p) s = some t) :
    p.Perm (List.range s.length) ∧ t = gatherAt s p := by
  obtain ⟨hp, h⟩ := Option.ite_none_right_eq_some.mp h
  have hp := List.isPerm_iff.mp hp
  rw [gather_eq_mapM, mapM_getElem?_eq_gatherAt s p fun k hk => List.mem_range.mp (hp.mem_iff.mp hk)] at h
  exact ⟨hp, (Option.some.inj h).symm⟩

theorem leAll_gatherAt {s v : Shape} (h : LeAll s v) : ∀ p : List Nat, LeAll (gatherAt s p) (gatherAt v p)
  | [] => trivial
  | a :: p => ⟨h.getD_le a, leAll_gatherAt h p⟩

theorem refTranspose_spec {axes : Option (List Nat)} {s t : Shape} (hr : refTranspose axes s = some t) :
    t.length = s.length ∧ prod t = prod s ∧
    ∀ {v t' : Shape}, LeAll s v → refTranspose axes v = some t' → LeAll t t' := by
  cases axes with
  | none => cases hr; exact ⟨List.length_reverse, prod_reverse s, fun hl h' => by cases h'; exact hl.reverse⟩
  | some p =>
    obtain ⟨hp, rfl⟩ := refTranspose_some hr
    refine ⟨(gatherAt_length s p).trans (hp.length_eq.trans List.length_range),
      (prod_perm (hp.map _)).trans (congrArg prod (List.map_getD_range s 0)), fun hl h' => ?_⟩
    obtain ⟨_, rfl⟩ := refTranspose_some h'
    exact leAll_gatherAt hl p

/-- the invariant is indexed by the number of steps taken: the rank statements of `refExpandDims` / `refReduce` count them -/
theorem foldlM_some_ind {α β : Type} {f : β → α → Option β} {P : Nat → β → Prop}
    (step : ∀ {n b a b'}, P n b → f b a = some b' → P (n + 1) b')
    (l : List α) {n : Nat} {b b' : β} (h0 : P n b) (h : l.foldlM f b = some b') : P (n + l.length) b' := by
  induction l generalizing n b with
  | nil => cases h; exact h0
  | cons a l ih =>
    rw [List.foldlM_cons] at h
    obtain ⟨b1, h1, h2⟩ := Option.bind_eq_some_iff.mp h
    exact Nat.add_right_comm n 1 l.length ▸ ih (step h0 h1) h2

theorem insertOne_spec {l t : Shape} {a : Nat} (h : insertOne l a = some t) : t.length = l.length + 1 ∧ prod t = prod l := by
  obtain ⟨ha, ⟨⟩⟩ := Option.ite_none_right_eq_some.mp h
  exact ⟨List.length_insertIdx_of_le_length ha _, (prod_perm (List.perm_insertIdx 1 l ha)).trans (Nat.one_mul _)⟩

theorem refExpandDims_spec {axes : List Nat} {s t : Shape} (h : refExpandDims axes s = some t) :
    t.length = s.length + axes.length ∧ prod t = prod s := by
  have := foldlM_some_ind (P := fun n u => u.length = s.length + n ∧ prod u = prod s)
    (fun ⟨hl, hp⟩ h1 => ⟨(insertOne_spec h1).1.trans (congrArg Nat.succ hl), (insertOne_spec h1).2.trans hp⟩)
    (sortAsc axes) (n := 0) ⟨rfl, rfl⟩ (Option.ite_none_right_eq_some.mp h).2
  rwa [Nat.zero_add, length_sortAsc] at this

/-- `Pos`: removing an extent 0 would RAISE the product -/
theorem eraseOne_spec {kd : Bool} {l t : Shape} {a : Nat} (hpos : Pos l) (h : eraseOne kd l a = some t) :
    t.length + (if kd then 0 else 1) = l.length ∧ prod t ≤ prod l ∧ Pos t := by
  revert h
  fun_cases eraseOne kd l a with
  | case1 ha =>
    rintro ⟨⟩
    cases kd with
    | true => exact ⟨List.length_set, prod_set_le l a _ 1 (List.getElem?_eq_getElem ha) (hpos _ (List.getElem_mem ha)), pos_set_one l a hpos⟩
    | false =>
      refine ⟨?_, prod_eraseIdx_le l a hpos, Shape.pos_of_subset (fun _ => List.mem_of_mem_eraseIdx) hpos⟩
      exact (congrArg (· + 1) (List.length_eraseIdx_of_lt ha)).trans (Nat.sub_add_cancel (Nat.zero_lt_of_lt ha))
  | case2 => exact nofun

theorem refReduce_spec {axes : List Nat} {kd : Bool} {s t : Shape} (hpos : Pos s) (h : refReduce axes kd s = some t) :
    t.length + (if kd then 0 else axes.length) = s.length ∧ prod t ≤ prod s := by
  have := foldlM_some_ind (P := fun n u => Pos u ∧ u.length + (if kd then 0 else n) = s.length ∧ prod u ≤ prod s)
    (fun {n u a u'} ⟨hp, hl, hq⟩ h1 => by
      obtain ⟨hl', hq', hp'⟩ := eraseOne_spec hp h1
      refine ⟨hp', ?_, Nat.le_trans hq' hq⟩
      cases kd
      · exact (Nat.add_right_comm ..).trans ((congrArg (· + n) hl').trans hl)
      · exact hl'.trans hl)
    (sortAsc axes).reverse (n := 0) ⟨hpos, by cases kd <;> rfl, Nat.le_refl _⟩ (Option.ite_none_right_eq_some.mp h).2
  rw [Nat.zero_add, List.length_reverse, length_sortAsc] at this
  exact this.2

theorem bcastRev_nil_right (a : List Nat) : bcastRev a [] = some a := by cases a <;> rfl

/-- the step of `bcastRev` on one aligned pair of extents -/
def bcastStep (a b : Nat) : Option Nat := if a == b || b == 1 then some a else if a == 1 then some b else none

theorem bcastStep_some {x u d : Nat} (h : bcastStep x u = some d) : d = x ∧ (x = u ∨ u = 1) ∨ d = u ∧ x = 1 := by
  revert h
  fun_cases bcastStep x u with
  | case1 hc => exact fun h => .inl ⟨(Option.some.inj h).symm, by simpa using hc⟩
  | case2 _ hc => exact fun h => .inr ⟨(Option.some.inj h).symm, by simpa using hc⟩
  | case3 => exact nofun

theorem bcastRev_eq : bcastRev = bcLoop bcastStep :=
  eq_bcLoop (fun _ => rfl) (fun _ _ => rfl) fun a as b bs => by
    rw [bcastRev, bcastStep]; split
    · rfl
    · split <;> rfl

theorem refBroadcast_eq : refBroadcast = bcShape bcastStep := by
  funext a b; rw [refBroadcast, bcastRev_eq]; rfl

theorem bcastStep_mono {x u d y v e : Nat} (hd : bcastStep x u = some d) (he : bcastStep y v = some e) (hxy : x ≤ y)
    (huv : u ≤ v) : d ≤ e := by
  rcases bcastStep_some hd with ⟨rfl, hxu⟩ | ⟨rfl, rfl⟩ <;> rcases bcastStep_some he with ⟨rfl, hyv⟩ | ⟨rfl, rfl⟩
  · exact hxy
  · rcases hxu with rfl | rfl
    · exact huv
    · exact Nat.le_trans hxy huv
  · rcases hyv with rfl | rfl
    · exact huv
    · exact Nat.le_trans huv hxy
  · exact huv

theorem bcastStep_comm (x u : Nat) : bcastStep x u = bcastStep u x := by
  unfold bcastStep
  by_cases h : x = u
  · subst h; rfl
  · simp only [beq_false_of_ne h, beq_false_of_ne (Ne.symm h), Bool.false_or]
    cases hu : u == 1 <;> cases hx : x == 1 <;> try rfl
    exact absurd ((eq_of_beq hx).trans (eq_of_beq hu).symm) h

theorem refBroadcast_comm (a b : Shape) : refBroadcast a b = refBroadcast b a := by
  rw [refBroadcast_eq]; exact bcShape_comm bcastStep_comm a b

theorem refBroadcast_length {a b t : Shape} (h : refBroadcast a b = some t) : t.length = max a.length b.length :=
  bcShape_length (refBroadcast_eq ▸ h)

theorem refBroadcast_leAll {a va b vb t r : Shape} (ha : LeAll a va) (hb : LeAll b vb)
    (ht : refBroadcast a b = some t) (hr : refBroadcast va vb = some r) : LeAll t r := by
  rw [leAll_eq_leL] at *
  exact bcShape_mono bcastStep_mono (refBroadcast_eq ▸ ht) (refBroadcast_eq ▸ hr) ha hb

theorem refBroadcast_eq_left {a b t : Shape} (hgt : ∀ x ∈ a, 1 < x) (hl : b.length ≤ a.length)
    (h : refBroadcast a b = some t) : t = a :=
  bcShape_eq_left (1 < ·) (fun hd hx => by rcases bcastStep_some hd with ⟨rfl, _⟩ | ⟨_, rfl⟩ <;> omega)
    (refBroadcast_eq ▸ h) hgt hl

theorem refBroadcast_pos {a b t : Shape} (ha : Pos a) (hb : Pos b) (h : refBroadcast a b = some t) : Pos t :=
  bcShape_forall (0 < ·) (fun hd hx hu => by rcases bcastStep_some hd with ⟨rfl, _⟩ | ⟨rfl, _⟩ <;> assumption)
    (refBroadcast_eq ▸ h) ha hb

theorem refBroadcast_prod_le {a b t : Shape} (ha : Pos a) (hb : Pos b) (h : refBroadcast a b = some t) :
    prod t ≤ prod a * prod b := by
  rw [refBroadcast_eq] at h
  induction h using bcShape_ind with
  | left b => exact Nat.le_of_eq (Nat.one_mul _).symm
  | right a => exact Nat.le_of_eq (Nat.mul_one _).symm
  | @snoc x u d as bs r hd _ _ ih =>
    obtain ⟨has, hx⟩ := Shape.pos_append.mp ha
    obtain ⟨hbs, hu⟩ := Shape.pos_append.mp hb
    have hdle : d ≤ x * u := by
      rcases bcastStep_some hd with ⟨rfl, _⟩ | ⟨rfl, _⟩
      · exact Nat.le_mul_of_pos_right _ (hu u (List.mem_singleton_self u))
      · exact Nat.le_mul_of_pos_left _ (hx x (List.mem_singleton_self x))
    simp only [prod_append, prod, Nat.mul_one]
    exact Nat.le_trans (Nat.mul_le_mul (ih has hbs) hdle) (Nat.le_of_eq (Nat.mul_mul_mul_comm ..))

theorem refBroadcast_prod_one_left {a b t : Shape} (ha : prod a = 1) (h : refBroadcast a b = some t) : prod t = prod b := by
  rw [refBroadcast_eq] at h
  induction h using bcShape_ind with
  | left b => rfl
  | right a => exact ha
  | @snoc x u d as bs r hd _ _ ih =>
    simp only [prod_append, prod, Nat.mul_one] at ha ⊢
    have hdu : d = u := by
      rcases bcastStep_some hd with ⟨rfl, rfl | rfl⟩ | ⟨rfl, _⟩
      · rfl
      · exact Nat.eq_one_of_mul_eq_one_left ha
      · rfl
    rw [hdu, ih (Nat.eq_one_of_mul_eq_one_right ha)]

theorem refBroadcast_prod_one_right {a b t : Shape} (hb : prod b = 1) (h : refBroadcast a b = some t) : prod t = prod a :=
  refBroadcast_prod_one_left hb (refBroadcast_comm a b ▸ h)

/-! the `max` and `min` folds below are those of `bcastStaticArray` -/

theorem le_foldl_max (l : List Nat) (init : Nat) : init ≤ l.foldl max init ∧ ∀ x ∈ l, x ≤ l.foldl max init := by
  induction l generalizing init with
  | nil => exact ⟨Nat.le_refl _, fun _ hx => nomatch hx⟩
  | cons a as ih =>
    have ⟨h1, h2⟩ := ih (max init a)
    refine ⟨Nat.le_trans (Nat.le_max_left ..) h1, fun x hx => ?_⟩
    cases hx with
    | head => exact Nat.le_trans (Nat.le_max_right ..) h1
    | tail _ hx => exact h2 x hx

theorem foldl_min_eq_one (l : List Nat) (init : Nat) (hi : 1 ≤ init) (hp : Pos l) (h : init = 1 ∨ 1 ∈ l) :
    l.foldl min init = 1 := by
  induction l generalizing init with
  | nil => exact h.resolve_right (nomatch ·)
  | cons a as ih =>
    refine ih (min init a) (Nat.le_min.mpr ⟨hi, hp.head⟩) hp.tail ?_
    rcases h with rfl | h
    · exact .inl (Nat.min_eq_left hp.head)
    · cases h with
      | head => exact .inl (Nat.min_eq_right hi)
      | tail _ h => exact .inr h

theorem all_gt_one_of_min {l : List Nat} (hp : Pos l) (h : l.foldl min (l.headD 0) ≠ 1) : ∀ x ∈ l, 1 < x := by
  intro x hx
  refine Nat.lt_of_le_of_ne (hp x hx) fun h1 => h ?_
  cases l with
  | nil => nomatch hx
  | cons a t => exact foldl_min_eq_one _ _ hp.head hp (.inr (h1 ▸ hx))

theorem leAll_replicate {l : List Nat} {m : Nat} (h : ∀ x ∈ l, x ≤ m) : LeAll l (List.replicate l.length m) :=
  leAll_eq_leL ▸ replicate_LeL h

theorem concatAt_zero {x y : Nat} {as bs t : Shape} (h : concatAt 0 (x :: as) (y :: bs) = some t) :
    as = bs ∧ t = (x + y) :: as :=
  have ⟨he, ht⟩ := Option.ite_none_right_eq_some.mp h
  ⟨eq_of_beq he, (Option.some.inj ht).symm⟩

theorem concatAt_succ {k x y : Nat} {as bs t : Shape} (h : concatAt (k + 1) (x :: as) (y :: bs) = some t) :
    x = y ∧ ∃ r, concatAt k as bs = some r ∧ t = x :: r :=
  have ⟨he, ht⟩ := Option.ite_none_right_eq_some.mp h
  have ⟨r, hr, e⟩ := Option.map_eq_some_iff.mp ht
  ⟨eq_of_beq he, r, hr, e.symm⟩

theorem concatAt_spec {k : Nat} {a b t : Shape} (h : concatAt k a b = some t) :
    t.length = a.length ∧ t.length = b.length ∧ prod t = prod a + prod b := by
  fun_induction concatAt k a b generalizing t with
  | case1 x as y bs he => cases h; cases eq_of_beq he; exact ⟨rfl, rfl, Nat.add_mul ..⟩
  | case3 k x as y bs he ih =>
    obtain ⟨r, hr, rfl⟩ := Option.map_eq_some_iff.mp h
    obtain ⟨h1, h2, h3⟩ := ih hr
    cases eq_of_beq he
    exact ⟨congrArg Nat.succ h1, congrArg Nat.succ h2, (congrArg (x * ·) h3).trans (Nat.mul_add ..)⟩
  | case2 | case4 | case5 => cases h

theorem concatAt_leAll {k : Nat} {a va b vb t r : Shape} (ha : LeAll a va) (hb : LeAll b vb)
    (ht : concatAt k a b = some t) (hr : concatAt k va vb = some r) : LeAll t r := by
  induction ha using LeAll.ind generalizing k b vb t r with
  | nil => cases k <;> cases ht
  | cons hxy has ih =>
    cases hb using LeAll.ind with
    | nil => cases k <;> cases ht
    | cons huv hbs =>
      cases k with
      | zero =>
        obtain ⟨_, rfl⟩ := concatAt_zero ht
        obtain ⟨_, rfl⟩ := concatAt_zero hr
        exact ⟨Nat.add_le_add hxy huv, has⟩
      | succ k =>
        obtain ⟨_, t', ht', rfl⟩ := concatAt_succ ht
        obtain ⟨_, r', hr', rfl⟩ := concatAt_succ hr
        exact ⟨hxy, ih hbs ht' hr'⟩

theorem refConcat_spec {axis : Option Nat} {a b t : Shape} (h : refConcat axis a b = some t) :
    prod t = prod a + prod b ∧ (axis ≠ none → t.length = a.length ∧ t.length = b.length) ∧
    ∀ {va vb r : Shape}, LeAll a va → LeAll b vb → refConcat axis va vb = some r → LeAll t r := by
  cases axis with
  | none =>
    cases h
    exact ⟨by simp [prod], fun hne => absurd rfl hne,
      fun ha hb hr => by cases hr; exact ⟨Nat.add_le_add ha.prod_le hb.prod_le, trivial⟩⟩
  | some k =>
    have h := (Option.ite_none_right_eq_some.mp h).2
    obtain ⟨h1, h2, h3⟩ := concatAt_spec h
    exact ⟨h3, fun _ => ⟨h1, h2⟩, fun ha hb hr => concatAt_leAll ha hb h (Option.ite_none_right_eq_some.mp hr).2⟩

theorem leAll_bump' {t r : List Nat} (h : LeAll t r) : LeAll t (bump r) := by
  induction h using LeAll.ind with
  | nil => trivial
  | cons hxy _ ih =>
    refine ⟨?_, ih⟩
    show _ ≤ if _ then _ else _
    split
    · rename_i h0; exact Nat.le_trans (Nat.le_trans hxy (Nat.le_of_eq (eq_of_beq h0))) (Nat.zero_le 1)
    · exact hxy

theorem length_mulAt (a r : Nat) (s : Shape) : (mulAt a r s).length = s.length := by
  fun_induction mulAt a r s with
  | case1 | case2 => rfl
  | case3 _ _ _ _ ih => exact congrArg Nat.succ ih

theorem mulAt_leAll (a r : Nat) {s v : Shape} (h : LeAll s v) : LeAll (mulAt a r s) (mulAt a r v) := by
  induction h using LeAll.ind generalizing a with
  | nil => exact LeAll.refl _
  | cons hxy h ih =>
    cases a with
    | zero => exact ⟨Nat.mul_le_mul_right r hxy, h⟩
    | succ a => exact ⟨hxy, ih a⟩

theorem refRepeat_spec {r : Nat} {axis : Option Nat} {s t : Shape} (h : refRepeat r axis s = some t) :
    (axis = none → t.length = 1) ∧ (axis ≠ none → t.length = s.length) ∧
    ∀ {v t' : Shape}, LeAll s v → refRepeat r axis v = some t' → LeAll t t' := by
  cases axis with
  | none =>
    cases h
    exact ⟨fun _ => rfl, fun hne => absurd rfl hne, fun hl h' => by cases h'; exact ⟨Nat.mul_le_mul_right r hl.prod_le, trivial⟩⟩
  | some a =>
    cases (Option.ite_none_right_eq_some.mp h).2
    refine ⟨nofun, fun _ => length_mulAt a r s, fun hl h' => ?_⟩
    cases (Option.ite_none_right_eq_some.mp h').2
    exact mulAt_leAll a r hl

theorem length_padGo : ∀ (s b a : List Nat), s.length ≤ b.length → s.length ≤ a.length → (padGo s b a).length = s.length
  | [], _, _, _, _ => rfl
  | _ :: xs, _ :: bs, _ :: as, h1, h2 =>
      congrArg Nat.succ (length_padGo xs bs as (Nat.le_of_succ_le_succ h1) (Nat.le_of_succ_le_succ h2))
  | _ :: _, [], _, h, _ => absurd h (Nat.not_succ_le_zero _)
  | _ :: _, _ :: _, [], _, h => absurd h (Nat.not_succ_le_zero _)

theorem padGo_leAll {s v b b' a a' : List Nat} (h1 : LeAll s v) (h2 : LeAll b b') (h3 : LeAll a a') :
    LeAll (padGo s b a) (padGo v b' a') := by
  induction h1 using LeAll.ind generalizing b b' a a' with
  | nil => trivial
  | cons hxy _ ih =>
    cases h2 using LeAll.ind with
    | nil => trivial
    | cons hb h2 =>
      cases h3 using LeAll.ind with
      | nil => trivial
      | cons ha h3 => exact ⟨Nat.add_le_add (Nat.add_le_add hxy hb) ha, ih h2 h3⟩

theorem refPad_spec {w : List Nat} {s t : Shape} (h : refPad w s = some t) :
    t.length = s.length ∧ ∀ {m v t' : Shape}, LeAll s v → LeAll w m → refPad m v = some t' → LeAll t t' := by
  obtain ⟨hw, ⟨⟩⟩ := Option.ite_none_right_eq_some.mp h
  refine ⟨length_padGo _ _ _ ?_ ?_, fun hs hm h' => ?_⟩
  · rw [List.length_take, hw]; exact Nat.le_min.mpr ⟨Nat.le_refl _, Nat.le_mul_of_pos_left _ (by decide)⟩
  · rw [List.length_drop, hw, Nat.two_mul, Nat.add_sub_cancel]; exact Nat.le_refl _
  · cases (Option.ite_none_right_eq_some.mp h').2
    rw [hs.length_eq]
    exact padGo_leAll hs (hm.take _) (hm.drop _)

theorem refRoll_eq {axis : Option Nat} {s t : Shape} (h : refRoll axis s = some t) : t = s := by
  cases axis with
  | none => cases h; rfl
  | some a => exact (Option.some.inj (Option.ite_none_right_eq_some.mp h).2).symm

theorem numIdx_cons (e : SlE) (es : List SlE) : numIdx (e :: es) = numIdx es + if e.isIdx then 1 else 0 :=
  List.countP_cons ..

theorem sliceGo_length (nEll : Nat) (es : List SlE) {sh t : Shape} (h : sliceGo nEll sh es = some t) :
    t.length + numIdx es = sh.length := by
  fun_induction sliceGo nEll sh es generalizing t with
  | case1 => cases h; rfl
  | case2 sh es hle ih =>
    obtain ⟨t', ht', rfl⟩ := Option.map_eq_some_iff.mp h
    have := ih ht'
    rw [List.length_drop] at this
    rw [numIdx_cons, List.length_append, List.length_take, Nat.min_eq_left hle]
    exact (Nat.add_assoc ..).trans ((congrArg (nEll + ·) this).trans (Nat.add_sub_of_le hle))
  | case5 n sh a b es ih =>
    obtain ⟨t', ht', rfl⟩ := Option.map_eq_some_iff.mp h
    rw [numIdx_cons]
    exact (Nat.succ_add ..).trans (congrArg Nat.succ (ih ht'))
  | case6 n sh k es _ ih => rw [numIdx_cons]; exact congrArg Nat.succ (ih h)
  | case3 | case4 | case7 => cases h

theorem refSlice_length {es : List SlE} {s t : Shape} (h : refSlice es s = some t) : t.length + numIdx es = s.length :=
  sliceGo_length _ es (Option.ite_none_left_eq_some.mp h).2

theorem refTake_spec {n axis : Nat} {s t : Shape} (h : refTake n axis s = some t) : t = s.set axis n :=
  (Option.some.inj (Option.ite_none_right_eq_some.mp h).2).symm

theorem prod_refFlatten (s : Shape) : prod (refFlatten s) = prod s := Nat.mul_one _

theorem prod_refAtleastNd (nd : Nat) (s : Shape) : prod (refAtleastNd nd s) = prod s := by
  simp [refAtleastNd, prod_append, Shape.prod_replicate_one]

theorem length_refAtleastNd (nd : Nat) (s : Shape) : (refAtleastNd nd s).length = max s.length nd := by
  rw [refAtleastNd, List.length_append, List.length_replicate, Nat.sub_add_eq_max, Nat.max_comm]

theorem splitLast2_spec {s b : Shape} {m n : Nat} (h : splitLast2 s = some (b, m, n)) : s = b ++ [m, n] := by
  revert h
  fun_cases splitLast2 s with
  | case1 n m rest hrev => rintro ⟨⟩; simpa using List.reverse_eq_iff.mp hrev
  | case2 => exact nofun

theorem refMatmul_spec {a b t : Shape} (ha : Pos a) (hb : Pos b) (h : refMatmul a b = some t) :
    t.length = max a.length b.length ∧ prod t ≤ prod a * prod b := by
  revert h
  fun_cases refMatmul a b with
  | case1 ba m bb k n h2 h1 =>
    intro h
    obtain ⟨r, hr, rfl⟩ := Option.map_eq_some_iff.mp h
    cases splitLast2_spec h1
    cases splitLast2_spec h2
    have hle := refBroadcast_prod_le (Shape.pos_append.mp ha).1 (Shape.pos_append.mp hb).1 hr
    have hk : 0 < k := (Shape.pos_append.mp ha).2 k (List.mem_cons_of_mem _ List.mem_cons_self)
    refine ⟨?_, ?_⟩
    · simp only [List.length_append, refBroadcast_length hr]; exact (Nat.add_max_add_right ..).symm
    simp only [prod_append, prod, Nat.mul_one]
    have hmn : m * n ≤ (m * k) * (k * n) := by
      rw [Nat.mul_comm k n, Nat.mul_mul_mul_comm]
      exact Nat.le_mul_of_pos_right _ (Nat.mul_pos hk hk)
    exact Nat.le_trans (Nat.mul_le_mul hle hmn) (Nat.le_of_eq (Nat.mul_mul_mul_comm ..))
  | case2 | case3 => exact nofun

theorem length_refTril : ∀ (s : Shape), (refTril s).length = trilLen s.length
  | [] | [_] => rfl
  | _ :: _ :: _ => (if_neg fun h => Nat.succ_ne_zero _ (Nat.succ.inj h)).symm

theorem trilLen_le {n b : Nat} (h : n ≤ b) : trilLen n ≤ trilLen b := by
  unfold trilLen
  split
  · split
    · exact Nat.le_refl _
    · rename_i h1 hb; subst h1; exact Nat.lt_of_le_of_ne h (Ne.symm hb)
  · split
    · rename_i hb; subst hb; exact Nat.le_succ_of_le h
    · exact h

theorem poolDim_some {ceil : Bool} {h k s p : Nat} (hp : poolDim ceil h k s = some p) :
    0 < s ∧ k ≤ h ∧ p = if ceil then (if 1 ≤ (h - k + s - 1) / s ∧ h ≤ (h - k + s - 1) / s * s then (h - k + s - 1) / s
      else (h - k + s - 1) / s + 1) else (h - k) / s + 1 := by
  obtain ⟨hg, hp⟩ := Option.ite_none_left_eq_some.mp hp
  refine ⟨Nat.pos_of_ne_zero fun h0 => hg (.inr (.inl h0)), Nat.le_of_not_lt fun hlt => hg (.inr (.inr hlt)), ?_⟩
  cases ceil <;> exact (Option.some.inj hp).symm

/-- the `if` is the ceil-mode value of `poolDim`, `c` its quotient -/
theorem ceilDim_mono {c c' s h h' : Nat} (hc : c ≤ c') (hh : h ≤ h') :
    (if 1 ≤ c ∧ h ≤ c * s then c else c + 1) ≤ (if 1 ≤ c' ∧ h' ≤ c' * s then c' else c' + 1) := by
  split
  · split
    · exact hc
    · exact Nat.le_succ_of_le hc
  · rename_i hn
    split
    · rename_i hp
      rcases Nat.lt_or_eq_of_le hc with hlt | rfl
      · exact hlt
      · exact absurd ⟨hp.1, Nat.le_trans hh hp.2⟩ hn
    · exact Nat.succ_le_succ hc

theorem poolDim_mono {ceil : Bool} {h h' k s p p' : Nat} (hle : h ≤ h')
    (hp : poolDim ceil h k s = some p) (hp' : poolDim ceil h' k s = some p') : p ≤ p' := by
  obtain ⟨_, _, rfl⟩ := poolDim_some hp
  obtain ⟨_, _, rfl⟩ := poolDim_some hp'
  have hsub : h - k ≤ h' - k := Nat.sub_le_sub_right hle k
  cases ceil
  · exact Nat.succ_le_succ (Nat.div_le_div_right hsub)
  · exact ceilDim_mono (Nat.div_le_div_right (Nat.sub_le_sub_right (Nat.add_le_add_right hsub s) 1)) hle

theorem poolDim_pos {ceil : Bool} {h k s p : Nat} (hp : poolDim ceil h k s = some p) : 0 < p := by
  obtain ⟨_, _, rfl⟩ := poolDim_some hp
  cases ceil
  · exact Nat.succ_pos _
  · simp only [if_true]
    split
    · rename_i hc; exact hc.1
    · exact Nat.succ_pos _

theorem refPool_spec {ceil : Bool} {kv sv : List Nat} {s t : Shape} (h : refPool ceil kv sv s = some t) :
    t.length = s.length ∧ ∀ {v t' : Shape}, LeAll s v → refPool ceil kv sv v = some t' → LeAll t t' := by
  revert h
  fun_cases refPool ceil kv sv s with
  | case1 w hh rest kh kw sh sw hrev ph pw hpw hph =>
    rintro ⟨⟩
    refine ⟨by rw [List.length_reverse, ← List.length_reverse (as := s), hrev]; rfl, fun {v t'} hl h' => ?_⟩
    have hr := hl.reverse
    rw [hrev] at hr
    match hv : v.reverse, hr with
    | w' :: hh' :: rest', ⟨hw, hh2, hrest⟩ =>
      simp only [refPool, hv] at h'
      split at h' <;> cases h'
      rename_i ph' pw' hph' hpw'
      exact LeAll.reverse (a := pw :: ph :: rest) ⟨poolDim_mono hw hpw hpw', poolDim_mono hh2 hph hph', hrest⟩
  | case2 | case3 => exact nofun

theorem refResize_spec {t s r : Shape} (h : refResize t s = some r) : r = t :=
  (Option.some.inj (Option.ite_none_right_eq_some.mp h).2).symm

theorem length_swSub (s ws : List Nat) (h : fitsAll s ws = true) : (swSub s ws).length = s.length := by
  fun_induction fitsAll s ws with
  | case1 _ _ _ _ ih => exact congrArg Nat.succ (ih (Bool.and_eq_true_iff.mp h).2)
  | case2 => rfl
  | case3 => cases h

/-- the rank a window value adds to the shape -/
def WinV.len : WinV → Nat
  | .num _ => 1
  | .arr ws => ws.length

theorem refSlidingWindow_length {wv : WinV} {axis : Option Nat} {s t : Shape}
    (h : refSlidingWindow wv axis s = some t) : t.length = s.length + wv.len := by
  revert h
  fun_cases refSlidingWindow wv axis s with
  | case1 => rintro ⟨⟩; rw [List.length_append, List.length_set]; rfl
  | case4 _ hf => rintro ⟨⟩; rw [List.length_append, length_swSub _ _ hf]; rfl
  | case2 | case3 | case5 | case6 => exact nofun

theorem countNZ_le_of_fits {c : List Nat} {n : Nat} (h : condFits c n = true) : countNZ c ≤ n := by
  have h0 : countNZ (c.drop n) = 0 :=
    List.countP_eq_zero.mpr fun x hx hne => of_decide_eq_true hne (eq_of_beq (List.all_eq_true.mp h x hx))
  have hsplit : countNZ c = countNZ (c.take n) + countNZ (c.drop n) := by
    unfold countNZ
    rw [← List.countP_append, List.take_append_drop]
  rw [hsplit, h0]
  exact Nat.le_trans List.countP_le_length (List.length_take_le n c)

theorem refCompress_none {c : List Nat} {s t : Shape} (h : refCompress c none s = some t) :
    condFits c (prod s) = true ∧ t = [countNZ c] :=
  have ⟨hg, hr⟩ := Option.ite_none_right_eq_some.mp h
  ⟨hg, (Option.some.inj hr).symm⟩

theorem refCompress_axis {c : List Nat} {a : Nat} {s t : Shape} (h : refCompress c (some a) s = some t) :
    ∃ n, s[a]? = some n ∧ condFits c n = true ∧ t = s.set a (countNZ c) := by
  simp only [refCompress] at h
  split at h
  · split at h <;> cases h
    exact ⟨_, ‹_›, ‹_›, rfl⟩
  · cases h

/-- the fourth part is what lets `keepClipped` keep a clipped shape type: along an axis the result stays under the SOURCE's maxima -/
theorem refCompress_spec {c : List Nat} {axis : Option Nat} {s t : Shape} (h : refCompress c axis s = some t) :
    prod t ≤ prod s ∧ (axis = none → t.length = 1) ∧ (axis ≠ none → t.length = s.length) ∧
    (∀ b, axis ≠ none → LeAll s b → LeAll t b) ∧
    ∀ {v t' : Shape}, LeAll s v → refCompress c axis v = some t' → LeAll t t' := by
  cases axis with
  | none =>
    obtain ⟨hc, rfl⟩ := refCompress_none h
    exact ⟨Nat.le_trans (Nat.le_of_eq (Nat.mul_one _)) (countNZ_le_of_fits hc), fun _ => rfl, fun hne => absurd rfl hne,
      fun _ hne => absurd rfl hne, fun _ h' => (refCompress_none h').2 ▸ LeAll.refl _⟩
  | some a =>
    obtain ⟨n, hn, hc, rfl⟩ := refCompress_axis h
    have hcn : countNZ c ≤ n := countNZ_le_of_fits hc
    refine ⟨prod_set_le s a n _ hn hcn, (fun h0 => nomatch h0), fun _ => List.length_set,
      fun b _ hl => leAll_set_le a n _ hl hn hcn, fun hl h' => ?_⟩
    obtain ⟨_, _, _, rfl⟩ := refCompress_axis h'
    exact LeAll.set a _ hl

end NmVerif.Static
