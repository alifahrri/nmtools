import NmVerif.Functional
/-
  `applyFn` and a step of the stack machine `run` by comparing the operand count with the arity; then, by mutual
  induction over view trees, what `compile` and `operandsOf` extract.
-/
namespace NmVerif.Functional

variable {A V : Type}

@[simp] theorem Fn.bind_nil (g : Fn A V) : g.bind [] = g := by
  cases g; simp [Fn.bind]

theorem Fn.bind_bind (g : Fn A V) (xs ys : List V) : (g.bind xs).bind ys = g.bind (xs ++ ys) := by
  simp [Fn.bind, List.append_assoc]

theorem Fn.arity_bind (g : Fn A V) (xs : List V) : (g.bind xs).arity = g.arity - xs.length := by
  simp only [Fn.arity, Fn.bind, List.length_append]; omega

theorem Fn.call_bind (g : Fn A V) (xs zs : List V) : (g.bind xs).call zs = g.call (xs ++ zs) := by
  simp [Fn.call, Fn.bind, List.append_assoc]

theorem applyFn_lt (g : Fn A V) (xs : List V) (h : xs.length < g.arity) : applyFn g xs = .curried (g.bind xs) := by
  unfold applyFn
  by_cases h0 : xs.length = 0
  · rw [if_pos h0, if_neg (Nat.ne_of_gt (h0 ▸ h)), List.eq_nil_of_length_eq_zero h0, Fn.bind_nil]
  · rw [if_neg h0, if_neg (Nat.lt_asymm h), if_pos h]

theorem applyFn_ge (g : Fn A V) (xs : List V) (h : g.arity ≤ xs.length) :
    applyFn g xs = .values (g.call (xs.take g.arity) ++ xs.drop g.arity) := by
  unfold applyFn
  by_cases h0 : xs.length = 0
  · rw [if_pos h0, if_pos (Nat.le_zero.mp (h0 ▸ h)), List.eq_nil_of_length_eq_zero h0, List.take_nil, List.drop_nil,
      List.append_nil]
  · rw [if_neg h0]
    by_cases h1 : g.arity < xs.length
    · rw [if_pos h1]
    · rw [if_neg h1, if_neg (Nat.not_lt.mpr h), ← Nat.le_antisymm (Nat.le_of_not_lt h1) h, List.take_length,
        List.drop_length, List.append_nil]

theorem applyFn_eq (g : Fn A V) (xs : List V) (h : xs.length = g.arity) : applyFn g xs = .values (g.call xs) := by
  rw [applyFn_ge g xs (Nat.le_of_eq h.symm), ← h, List.take_length, List.drop_length, List.append_nil]

theorem run_step (g : Fn A V) (rest : List (Fn A V)) (ops : List V) (h : g.arity ≤ ops.length) :
    run (g :: rest) ops = run rest (g.call (ops.take g.arity) ++ ops.drop g.arity) := by
  simp [run, h]

theorem run_step_append (g : Fn A V) (rest : List (Fn A V)) (xs ys : List V) (h : xs.length = g.arity) :
    run (g :: rest) (xs ++ ys) = run rest (g.call xs ++ ys) := by
  rw [run_step g rest _ (by simp [← h]), ← h, List.take_left, List.drop_left]

theorem View.dispatch_compile (v : View A V) : v.dispatch v.compile = v.compile := by
  cases v <;> simp [View.dispatch, View.isAlias, View.isView, View.compile]

theorem View.isLeaf_spec (v : View A V) : v.isLeaf = true →
    v.compile = [] ∧ (∀ env : Nat → V, [v.denote env] = v.operandsOf.map env) ∧ v.operandsOf.length = 1 ∧
      v.wellFormed = true := by
  fun_cases View.isLeaf v
  iterate 3 exact fun _ => ⟨rfl, fun _ => rfl, rfl, rfl⟩
  nofun

theorem Args.allLeaves_spec (r : Args A V) : r.allLeaves = true →
    Args.compileRev r = [] ∧ (∀ env : Nat → V, Args.denote env r = (Args.operandsOf r).map env) ∧
      (Args.operandsOf r).length = r.length ∧ r.wellFormed = true := by
  fun_induction Args.allLeaves r with
  | case1 => exact fun _ => ⟨rfl, fun _ => rfl, rfl, rfl⟩
  | case2 v rest ih =>
      rw [Bool.and_eq_true]
      rintro ⟨hv, hr⟩
      obtain ⟨c, d, l, w⟩ := View.isLeaf_spec v hv
      obtain ⟨c', d', l', w'⟩ := ih hr
      refine ⟨?_, fun env => ?_, ?_, ?_⟩
      · rw [Args.compileRev, View.dispatch_compile, c, c']; rfl
      · rw [Args.denote, Args.operandsOf, List.map_append, ← d env, d' env]; rfl
      · rw [Args.operandsOf, List.length_append, l, l', Args.length]
      · rw [Args.wellFormed, w, w']; rfl

theorem Args.denote_length (env : Nat → V) (r : Args A V) : (Args.denote env r).length = r.length := by
  fun_induction Args.length r with
  | case1 => rfl
  | case2 _ rest ih => rw [Args.denote, List.length_cons, ih, Nat.add_comm]

mutual
/-- frame property: running the code of a left-linear view on its leaves, in front of any other operands and before any
    other code, leaves the view's value in front of those operands -/
theorem View.run_compile (env : Nat → V) : ∀ (v : View A V) (K : List (Fn A V)) (rest : List V),
    v.leftLinear = true →
    run (v.compile.reverse ++ K) (v.operandsOf.map env ++ rest) = run K (v.denote env :: rest)
  | .leaf _ | .alias _ | .lit _ => fun _ _ _ => rfl
  | .node f ats args | .snode f ats args => fun K rest h => by
      simp only [View.leftLinear, Bool.and_eq_true, beq_iff_eq] at h
      simp only [View.compile, View.operandsOf, View.denote, List.reverse_cons, List.append_assoc]
      rw [Args.run_compile env args _ rest h.2, List.singleton_append,
        run_step_append ⟨f.toFunctor, ats, []⟩ K _ rest ((Args.denote_length env args).trans h.1)]
      rfl
theorem Args.run_compile (env : Nat → V) : ∀ (args : Args A V) (K : List (Fn A V)) (rest : List V),
    args.leftLinear = true →
    run ((Args.compileRev args).reverse ++ K) ((Args.operandsOf args).map env ++ rest) = run K (Args.denote env args ++ rest)
  | .nil => fun _ _ _ => rfl
  | .cons v r => fun K rest h => by
      simp only [Args.leftLinear, Bool.and_eq_true] at h
      have ih := View.run_compile env v K ((Args.operandsOf r).map env ++ rest) h.1
      obtain ⟨hcode, hdenote, -, -⟩ := Args.allLeaves_spec r h.2
      simp only [Args.compileRev, View.dispatch_compile, hcode, List.nil_append, Args.operandsOf,
        List.map_append, List.append_assoc, Args.denote, hdenote env, List.cons_append]
      exact ih
end

mutual
theorem View.leavesAcc_eq : ∀ (v : View A V) (acc : List Nat), v.leavesAcc acc = v.operandsOf ++ acc
  | .leaf _ | .alias _ | .lit _ => fun _ => rfl
  | .node _ _ args | .snode _ _ args => fun acc => by simp [View.leavesAcc, View.operandsOf, Args.leavesAcc_eq args acc]
theorem Args.leavesAcc_eq : ∀ (a : Args A V) (acc : List Nat), a.leavesAcc acc = a.operandsOf ++ acc
  | .nil => fun _ => rfl
  | .cons v r => fun acc => by
      simp [Args.leavesAcc, Args.operandsOf, View.leavesAcc_eq v, Args.leavesAcc_eq r acc, List.append_assoc]
end

/-- Σ arity_i in `Nat`; `Comp.arity` is this minus `length - 1`, in `Int` (`Comp.arity_eq`) -/
def sumArity (fs : List (Fn A V)) : Nat := (fs.map Fn.arity).sum

theorem sumArity_append (xs ys : List (Fn A V)) : sumArity (xs ++ ys) = sumArity xs + sumArity ys := by
  simp [sumArity]

theorem Comp.arity_eq (fs : List (Fn A V)) (held : List V) :
    Comp.arity ⟨fs, held⟩ = (sumArity fs : Int) - ((fs.length : Int) - 1) := by
  have h : ∀ l : List (Fn A V), ((l.map (fun g => (g.arity : Int))).sum) = ((sumArity l : Nat) : Int) := by
    intro l
    induction l with
    | nil => simp [sumArity]
    | cons g t ih => simp only [List.map_cons, List.sum_cons, sumArity] at ih ⊢; rw [ih]; omega
  simp [Comp.arity, h]

theorem allLeaves_length : ∀ (r : Args A V), r.allLeaves = true → (Args.operandsOf r).length = r.length :=
  fun r h => let ⟨_, _, hlen, _⟩ := Args.allLeaves_spec r h; hlen

mutual
/-- every functor but the outermost hands one result to its parent -/
theorem View.sumArity_compile : ∀ (v : View A V), v.wellFormed = true →
    sumArity v.compile + 1 = v.operandsOf.length + v.compile.length
  | .leaf _ | .alias _ | .lit _ => fun _ => rfl
  | .node f ats args | .snode f ats args => fun h => by
      simp only [View.wellFormed, Bool.and_eq_true, beq_iff_eq] at h
      have ih := Args.sumArity_compileRev args h.2
      have hc : sumArity (⟨f.toFunctor, ats, []⟩ :: Args.compileRev args) = f.arity + sumArity (Args.compileRev args) := rfl
      simp only [View.compile, View.operandsOf, List.length_cons, hc]
      omega
theorem Args.sumArity_compileRev : ∀ (a : Args A V), a.wellFormed = true →
    sumArity (Args.compileRev a) + a.length = (Args.operandsOf a).length + (Args.compileRev a).length
  | .nil => fun _ => rfl
  | .cons v r => fun h => by
      simp only [Args.wellFormed, Bool.and_eq_true] at h
      have ih1 := View.sumArity_compile v h.1
      have ih2 := Args.sumArity_compileRev r h.2
      simp only [Args.compileRev, View.dispatch_compile, Args.operandsOf, Args.length, sumArity_append, List.length_append]
      omega
end

mutual
theorem View.leftLinear_wellFormed : ∀ (v : View A V), v.leftLinear = true → v.wellFormed = true
  | .leaf _ | .alias _ | .lit _ => fun _ => rfl
  | .node f ats args | .snode f ats args => fun h => by
      simp only [View.leftLinear, View.wellFormed, Bool.and_eq_true, beq_iff_eq] at h ⊢
      exact ⟨h.1, Args.leftLinear_wellFormed args h.2⟩
theorem Args.leftLinear_wellFormed : ∀ (a : Args A V), a.leftLinear = true → a.wellFormed = true
  | .nil => fun _ => rfl
  | .cons v r => fun h => by
      simp only [Args.leftLinear, Args.wellFormed, Bool.and_eq_true] at h ⊢
      obtain ⟨-, -, -, hwf⟩ := Args.allLeaves_spec r h.2
      exact ⟨View.leftLinear_wellFormed v h.1, hwf⟩
end

mutual
theorem View.compile_length : ∀ (v : View A V), v.compile.length = v.nOps
  | .leaf _ | .alias _ | .lit _ => rfl
  | .node f ats args | .snode f ats args => by
      simp only [View.compile, View.nOps, List.length_cons, Args.compileRev_length args]; omega
theorem Args.compileRev_length : ∀ (a : Args A V), (Args.compileRev a).length = a.nOps
  | .nil => rfl
  | .cons v r => by
      simp only [Args.compileRev, View.dispatch_compile, List.length_append, Args.nOps, View.compile_length v,
        Args.compileRev_length r]; omega
end

mutual
theorem View.compile_reverse : ∀ (v : View A V), v.compile.reverse = v.opsPost.map VFun.bindAttrs
  | .leaf _ | .alias _ | .lit _ => rfl
  | .node f ats args | .snode f ats args => by
      simp only [View.compile, View.opsPost, List.reverse_cons, Args.compileRev_reverse args, List.map_append,
        List.map_cons, List.map_nil, VFun.bindAttrs]
theorem Args.compileRev_reverse : ∀ (a : Args A V), (Args.compileRev a).reverse = a.opsPost.map VFun.bindAttrs
  | .nil => rfl
  | .cons v r => by
      simp only [Args.compileRev, View.dispatch_compile, List.reverse_append, Args.opsPost, List.map_append,
        View.compile_reverse v, Args.compileRev_reverse r]
end

end NmVerif.Functional
