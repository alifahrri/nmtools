import NmVerif.Containers.NDArrayObj
import NmVerif.Lemmas.Addressing
import NmVerif.Arr
/-
  The array-object state machine (C20): the invariant `ObjInv` under construction, resize, write and fill; addressing
  inside the buffer; the cast loop and the element conversion; writes through indexing views.
-/
namespace NmVerif.NDObj
open NmVerif

theorem resizeBuf_length (d : List Int) (n : Nat) : (resizeBuf d n).length = n := by
  simp [resizeBuf]

/-- the two `match`es of `accepts` (the validation block of `resize`) under names of their own; `accepts_eq` is the bridge -/
def shapeAccepts (sk : ShapeKind) (dim : Nat) (new : List Nat) : Bool :=
  match sk with
  | .dyn => true
  | .fixedDim _ => dim == new.length
  | .bounded cap => new.length ≤ cap
  | .clipped ms => new.length == ms.length && prod new ≤ prod ms && (List.zipWith (fun a b => decide (a ≤ b)) new ms).all id
  | .const _ => false

def bufAccepts (bk : BufKind) (size n : Nat) : Bool :=
  match bk with
  | .dyn => true
  | .fixed _ => size == n
  | .bounded cap => n ≤ cap

theorem accepts_eq (c : Cfg) (st : St) (new : List Nat) :
    accepts c st new = (shapeAccepts c.sk st.shape.length new && bufAccepts c.bk st.data.length (prod new)) := rfl

/-- the part of the invariant that depends on the kind only: rank against the shape kind, count against the buffer kind -/
def KindOk (c : Cfg) (st : St) : Prop :=
  (match c.sk with | .fixedDim k => st.shape.length = k | .bounded cap => st.shape.length ≤ cap | .clipped ms => st.shape.length = ms.length | .dyn => True | .const s => st.shape = s) ∧
  (match c.bk with | .fixed n => st.data.length = n | .bounded cap => st.data.length ≤ cap | .dyn => True)

/-- an accepted resize establishes the invariant from the kind part of the old state alone (the state is the one `resize`
    builds: spelt out, so that it fits the goal `fun_cases resize` leaves) -/
theorem resize_accepted_objInv (c : Cfg) (st : St) (new : List Nat) (hacc : accepts c st new = true)
    (hk : KindOk c st) : ObjInv c ⟨new, stridesOf c.colMajor new, resizeBuf st.data (prod new)⟩ := by
  obtain ⟨sk, bk, cm⟩ := c
  obtain ⟨hk, hb⟩ := hk
  rw [accepts_eq, Bool.and_eq_true] at hacc
  refine ⟨resizeBuf_length _ _, rfl, ?_, ?_⟩
  -- a fixed dimension / a fixed buffer was tested against the OLD state, hence `hk` / `hb`
  · cases sk <;> simp only [shapeAccepts, beq_iff_eq, decide_eq_true_eq, Bool.and_eq_true, Bool.false_eq_true, false_and] at hacc hk ⊢ <;> omega
  · cases bk <;> simp only [bufAccepts, beq_iff_eq, decide_eq_true_eq, resizeBuf_length] at hacc hb ⊢ <;> omega

/-- the default state has the kind part for every sane configuration (`DefaultOk` is only about the element count) -/
theorem init_kindOk (c : Cfg) (h : CfgOk c) : KindOk c (init c) := by
  obtain ⟨sk, bk, cm⟩ := c
  obtain ⟨hs, hb, hx⟩ := h
  refine ⟨?_, ?_⟩
  · cases sk <;> simp only [init, List.length_append, List.length_replicate, List.length_cons, List.length_nil] at hs ⊢ <;>
      first | exact hs | exact Nat.sub_add_cancel hs
  · cases bk with
    | dyn => trivial
    | fixed n => exact List.length_replicate
    | bounded cap =>
      cases sk <;> simp only [init, List.length_replicate, prod_append, Shape.prod_replicate_one, prod, Nat.mul_one, Nat.one_mul] at hb hx ⊢
      -- the default state has one element (`hb : 0 < cap`), at most one when clipped, `prod s` when constant
      case dyn => exact hb
      case fixedDim => exact hb
      case bounded => exact hb
      case clipped ms => cases ms.getLast? <;> simp only <;> omega
      case const s => exact hx

theorem init_objInv (c : Cfg) (h : CfgOk c) (hx' : DefaultOk c) : ObjInv c (init c) := by
  refine ⟨?_, rfl, init_kindOk c h⟩
  obtain ⟨sk, bk, cm⟩ := c
  obtain ⟨-, -, hx⟩ := h
  -- a resizable buffer is sized to the shape by construction; a fixed one has to match it
  cases bk with
  | fixed n =>
    cases sk <;> simp only [init, DefaultOk, List.length_replicate, prod_append, Shape.prod_replicate_one, prod, Nat.mul_one, Nat.one_mul] at hx hx' ⊢
    case clipped ms =>   -- the last extent is `min n (last maximum)`: `DefaultOk` says the minimum is `n`
      cases hl : ms.getLast? <;> simp only [hl] at hx' ⊢
      omega
    case const s => exact hx
  | _ => exact List.length_replicate

theorem objInv_congr {c : Cfg} {st st' : St} (hs : st'.shape = st.shape) (hst : st'.strides = st.strides)
    (hd : st'.data.length = st.data.length) (hi : ObjInv c st) : ObjInv c st' := by
  unfold ObjInv at *
  rw [hs, hst, hd]
  exact hi

theorem write_objInv (c : Cfg) (st : St) (i : Idx) (v : Int) (hi : ObjInv c st) : ObjInv c (write st i v) :=
  objInv_congr (st := st) rfl rfl List.length_set hi

theorem fill_objInv (c : Cfg) (st : St) (b : Int) (hi : ObjInv c st) : ObjInv c (fill st b) :=
  objInv_congr (st := st) rfl rfl (by rw [fill, List.length_map, List.length_range]) hi

theorem offset_in_buffer (c : Cfg) (st : St) (hi : ObjInv c st) {i : Idx} (hI : InShape i st.shape) :
    computeOffset i st.strides < st.data.length := by
  obtain ⟨hlen, hstr, _, _⟩ := hi
  rw [hstr, hlen]; exact Shape.layoutOffset_lt _ hI

theorem cells_distinct (c : Cfg) (st : St) (hi : ObjInv c st) {i j : Idx} (hI : InShape i st.shape) (hJ : InShape j st.shape)
    (hne : i ≠ j) : computeOffset i st.strides ≠ computeOffset j st.strides := by
  obtain ⟨_, hstr, _, _⟩ := hi
  rw [hstr]
  exact fun h => hne (Shape.layoutOffset_inj _ hI hJ h)

theorem read_write (c : Cfg) (st : St) (hi : ObjInv c st) (i j : Idx) (hI : InShape i st.shape) (hJ : InShape j st.shape) (v : Int) :
    read? (write st i v) j = if i = j then some v else read? st j := by
  by_cases hij : i = j
  · rw [if_pos hij, ← hij]; exact List.getElem?_set_self (offset_in_buffer c st hi hI)
  · rw [if_neg hij]; exact List.getElem?_set_ne (cells_distinct c st hi hI hJ hij)

theorem read_isSome (c : Cfg) (st : St) (hi : ObjInv c st) {i : Idx} (hI : InShape i st.shape) : ∃ v, read? st i = some v :=
  ⟨_, List.getElem?_eq_getElem (offset_in_buffer c st hi hI)⟩

theorem write_shape (st : St) (i : Idx) (v : Int) : (write st i v).shape = st.shape := rfl

/-- after `k` iterations the destination still has its shape and invariant (whatever the destination kind, even when
    its resize was refused, the loop terminates normally); when it has the source's shape, the first `k` logical
    elements (row-major rank) hold the converted source elements and the others are untouched -/
theorem castLoop_spec (cs cd : Cfg) (conv : Int → Int) (src r0 : St) (hs : ObjInv cs src) (hr : ObjInv cd r0)
    (k : Nat) (hk : k ≤ prod src.shape) :
    ∃ r, (List.range k).foldl (castStep conv src) (some r0) = some r ∧ r.shape = r0.shape ∧ ObjInv cd r ∧
      (r0.shape = src.shape → ∀ idx, InShape idx src.shape →
        read? r idx = if computeOffset idx (strides src.shape) < k then (read? src idx).map conv else read? r0 idx) := by
  induction k with
  | zero => exact ⟨r0, rfl, rfl, hr, fun _ idx _ => by simp⟩
  | succ k ih =>
    obtain ⟨r, hf, hrs, hri, hrd⟩ := ih (Nat.le_of_succ_le hk)
    have hklt : k < prod src.shape := hk
    have hsi : InShape (ndindex src.shape k) src.shape := indices_inShape (Shape.prod_pos_iff.1 (Nat.zero_lt_of_lt hklt)) k
    obtain ⟨v, hv⟩ := read_isSome cs src hs hsi
    refine ⟨write r (ndindex r.shape k) (conv v), ?_, hrs, write_objInv _ _ _ _ hri, fun hsh idx hI => ?_⟩
    · rw [List.range_succ, List.foldl_append, hf]
      simp [castStep, hv]
    · have hrs' : r.shape = src.shape := hrs.trans hsh
      rw [hrs', read_write cd r hri _ _ (hrs' ▸ hsi) (hrs' ▸ hI)]
      by_cases he : ndindex src.shape k = idx
      · have ho := (Shape.ndindex_eq_iff hklt hI).1 he
        rw [if_pos he, ho, if_pos (Nat.lt_succ_self k), ← he, hv]; rfl
      · have ho : computeOffset idx (strides src.shape) ≠ k := fun h => he ((Shape.ndindex_eq_iff hklt hI).2 h)
        rw [if_neg he, hrd hsh idx hI]
        by_cases hlt : computeOffset idx (strides src.shape) < k
        · rw [if_pos hlt, if_pos (Nat.lt_succ_of_lt hlt)]
        · rw [if_neg hlt, if_neg fun h => hlt (Nat.lt_of_le_of_ne (Nat.le_of_lt_succ h) ho)]

/-- the freshly constructed destination of a cast, after its resize, has the requested shape and satisfies the
    invariant when the kind fits -/
theorem castRet_objInv (cd : Cfg) (hd : CfgOk cd) (s : List Nat) (h : castFits cd s = true) :
    ObjInv cd (resize cd (init cd) s).1 ∧ (resize cd (init cd) s).1.shape = s := by
  fun_cases resize cd (init cd) s with
  | case1 ha => exact ⟨resize_accepted_objInv _ _ _ ha (init_kindOk cd hd), rfl⟩
  | case2 ha =>   -- refused: only a constant shape equal to `s` fits, and the default state has it
    simp only [castFits, ha, Bool.false_or] at h
    obtain ⟨sk, bk, cm⟩ := cd
    cases sk with
    | const s' => exact ⟨init_objInv _ hd (by cases bk <;> trivial), of_decide_eq_true h⟩
    | _ => cases h

/-- what `wrapSigned` does, with `m = 2^(bits-1)` -/
theorem wrap_spec (m v : Int) (hm : 0 < m) :
    -m ≤ (v + m) % (2 * m) - m ∧ (v + m) % (2 * m) - m < m ∧ ((v + m) % (2 * m) - m - v) % (2 * m) = 0 ∧
    (-m ≤ v → v < m → (v + m) % (2 * m) - m = v) := by
  have hM : 0 < 2 * m := by omega
  have h0 := Int.emod_nonneg (v + m) (Int.ne_of_gt hM)
  have h1 := Int.emod_lt_of_pos (v + m) hM
  refine ⟨by omega, by omega, ?_, fun h2 h3 => ?_⟩
  · rw [Int.sub_sub, Int.add_comm m v]
    exact Int.emod_eq_zero_of_dvd Int.dvd_emod_sub_self
  · rw [Int.emod_eq_of_lt (by omega) (by omega)]; exact Int.add_sub_cancel v m

theorem zipWith_le_self (s : List Nat) : (List.zipWith (fun a b => decide (a ≤ b)) s s).all id = true := by
  rw [List.zipWith_self]
  simp

/-- a write of `x` at in-shape index `i`: that logical element and that buffer cell change, nothing else does -/
def WriteExact (st : St) (i : Idx) : Prop :=
  InShape i st.shape ∧ computeOffset i st.strides < st.data.length ∧
  ∀ x : Int,
    (∀ j, InShape j st.shape → read? (write st i x) j = if i = j then some x else read? st j) ∧
    (write st i x).data = st.data.set (computeOffset i st.strides) x ∧
    (write st i x).data.length = st.data.length ∧
    (write st i x).data[computeOffset i st.strides]? = some x ∧
    (∀ k, k ≠ computeOffset i st.strides → (write st i x).data[k]? = st.data[k]?) ∧
    (write st i x).shape = st.shape ∧ (write st i x).strides = st.strides

/-- `mutable_indexing_t::operator()(d) = x` for EVERY destination index `d` of the view: the view maps `d` to a source
    index, and the write changes exactly that source element / buffer cell -/
def WriteThroughExact (st : St) (v : IxView) : Prop :=
  ∀ d, InShape d v.dst → ∃ i, v.map d = some i ∧ WriteExact st i

theorem writeExact_of_inShape (c : Cfg) (st : St) (hi : ObjInv c st) {i : Idx} (hI : InShape i st.shape) : WriteExact st i := by
  have hlt := offset_in_buffer c st hi hI
  refine ⟨hI, hlt, fun x => ⟨fun j hJ => read_write c st hi i j hI hJ x, rfl, by simp [write], ?_, ?_, rfl, rfl⟩⟩
  · simp [write, hlt]
  · intro k hk
    simp only [write, List.getElem?_set]
    rw [if_neg (fun h => hk h.symm)]

theorem writeThrough_of_inShape (c : Cfg) (st : St) (hi : ObjInv c st) (v : IxView)
    (h : ∀ d, InShape d v.dst → ∃ i, v.map d = some i ∧ InShape i st.shape) : WriteThroughExact st v := fun d hd =>
  let ⟨i, hm, hI⟩ := h d hd
  ⟨i, hm, writeExact_of_inShape c st hi hI⟩

end NmVerif.NDObj
