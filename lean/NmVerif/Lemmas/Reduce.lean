import NmVerif.Lemmas.Addressing
import NmVerif.Lemmas.ListBasics
import NmVerif.Lemmas.ReduceFold
import NmVerif.Lemmas.ReduceArg
/-
  The flat positions of `flatten(apply_slice(a, sl))` enumerate `boxIdx sl`; for the slices
  `reduction_slices` builds, `boxIdx sl` is the sub-list of `allIdx shape` whose projection on the non-reduced coordinates
  is the requested result index (`reductionSlicesLoop_box`); `reducer` is `foldFirst` of that list.  The slices never look for a
  repeated axis: distinctness is used only by `remove_dims` without keepdims and by `mean_divisor`.
-/
namespace NmVerif.Reduce
open NmVerif

/-- multi-indices of a box of half-open ranges, C order -/
def boxIdx : List (Nat × Nat) → List Idx
  | [] => [[]]
  | p :: t => (List.range' p.1 (p.2 - p.1)).flatMap (fun x => (boxIdx t).map (x :: ·))

theorem sliceIndex_cons (p : Nat × Nat) (t : List (Nat × Nat)) (x : Nat) (d : Idx) :
    sliceIndex (p :: t) (x :: d) = (p.1 + x) :: sliceIndex t d := rfl

theorem map_sliceIndex_allIdx (sl : List (Nat × Nat)) :
    (allIdx (sliceShape sl)).map (sliceIndex sl) = boxIdx sl := by
  induction sl with
  | nil => simp [sliceShape, allIdx, boxIdx, sliceIndex]
  | cons p t ih =>
    simp only [sliceShape, List.map_cons, allIdx, boxIdx]
    rw [List.map_flatMap, List.range'_eq_map_range, List.flatMap_map]
    apply List.flatMap_congr_left
    intro i _
    rw [List.map_map, ← ih, List.map_map]
    rfl

theorem slicedReads_eq_box (sl : List (Nat × Nat)) : slicedReads sl = boxIdx sl := by
  unfold slicedReads
  rw [← map_sliceIndex_allIdx, ← Shape.map_ndindex_range, List.map_map]
  rfl

/-- `proj` as a loop over the positions with the predicate `in_axis`, shaped like `removeDimsLoop` (`proj_eq_loop`) -/
def projL (p : Nat → Bool) (keep : Bool) : Nat → Idx → Idx
  | _, [] => []
  | i, x :: xs =>
    if p i then (if keep then 0 :: projL p keep (i+1) xs else projL p keep (i+1) xs)
    else x :: projL p keep (i+1) xs

theorem removeDimsLoop_kept {p : Nat → Bool} {i : Nat} (h : p i = false) (keep : Bool) (a : Nat) (t : Shape) :
    removeDimsLoop p keep i (a :: t) = a :: removeDimsLoop p keep (i+1) t := by
  simp [removeDimsLoop, h]

theorem removeDimsLoop_reduced {p : Nat → Bool} {i : Nat} (h : p i = true) (keep : Bool) (a : Nat) (t : Shape) :
    removeDimsLoop p keep i (a :: t) =
      if keep then 1 :: removeDimsLoop p keep (i+1) t else removeDimsLoop p keep (i+1) t := by
  cases keep <;> simp [removeDimsLoop, h]

theorem projL_kept {p : Nat → Bool} {i : Nat} (h : p i = false) (keep : Bool) (x : Nat) (xs : Idx) :
    projL p keep i (x :: xs) = x :: projL p keep (i+1) xs := by
  simp [projL, h]

theorem projL_reduced {p : Nat → Bool} {i : Nat} (h : p i = true) (keep : Bool) (x : Nat) (xs : Idx) :
    projL p keep i (x :: xs) = if keep then 0 :: projL p keep (i+1) xs else projL p keep (i+1) xs := by
  simp [projL, h]

theorem reductionSlicesLoop_kept {p : Nat → Bool} {i : Nat} (h : p i = false) (keep : Bool) {d : Idx} {ii x : Nat}
    (hx : d[ii]? = some x) (a : Nat) (t : Shape) :
    reductionSlicesLoop p keep d i ii (a :: t) = (reductionSlicesLoop p keep d (i+1) (ii+1) t).map ((x, x+1) :: ·) := by
  simp [reductionSlicesLoop, h, hx]

theorem reductionSlicesLoop_reduced {p : Nat → Bool} {i : Nat} (h : p i = true) (keep : Bool) (d : Idx) (ii a : Nat) (t : Shape) :
    reductionSlicesLoop p keep d i ii (a :: t) =
      (reductionSlicesLoop p keep d (i+1) (if keep then ii+1 else ii) t).map ((0, a) :: ·) := by
  simp [reductionSlicesLoop, h]

theorem boxIdx_cons_point (x : Nat) (t : List (Nat × Nat)) : boxIdx ((x, x+1) :: t) = (boxIdx t).map (x :: ·) := by
  simp [boxIdx]

theorem boxIdx_cons_zero (a : Nat) (t : List (Nat × Nat)) :
    boxIdx ((0, a) :: t) = (List.range a).flatMap (fun x => (boxIdx t).map (x :: ·)) := by
  simp [boxIdx, List.range_eq_range']

/-- product of the extents at the selected positions -/
def prodSel (p : Nat → Bool) : Nat → Shape → Nat
  | _, [] => 1
  | i, s :: ss => (if p i then s else 1) * prodSel p (i+1) ss

/-- for any shape (zero extents allowed): when what is left of the indices, `d.drop ii`, is a result index `j`, the slices exist,
    their box is the filtered enumeration, and it has as many elements as the reduced extents multiply to -/
theorem reductionSlicesLoop_box (p : Nat → Bool) (keep : Bool) (d : Idx) (s : Shape) (i ii : Nat) (j : Idx)
    (hd : d.drop ii = j) (hj : InShape j (removeDimsLoop p keep i s)) :
    ∃ sl, reductionSlicesLoop p keep d i ii s = some sl ∧
      boxIdx sl = (allIdx s).filter (fun x => projL p keep i x == j) ∧ prod (sliceShape sl) = prodSel p i s := by
  induction s generalizing i ii j with
  | nil =>
    cases j with
    | nil => exact ⟨[], rfl, rfl, rfl⟩
    | cons _ _ => exact hj.elim
  | cons a t ih =>
    simp only [allIdx, List.filter_flatMap, List.filter_map, Function.comp_def]
    cases hp : p i with
    | true =>
      -- a reduced position: every `x < a` is admitted, what remains of `j` filters the tail
      rw [removeDimsLoop_reduced hp] at hj
      obtain ⟨ii', j', hd', hj', hii, hpr⟩ : ∃ ii' j', d.drop ii' = j' ∧ InShape j' (removeDimsLoop p keep (i+1) t) ∧
          (if keep then ii + 1 else ii) = ii' ∧ ∀ y, ((if keep then 0 :: y else y) == j) = (y == j') := by
        cases keep with
        | false => exact ⟨ii, j, hd, hj, rfl, fun _ => rfl⟩
        | true =>
          cases j with
          | nil => exact hj.elim
          | cons j0 j' =>
            -- the kept extent is 1, so `j0 = 0`
            obtain rfl : j0 = 0 := Nat.lt_one_iff.1 hj.1
            exact ⟨ii + 1, j', (List.drop_eq_cons hd).2, hj.2, rfl, fun y => by simp⟩
      obtain ⟨sl, h1, h3, h4⟩ := ih (i+1) ii' j' hd' hj'
      refine ⟨(0, a) :: sl, by rw [reductionSlicesLoop_reduced hp, hii, h1]; rfl, ?_, by rw [prodSel, hp, ← h4]; rfl⟩
      simp only [boxIdx_cons_zero, h3, projL_reduced hp, hpr]
    | false =>
      -- a kept position: only `x = j0` is admitted
      rw [removeDimsLoop_kept hp] at hj
      cases j with
      | nil => exact hj.elim
      | cons j0 j' =>
        obtain ⟨hx, hd'⟩ := List.drop_eq_cons hd
        obtain ⟨sl, h1, h3, h4⟩ := ih (i+1) (ii+1) j' hd' hj.2
        refine ⟨(j0, j0+1) :: sl, by rw [reductionSlicesLoop_kept hp keep hx, h1]; rfl, ?_,
          by rw [prodSel, hp, ← h4]; exact congrArg (· * _) (Nat.add_sub_cancel_left ..)⟩
        simp only [projL_kept hp]
        rw [List.flatMap_eq_single _ j0 (List.range a) List.nodup_range (List.mem_range.2 hj.1), boxIdx_cons_point, h3]
        · simp
        · intro x _ hx
          simp [hx]

/-- a hypothesis on the positions `i ≤ k < i + length` still to be visited, split for one step of a loop: position `i`, and the
    positions of the tail -/
theorem window_cons {P : Nat → Prop} {i : Nat} {α : Type} {a : α} {t : List α}
    (h : ∀ k, i ≤ k → k < i + (a :: t).length → P k) : P i ∧ ∀ k, i + 1 ≤ k → k < i + 1 + t.length → P k :=
  ⟨h i (Nat.le_refl _) (Nat.lt_add_of_pos_right (Nat.succ_pos _)),
   fun k h1 h2 => h k (Nat.le_of_succ_le h1) (by rwa [Nat.add_assoc, Nat.add_comm 1] at h2)⟩

theorem prodSel_all (s : Shape) (i : Nat) (p : Nat → Bool) (h : ∀ k, i ≤ k → k < i + s.length → p k = true) :
    prodSel p i s = prod s := by
  fun_induction prodSel p i s with
  | case1 => rfl
  | case2 i a t ih => rw [(window_cons h).1, if_pos rfl, ih (window_cons h).2]; rfl

theorem prodSel_range (s : Shape) : prodSel (fun k => decide (k ∈ List.range s.length)) 0 s = prod s :=
  prodSel_all s 0 _ (fun k _ hk => decide_eq_true (List.mem_range.2 (by rwa [Nat.zero_add] at hk)))

theorem prodSel_pos (p : Nat → Bool) (t : Shape) (i : Nat) (h : ∀ k e, p (i + k) = true → t[k]? = some e → 0 < e) :
    0 < prodSel p i t := by
  fun_induction prodSel p i t with
  | case1 => exact Nat.one_pos
  | case2 i a t ih =>
    refine Nat.mul_pos ?_ (ih (fun k e hp he => h (k+1) e (by rwa [Nat.add_right_comm, Nat.add_assoc] at hp) he))
    split
    · exact h 0 a ‹_› rfl
    · exact Nat.one_pos

/-- without keepdims the loop drops exactly the positions `p` selects (what the size check of `removeDims` compares) -/
theorem removeDimsLoop_length (p : Nat → Bool) (s : Shape) (i : Nat) :
    (removeDimsLoop p false i s).length + ((List.range' i s.length).filter p).length = s.length := by
  fun_induction removeDimsLoop p false i s with
  | case1 => rfl
  | case2 i a t hp ih =>
    rw [List.length_cons, List.range'_succ, List.filter_cons_of_pos (by simpa using hp), List.length_cons, ← Nat.add_assoc, ih]
  | case3 i a t hp ih =>
    rw [List.length_cons, List.length_cons, List.range'_succ, List.filter_cons_of_neg (by simpa using hp), Nat.add_right_comm, ih]

/-! ### the model loops written with `zipIdx` (the SPEC's formulation) -/

/-- a loop over the positions that copies a kept entry and drops a reduced one (writes `c` in its place under keepdims)
    computes the SPEC's `zipIdx` expression; `remove_dims` (`c = 1`) and the projection of an index (`c = 0`) are such loops -/
theorem maskLoop_eq_zipIdx (c : Nat) (p : Nat → Bool) (R : List Nat) (keep : Bool) (F : Nat → List Nat → List Nat)
    (hnil : ∀ i, F i [] = [])
    (hkept : ∀ i a t, p i = false → F i (a :: t) = a :: F (i+1) t)
    (hred : ∀ i a t, p i = true → F i (a :: t) = if keep then c :: F (i+1) t else F (i+1) t)
    (x : List Nat) (i : Nat) (h : ∀ k, i ≤ k → k < i + x.length → p k = decide (k ∈ R)) :
    F i x =
      if keep then (x.zipIdx i).map (fun q => if q.2 ∈ R then c else q.1)
      else ((x.zipIdx i).filter (fun q => !decide (q.2 ∈ R))).map (·.1) := by
  induction x generalizing i with
  | nil => rw [hnil]; cases keep <;> rfl
  | cons a t ih =>
    have hi := (window_cons h).1
    have ih' := ih (i+1) (window_cons h).2
    by_cases hm : i ∈ R
    · rw [hred i a t (hi.trans (decide_eq_true hm)), ih', List.zipIdx_cons]
      cases keep <;> simp [hm]
    · rw [hkept i a t (hi.trans (decide_eq_false hm)), ih', List.zipIdx_cons]
      cases keep <;> simp [hm]

theorem specShape_eq_loop (p : Nat → Bool) (R : List Nat) (keep : Bool) (s : Shape)
    (h : ∀ k, k < s.length → p k = decide (k ∈ R)) :
    specShape s R keep = removeDimsLoop p keep 0 s := by
  rw [maskLoop_eq_zipIdx 1 p R keep (removeDimsLoop p keep) (fun _ => rfl)
    (fun _ a t hp => removeDimsLoop_kept hp keep a t) (fun _ a t hp => removeDimsLoop_reduced hp keep a t)
    s 0 (fun k _ h2 => h k (by rwa [Nat.zero_add] at h2))]
  rfl

theorem proj_eq_loop (p : Nat → Bool) (R : List Nat) (keep : Bool) (x : Idx) (n : Nat) (hx : x.length = n)
    (h : ∀ k, k < n → p k = decide (k ∈ R)) :
    proj R keep x = projL p keep 0 x := by
  rw [maskLoop_eq_zipIdx 0 p R keep (projL p keep) (fun _ => rfl)
    (fun _ a t hp => projL_kept hp keep a t) (fun _ a t hp => projL_reduced hp keep a t)
    x 0 (fun k _ h2 => h k (by rwa [Nat.zero_add, hx] at h2))]
  rfl

theorem removeDims_eq_spec (s : Shape) (axis : AxisArg) (keep : Bool) (hv : ValidAxes s.length axis) :
    removeDims s axis keep = some (specShape s (axisSet s.length axis) keep) := by
  -- in both forms of the axis argument `in_axis` is membership in the axis set, whose members are distinct
  obtain ⟨ax, hrd, hp, hperm⟩ : ∃ ax,
      (removeDims s axis keep = if keep then some (removeDimsLoop (inAxis ax) keep 0 s)
        else if (axisSet s.length axis).length ≤ s.length ∧
            (removeDimsLoop (inAxis ax) keep 0 s).length = s.length - (axisSet s.length axis).length
          then some (removeDimsLoop (inAxis ax) keep 0 s) else none) ∧
      (∀ k, k < s.length → inAxis ax k = decide (k ∈ axisSet s.length axis)) ∧
      (axisSet s.length axis).Perm ((List.range' 0 s.length).filter (inAxis ax)) := by
    cases axis with
    | none =>
      refine ⟨none, by rw [axisSet, List.length_range]; rfl, fun _ => inAxis_none, ?_⟩
      rw [List.filter_eq_self.2 (fun a _ => (rfl : inAxis none a = true)), ← List.range_eq_range']; rfl
    | some l =>
      refine ⟨some (l.map (normAxis s.length)), by rw [removeDims, unwrapAxes_some hv.1]; rfl,
        fun k _ => inAxis_some _ k, ?_⟩
      rw [List.filter_congr (fun k _ => inAxis_some _ k), ← List.range_eq_range']
      exact List.perm_filter_mem_range _ _ hv.2 (mem_map_normAxis_lt hv.1)
  have hl := removeDimsLoop_length (inAxis ax) s 0
  rw [← hperm.length_eq] at hl
  rw [hrd, specShape_eq_loop _ _ keep s hp]
  cases keep with
  | true => rfl
  | false => rw [if_neg Bool.false_ne_true, if_pos ⟨Nat.le.intro ((Nat.add_comm _ _).trans hl), Nat.eq_sub_of_add_eq hl⟩]

theorem flattenReduce_sliced {α : Type} (ident : Option α) (op : α → α → α) (init : Option α) (a : Arr α)
    (sl : List (Nat × Nat)) :
    flattenReduce ident op init (prod (sliceShape sl)) (slicedFlatElem a sl) =
      foldNumpy ident op init ((slicedReads sl).map a.get) := by
  rw [flattenReduce_eq, slicedReads, List.map_map]; rfl

theorem reduceElemId_eq_reads {α : Type} (ident : Option α) (op : α → α → α) (init : Option α) (a : Arr α) (axis : AxisArg)
    (keep : Bool) (d : Idx) :
    reduceElemId ident op init a axis keep d =
      (reduceReads a.shape axis keep d).bind (fun r => foldNumpy ident op init (r.map a.get)) := by
  cases axis with
  | none => simp [reduceElemId, reduceReads, flattenReduce_eq, List.map_map, Function.comp_def]
  | some l =>
    simp only [reduceElemId, reduceReads]
    cases reductionSlices d a.shape (some l) keep with
    | none => rfl
    | some sl => exact flattenReduce_sliced ident op init a sl

/-- `reductionSlicesLoop_box` in the SPEC's terms, for any `p` that is membership in `R` on the positions of `s` -/
theorem reductionSlicesLoop_addressed (p : Nat → Bool) (R : List Nat) (keep : Bool) (s : Shape)
    (hp : ∀ k, k < s.length → p k = decide (k ∈ R)) (j : Idx) (hj : InShape j (specShape s R keep)) :
    ∃ sl, reductionSlicesLoop p keep j 0 0 s = some sl ∧ slicedReads sl = addressed s R keep j ∧
      (addressed s R keep j).length = prodSel p 0 s := by
  rw [specShape_eq_loop p R keep s hp] at hj
  obtain ⟨sl, h1, h3, h4⟩ := reductionSlicesLoop_box p keep j s 0 0 j rfl hj
  have h2 : slicedReads sl = addressed s R keep j := by
    rw [slicedReads_eq_box, h3]
    exact List.filter_congr (fun x hx => by rw [proj_eq_loop p R keep x s.length (mem_allIdx_length hx) hp])
  exact ⟨sl, h1, h2, by rw [← h2, ← h4, slicedReads, List.length_map, List.length_range]⟩

/-- accepted entries suffice, repetitions allowed: the slices do not look -/
theorem reduceReads_some (s : Shape) (l : List Int) (keep : Bool) (hval : ∀ a ∈ l, ValidAxis s.length a) (j : Idx)
    (hj : InShape j (specShape s (l.map (normAxis s.length)) keep)) :
    reduceReads s (some l) keep j = some (addressed s (l.map (normAxis s.length)) keep j) := by
  obtain ⟨sl, h1, h2, _⟩ := reductionSlicesLoop_addressed _ _ keep s (fun k _ => inAxis_some _ k) j hj
  simp only [reduceReads, reductionSlices, unwrapAxes_some hval, Option.map_some, h1, h2]

/-- the count needs nothing of `R`: as many indices feed a result index as the reduced extents multiply to -/
theorem addressed_length (s : Shape) (R : List Nat) (keep : Bool) (j : Idx) (hj : InShape j (specShape s R keep)) :
    (addressed s R keep j).length = prodSel (fun k => decide (k ∈ R)) 0 s := by
  obtain ⟨_, _, _, h⟩ := reductionSlicesLoop_addressed _ R keep s (fun _ _ => rfl) j hj
  exact h

/-- axis None: the filter is as long as the enumeration (`addressed_length`), so it is the enumeration -/
theorem addressed_none (s : Shape) (keep : Bool) (j : Idx) (hj : InShape j (specShape s (List.range s.length) keep)) :
    addressed s (List.range s.length) keep j = allIdx s :=
  List.filter_eq_self.2 (List.length_filter_eq_length_iff.1 (by
    rw [← addressed, addressed_length s _ keep j hj, prodSel_range, Shape.allIdx_length]))

theorem reduceReads_eq_addressed (s : Shape) (axis : AxisArg) (keep : Bool)
    (hv : ValidAxes s.length axis) (j : Idx) (hj : InShape j (specShape s (axisSet s.length axis) keep)) :
    reduceReads s axis keep j = some (addressed s (axisSet s.length axis) keep j) := by
  cases axis with
  | none => rw [axisSet, addressed_none s keep j hj, reduceReads, Shape.map_ndindex_range]
  | some l => exact reduceReads_some s l keep hv.1 j hj

theorem posAxes_of_pos {s : Shape} (h : Pos s) (R : List Nat) : PosAxes s R :=
  fun _ _ e he => h e (List.mem_of_getElem? he)

theorem addressed_ne_nil_posAxes (s : Shape) (R : List Nat) (keep : Bool) (hR : PosAxes s R) (j : Idx)
    (hj : InShape j (specShape s R keep)) : addressed s R keep j ≠ [] := by
  apply List.ne_nil_of_length_pos
  rw [addressed_length s R keep j hj]
  exact prodSel_pos _ s 0 (fun k e hk he => hR k (of_decide_eq_true (Nat.zero_add k ▸ hk)) e he)

theorem addressed_ne_nil (s : Shape) (hs : Pos s) (axis : AxisArg) (keep : Bool)
    (hv : ValidAxes s.length axis) (j : Idx) (hj : InShape j (specShape s (axisSet s.length axis) keep)) :
    addressed s (axisSet s.length axis) keep j ≠ [] :=
  addressed_ne_nil_posAxes s _ keep (posAxes_of_pos hs _) j hj

theorem addressed_eq_nil_of_zero_axis (s : Shape) (R : List Nat) (keep : Bool) (j : Idx)
    (h : ¬ PosAxes s R) : addressed s R keep j = [] := by
  have hs : ¬ Pos s := fun hp => h (posAxes_of_pos hp R)
  simp [addressed, allIdx_eq_nil_of_not_pos hs]

theorem reduceElemId_eq_spec {α : Type} (ident : Option α) (op : α → α → α) (init : Option α) (a : Arr α) (axis : AxisArg)
    (keep : Bool) (hv : ValidAxes a.shape.length axis) (j : Idx)
    (hj : InShape j (specShape a.shape (axisSet a.shape.length axis) keep)) :
    reduceElemId ident op init a axis keep j = specReduceElemId ident op init a (axisSet a.shape.length axis) keep j := by
  rw [reduceElemId_eq_reads, reduceReads_eq_addressed a.shape axis keep hv j hj]
  rfl

theorem reduceElem_eq_spec {α : Type} (op : α → α → α) (init : Option α) (a : Arr α) (axis : AxisArg)
    (keep : Bool) (hv : ValidAxes a.shape.length axis) (j : Idx)
    (hj : InShape j (specShape a.shape (axisSet a.shape.length axis) keep)) :
    reduceElem op init a axis keep j = specReduceElem op init a (axisSet a.shape.length axis) keep j :=
  (reduceElemId_eq_spec none op init a axis keep hv j hj).trans (foldNumpy_none op init _)

theorem reduceElemId_eq_spec_posAxes {α : Type} (ident : Option α) (op : α → α → α) (init : Option α) (a : Arr α)
    (axis : AxisArg) (keep : Bool) (hv : ValidAxes a.shape.length axis)
    (hR : PosAxes a.shape (axisSet a.shape.length axis)) (j : Idx)
    (hj : InShape j (specShape a.shape (axisSet a.shape.length axis) keep)) :
    reduceElemId ident op init a axis keep j = specReduceElem op init a (axisSet a.shape.length axis) keep j := by
  rw [reduceElemId_eq_spec ident op init a axis keep hv j hj]
  exact foldNumpy_of_ne_nil ident op init _ (addressed_ne_nil_posAxes a.shape _ keep hR j hj)

/-- the view on an accepted axis argument, read at `j`: NumPy's shape, and what its element function gives at `j` (`he`: any of
    the three element equations above) -/
theorem reduceId_at {α : Type} (ident : Option α) (op : α → α → α) (init : Option α) (a : Arr α) (axis : AxisArg)
    (keep : Bool) (hv : ValidAxes a.shape.length axis) {j : Idx} {e : Option α}
    (he : reduceElemId ident op init a axis keep j = e) :
    (reduceId ident op init a axis keep).map (fun v => (v.shape, v.get j)) =
      some (specShape a.shape (axisSet a.shape.length axis) keep, e) := by
  rw [reduceId, removeDims_eq_spec a.shape axis keep hv]
  exact congrArg (fun e => some (_, e)) he

/-- a reduce view post-processed element by element (`F`: the power of `vector_norm`, the division of `mean`, the `join` of NN's `red`) -/
theorem reduce_map_spec {α β : Type} (op : α → α → α) (init : Option α) (a : Arr α) (axis : AxisArg) (keep : Bool)
    (hv : ValidAxes a.shape.length axis) (F : Option α → β) :
    ∃ v, (reduce op init a axis keep).map (fun r => (⟨r.shape, fun j => F (r.get j)⟩ : Arr β)) = some v ∧
      v.shape = specShape a.shape (axisSet a.shape.length axis) keep ∧
      ∀ j, InShape j v.shape → v.get j = F (specReduceElem op init a (axisSet a.shape.length axis) keep j) := by
  refine ⟨⟨_, fun j => F (reduceElem op init a axis keep j)⟩, ?_, rfl, fun j hj => ?_⟩
  · rw [reduce, removeDims_eq_spec a.shape axis keep hv]; rfl
  · exact congrArg F (reduceElem_eq_spec op init a axis keep hv j hj)

/-- with keepdims `remove_dims` checks no length: accepted entries suffice, repetitions allowed -/
theorem removeDims_keep (s : Shape) (l : List Int) (hl : ∀ a ∈ l, ValidAxis s.length a) :
    removeDims s (some l) true = some (specShape s (l.map (normAxis s.length)) true) := by
  simp only [removeDims, unwrapAxes_some hl, if_true]
  rw [specShape_eq_loop _ _ true s (fun k _ => inAxis_some _ k)]

/-- the view sees an accepted-entry axis list only through `in_axis`, i.e. the set of axes it names, and, without
    keepdims, its length -/
theorem reduceId_congr {α : Type} (ident : Option α) (op : α → α → α) (init : Option α) (a : Arr α) (l l' : List Int)
    (keep : Bool) (hl : ∀ x ∈ l, ValidAxis a.shape.length x) (hl' : ∀ x ∈ l', ValidAxis a.shape.length x)
    (hmem : ∀ k, k ∈ l.map (normAxis a.shape.length) ↔ k ∈ l'.map (normAxis a.shape.length))
    (hlen : keep = false → l.length = l'.length) :
    reduceId ident op init a (some l) keep = reduceId ident op init a (some l') keep := by
  have hin : inAxis (some (l.map (normAxis a.shape.length))) = inAxis (some (l'.map (normAxis a.shape.length))) :=
    funext fun k => by rw [inAxis_some, inAxis_some, decide_eq_decide]; exact hmem k
  have hel : reduceElemId ident op init a (some l) keep = reduceElemId ident op init a (some l') keep := by
    funext d
    simp only [reduceElemId, reductionSlices, unwrapAxes_some hl, unwrapAxes_some hl', hin]
  simp only [reduceId, removeDims, unwrapAxes_some hl, unwrapAxes_some hl', hin, List.length_map, hel]
  cases keep with
  | true => rfl
  | false => rw [hlen rfl]

/-! ### keepdims: the result shape, and the group of a source index (what `var` and the normalisations of C17 read back) -/

theorem specShape_keep_length (s : Shape) (R : List Nat) : (specShape s R true).length = s.length := by
  simp [specShape]

theorem pos_specShape_keep (s : Shape) (R : List Nat) (hs : Pos s) : Pos (specShape s R true) := by
  intro x hx
  simp only [specShape, if_true, List.mem_map] at hx
  obtain ⟨q, hq, rfl⟩ := hx
  split
  · exact Nat.one_pos
  · exact hs q.1 (List.fst_mem_of_mem_zipIdx hq)

/-- a reduced coordinate is `0` in both projections or dropped in both, so keepdims does not change which source indices are
    projected together (the step of `addressed_true_proj`) -/
theorem projL_true_iff_false (p : Nat → Bool) (x y : Idx) (i : Nat) (h : x.length = y.length) :
    projL p true i x = projL p true i y ↔ projL p false i x = projL p false i y := by
  induction x generalizing y i with
  | nil => rw [List.length_eq_zero_iff.1 h.symm]; exact Iff.rfl
  | cons x0 x' ih =>
    cases y with
    | nil => simp at h
    | cons y0 y' =>
      have ih' := ih y' (i+1) (Nat.succ.inj h)
      cases hp : p i with
      | true => simpa only [projL_reduced hp, if_pos, Bool.false_eq_true, if_false, List.cons.injEq, true_and] using ih'
      | false => simp only [projL_kept hp, List.cons.injEq, ih']

/-- for a source index `i` of the group of `j`, the keepdims group of `i` is the group of `j` -/
theorem addressed_true_proj (s : Shape) (R : List Nat) (keep : Bool) (j i : Idx)
    (hi : i ∈ addressed s R keep j) :
    addressed s R true (proj R true i) = addressed s R keep j := by
  simp only [addressed, List.mem_filter, beq_iff_eq] at hi
  obtain ⟨hi1, rfl⟩ := hi
  refine List.filter_congr (fun x hx => ?_)
  cases keep with
  | true => rfl
  | false =>
    have e := fun b y (hy : y ∈ allIdx s) =>
      proj_eq_loop (fun k => decide (k ∈ R)) R b y s.length (mem_allIdx_length hy) (fun _ _ => rfl)
    rw [Bool.eq_iff_iff]
    simp only [e _ x hx, e _ i hi1, beq_iff_eq]
    exact projL_true_iff_false _ x i 0 (by rw [mem_allIdx_length hx, mem_allIdx_length hi1])

theorem proj_true_inShape (s : Shape) (R : List Nat) (i : Idx) (hi : InShape i s) :
    InShape (proj R true i) (specShape s R true) := by
  simp only [proj, specShape, if_true]
  suffices h : ∀ k, InShape ((i.zipIdx k).map fun q => if q.2 ∈ R then 0 else q.1)
      ((s.zipIdx k).map fun q => if q.2 ∈ R then 1 else q.1) from h 0
  induction i, s, hi using inShape_ind with
  | nil => intro _; trivial
  | cons i0 it a t h0 _ ih =>
    intro k
    refine ⟨?_, ih (k+1)⟩
    show (if k ∈ R then 0 else i0) < (if k ∈ R then 1 else a)
    split
    · exact Nat.one_pos
    · exact h0

end NmVerif.Reduce
