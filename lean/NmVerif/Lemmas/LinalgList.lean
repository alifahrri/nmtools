import NmVerif.Index.Matmul
import NmVerif.Lemmas.Addressing
import NmVerif.Lemmas.ListBasics
import NmVerif.Lemmas.MatmulBroadcast
/-
  List, index and broadcast-index (`bcIdx`) facts shared by the linear-algebra lemmas of C16; the shape rule (`bc1`,
  `broadcastShape`) is in Lemmas/MatmulBroadcast.

  Where `Pos` comes from: `bc1 1 x = some (max 1 x)`, a unit axis broadcasts to `x` only for `0 < x`.  inner, dot,
  tensordot, outer pad the LHS with unit axes against the free rhs extents, kron divides by the rhs extents: `Pos` of the
  rhs only.  matmulv2 broadcasts both batch parts and a unit rhs axis against `m`: `Pos` of the batch parts, `0 < m`.
  vecdot and the slicing `view::matmul` need none; the refusal of `dot` cancels `prod batch_a` and `n`: both operands.
-/
namespace NmVerif
open NmVerif.MB

@[simp] theorem getNeg?_append_one (b : List Nat) (x : Nat) : getNeg? (b ++ [x]) 1 = some x := by
  simp [getNeg?]

@[simp] theorem getNeg?_append_two_1 (b : List Nat) (x y : Nat) : getNeg? (b ++ [x, y]) 1 = some y := by
  have : b ++ [x, y] = (b ++ [x]) ++ [y] := by simp
  rw [this]; exact getNeg?_append_one _ _

@[simp] theorem getNeg?_append_two_2 (b : List Nat) (x y : Nat) : getNeg? (b ++ [x, y]) 2 = some x := by
  simp [getNeg?]

@[simp] theorem getNeg?_single_1 (x : Nat) : getNeg? [x] 1 = some x := getNeg?_append_one [] x

theorem getNeg?_single_2 (x : Nat) : getNeg? [x] 2 = none := by simp [getNeg?]

@[simp] theorem setNeg_append_one (b : List Nat) (x v : Nat) : setNeg (b ++ [x]) 1 v = b ++ [v] := by
  simp [setNeg]

@[simp] theorem setNeg_append_two_2 (b : List Nat) (x y v : Nat) : setNeg (b ++ [x, y]) 2 v = b ++ [v, y] := by
  simp [setNeg]

@[simp] theorem setNeg_append_two_1 (b : List Nat) (x y v : Nat) : setNeg (b ++ [x, y]) 1 v = b ++ [x, v] := by
  simp [setNeg]

@[simp] theorem swapLast2_append (b : List Nat) (x y : Nat) : swapLast2 (b ++ [x, y]) = b ++ [y, x] := by
  simp [swapLast2]

theorem exists_append_of_le_length {n : Nat} (s : List Nat) (h : n ≤ s.length) : ∃ L R, s = L ++ R ∧ R.length = n :=
  ⟨s.take (s.length - n), s.drop (s.length - n), (List.take_append_drop _ _).symm, List.length_drop.trans (Nat.sub_sub_self h)⟩

theorem singleton_or_append_two (s : List Nat) (h : 1 ≤ s.length) : (∃ x, s = [x]) ∨ ∃ b x y, s = b ++ [x, y] := by
  obtain ⟨b', y, rfl⟩ := List.exists_snoc s h
  by_cases h1 : 1 ≤ b'.length
  · obtain ⟨b, x, rfl⟩ := List.exists_snoc b' h1
    exact .inr ⟨b, x, y, List.append_assoc b [x] [y]⟩
  · exact .inl ⟨y, by rw [List.length_eq_zero_iff.1 (Nat.eq_zero_of_not_pos h1)]; rfl⟩

theorem inShape_one {i m : Nat} : InShape [i] [m] ↔ i < m := by simp [InShape]

theorem inShape_two {i j m n : Nat} : InShape [i, j] [m, n] ↔ i < m ∧ j < n := by simp [InShape]

theorem inShape_append_one {d s : List Nat} {m : Nat} (h : InShape d (s ++ [m])) :
    ∃ p i, d = p ++ [i] ∧ InShape p s ∧ i < m := by
  obtain ⟨p, q, rfl, hp, hq⟩ := Shape.inShape_append_split.1 h
  obtain ⟨i, rfl⟩ := List.length_eq_one_iff.1 hq.length_eq
  exact ⟨p, i, rfl, hp, inShape_one.1 hq⟩

theorem inShape_append_two {d s : List Nat} {m n : Nat} (h : InShape d (s ++ [m, n])) :
    ∃ p i j, d = p ++ [i, j] ∧ InShape p s ∧ i < m ∧ j < n := by
  obtain ⟨p', j, rfl, hp', hj⟩ := inShape_append_one (s := s ++ [m]) (by rwa [List.append_assoc])
  obtain ⟨p, i, rfl, hp, hi⟩ := inShape_append_one hp'
  exact ⟨p, i, j, List.append_assoc p [i] [j], hp, hi, hj⟩

@[simp] theorem bcIdx_nil (d : Idx) : bcIdx d [] = [] := by simp [bcIdx]

/-- the common shape of `bcIdx` and `tileIdx` -/
theorem zipWith_drop_append (f : Nat → Nat → Nat) {β τ s t : List Nat} (h1 : τ.length = t.length)
    (h2 : s.length ≤ β.length) :
    List.zipWith f ((β ++ τ).drop ((β ++ τ).length - (s ++ t).length)) (s ++ t) =
      List.zipWith f (β.drop (β.length - s.length)) s ++ List.zipWith f (τ.drop (τ.length - t.length)) t := by
  rw [List.length_append, List.length_append, h1, Nat.add_sub_add_right, Nat.sub_self, List.drop_zero,
    List.drop_append_of_le_length (Nat.sub_le ..), List.zipWith_append (by rw [List.length_drop]; omega)]

theorem zipWith_drop_self (f : Nat → Nat → Nat) (hf : ∀ x e, x < e → f x e = x) {d s : List Nat} (h : InShape d s) :
    List.zipWith f (d.drop (d.length - s.length)) s = d := by
  rw [h.length_eq, Nat.sub_self, List.drop_zero]
  induction d, s, h using inShape_ind with
  | nil => rfl
  | cons x _ a _ h0 _ ih => rw [List.zipWith_cons_cons, ih, hf x a h0]

theorem bcIdx_append {β τ s t : List Nat} (h1 : τ.length = t.length) (h2 : s.length ≤ β.length) :
    bcIdx (β ++ τ) (s ++ t) = bcIdx β s ++ bcIdx τ t := zipWith_drop_append _ h1 h2

theorem bcIdx_self {d s : List Nat} (h : InShape d s) : bcIdx d s = d :=
  zipWith_drop_self _ (fun x e hx => by show (if e = 1 then 0 else x) = x; split <;> omega) h

@[simp] theorem bcIdx_one_one (β : List Nat) (i : Nat) : bcIdx (β ++ [i]) [1] = [0] := by
  simp [bcIdx]

theorem bcIdx_inShape_left {a b bs β : List Nat} (hpa : Pos a) (hb : broadcastShape a b = some bs) (hβ : InShape β bs) :
    InShape (bcIdx β a) a := by
  rw [MB.broadcastShape_eq] at hb
  induction hb using bcShape_ind generalizing β with
  | left b => rw [bcIdx_nil]; trivial
  | right a => rw [bcIdx_self hβ]; exact hβ
  | @snoc x y z a b r hz hr _ ih =>
    obtain ⟨β', t, rfl, hβ', ht⟩ := inShape_append_one hβ
    obtain ⟨hpa', hx⟩ := Shape.pos_append.1 hpa
    rw [bcIdx_append (β := β') (τ := [t]) (s := a) (t := [x]) rfl
      (by rw [hβ'.length_eq, bcShape_length hr]; exact Nat.le_max_left ..)]
    refine Shape.inShape_append (ih hpa' hβ') (inShape_one.2 ?_)
    -- the last axis: an extent 1 is read at 0, any other extent of `a` is the result's
    have hx := hx x (List.mem_singleton_self x)
    revert hz
    fun_cases bc1 x y
    · rintro ⟨⟩
      show (if x = 1 then 0 else t) < x
      split <;> omega
    · nofun

theorem bcIdx_inShape_right {a b bs β : List Nat} (hp : Pos b) (h : broadcastShape a b = some bs) (hβ : InShape β bs) :
    InShape (bcIdx β b) b :=
  bcIdx_inShape_left hp (by rw [broadcastShape_comm]; exact h) hβ

theorem bcIdx_ones (q : List Nat) : bcIdx q (List.replicate q.length 1) = List.replicate q.length 0 := by
  simp [bcIdx, List.zipWith_replicate_right, List.map_const']

theorem bcIdx_append_ones {p q s t : List Nat} (hp : InShape p s) (hq : InShape q t) :
    bcIdx (p ++ q) (s ++ List.replicate t.length 1) = p ++ List.replicate t.length 0 := by
  rw [bcIdx_append (by rw [List.length_replicate, hq.length_eq]) (by rw [hp.length_eq]; exact Nat.le_refl _), bcIdx_self hp,
    ← hq.length_eq, bcIdx_ones]

theorem bcIdx_append_right {p q t : List Nat} (hq : InShape q t) : bcIdx (p ++ q) t = q := by
  simpa [bcIdx_self hq] using bcIdx_append (β := p) (τ := q) (s := []) (t := t) hq.length_eq (Nat.zero_le _)

theorem inShape_zeros_ones (n : Nat) : InShape (List.replicate n 0) (List.replicate n 1) := by
  induction n with
  | zero => simp [InShape]
  | succ n ih => simp [List.replicate_succ, InShape, ih]

theorem prod_singleton (x : Nat) : prod [x] = x := by simp [prod]
theorem prod_two (x y : Nat) : prod [x, y] = x * y := by simp [prod]

theorem mapM_range_eq_some {α : Type} (l : List α) (f : Nat → Option α) (h : ∀ i, i < l.length → f i = l[i]?) :
    (List.range l.length).mapM f = some l := List.mapM_range_eq_some_iff.mpr ⟨rfl, h⟩

end NmVerif
