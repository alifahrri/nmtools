import NmVerif.Lemmas.SliceND
import NmVerif.Lemmas.ListBasics
/-
  The run-time (list of either) loops of shape_dynamic_slice / dynamic_slice compute what the compile-time
  (`template_for`) recursion of shape_slice / slice computes, wherever the latter has a value.
-/
namespace NmVerif.Slice
open NmVerif

theorem drop_eq_cons {l : List Nat} {p n : Nat} {t : List Nat} (h : l.drop p = n :: t) :
    l[p]? = some n ∧ l.drop (p + 1) = t ∧ p < l.length :=
  have ⟨h1, h2⟩ := List.drop_eq_cons h
  ⟨h1, h2, (List.getElem?_eq_some_iff.1 h1).elim fun hp _ => hp⟩

/-- the loop counter is a position `p` in the shape, the packed recursion sees `shape.drop p`: the entries written plus
    the axes not yet visited are the packed result.  The trailing-axes copy takes `n - st.res.length` of those axes: all of
    them, because the packed result fits `n` (what `padZeros` tests) and every step only moves entries from `r` to `acc` -/
theorem shapeDyn_go (nEll n : Nat) (shape sh : List Nat) (es : List Entry) (p : Nat) (acc r : List Nat)
    (hsh : shape.drop p = sh) (hp : p ≤ shape.length) (hn : (acc ++ r).length ≤ n) (h : shapeGo nEll sh es = some r) :
    (es.foldl (shapeDynStep shape nEll) (some ⟨acc, p⟩)).map (fun st => st.res ++ (shape.drop st.shp).take (n - st.res.length))
      = some (acc ++ r) := by
  fun_induction shapeGo nEll sh es generalizing p acc r with
  | case1 sh =>   -- no entry left
    cases h
    exact congrArg (fun x => some (acc ++ x))
      (by rw [hsh, List.take_of_length_le (Nat.le_sub_of_add_le' (List.length_append ▸ hn))])
  | case2 sh es hle ih =>   -- ellipsis
    obtain ⟨r', hr', rfl⟩ := Option.map_eq_some_iff.1 h
    subst hsh
    rw [List.length_drop] at hle
    have hp' := Nat.add_le_of_le_sub' hp hle
    simp only [List.foldl_cons, shapeDynStep]
    rw [if_pos hp', ← List.append_assoc]
    exact ih (p + nEll) _ r' (by rw [List.drop_drop]) hp' (List.append_assoc .. ▸ hn) hr'
  | case5 n' t k es ih =>   -- integer
    obtain ⟨-, h2, h3⟩ := drop_eq_cons hsh
    exact ih (p + 1) acc r h2 h3 hn h
  | case6 n' t e es he hi l hl ih =>   -- range, either form
    obtain ⟨r', hr', rfl⟩ := Option.map_eq_some_iff.1 h
    obtain ⟨h1, h2, h3⟩ := drop_eq_cons hsh
    -- `he`, `hi` (not an ellipsis, not an integer) select the last clause of `shapeDynStep`
    simp only [List.foldl_cons, shapeDynStep, h1, hl]
    exact (ih (p + 1) _ r' h2 h3 (List.append_cons .. ▸ hn) hr').trans
      (congrArg some (List.append_cons ..).symm)
  | case3 | case4 | case7 => cases h   -- the packed function has no value

/-- the same for the index loop, with a second counter `q` into the destination index.  Every entry writes one source
    coordinate per axis it takes (an integer too), hence `acc.length = p`: the final copy counts with
    `shape.length - st.res.length` where the packed recursion counts with `sh.length` -/
theorem idxDyn_go (nEll : Nat) (shape ix0 sh ix : List Nat) (es : List Entry) (p q : Nat) (acc r : List Nat)
    (hsh : shape.drop p = sh) (hix : ix0.drop q = ix) (hp : p ≤ shape.length) (hq : q ≤ ix0.length) (hacc : acc.length = p)
    (h : idxGo nEll sh ix es = some r) :
    (es.foldl (idxDynStep shape ix0 nEll) (some ⟨acc, p, q⟩)).map
      (fun st => st.res ++ (ix0.drop st.ind).take (shape.length - st.res.length)) = some (acc ++ r) := by
  fun_induction idxGo nEll sh ix es generalizing p q acc r with
  | case1 sh ix =>
    cases h
    exact congrArg (fun x => some (acc ++ x)) (by rw [hix, ← hsh, List.length_drop, hacc])
  | case2 sh ix es hle ih =>   -- ellipsis
    obtain ⟨r', hr', rfl⟩ := Option.map_eq_some_iff.1 h
    subst hsh hix
    have htk : ((ix0.drop q).take nEll).length = nEll := List.length_take_of_le hle.2
    rw [List.length_drop, List.length_drop] at hle
    have hp' := Nat.add_le_of_le_sub' hp hle.1
    have hq' := Nat.add_le_of_le_sub' hq hle.2
    simp only [List.foldl_cons, idxDynStep]
    rw [if_pos ⟨hp', hq'⟩, ← List.append_assoc]
    exact ih (p + nEll) (q + nEll) _ r' (by rw [List.drop_drop]) (by rw [List.drop_drop]) hp' hq'
      (by rw [List.length_append, htk, hacc]) hr'
  | case5 n t ix k es ih =>   -- integer
    obtain ⟨r', hr', rfl⟩ := Option.map_eq_some_iff.1 h
    obtain ⟨h1, h2, h3⟩ := drop_eq_cons hsh
    simp only [List.foldl_cons, idxDynStep, h1]
    exact (ih (p + 1) q _ r' h2 hix h3 hq (by rw [List.length_append, hacc]; rfl) hr').trans
      (congrArg some (List.append_cons ..).symm)
  | case7 n t i ix e es he hi ih =>   -- range, either form
    obtain ⟨r', hr', rfl⟩ := Option.map_eq_some_iff.1 h
    obtain ⟨h1, h2, h3⟩ := drop_eq_cons hsh
    obtain ⟨g1, g2, g3⟩ := drop_eq_cons hix
    simp only [List.foldl_cons, idxDynStep, h1, g1]
    exact (ih (p + 1) (q + 1) _ r' h2 g2 h3 g3 (by rw [List.length_append, hacc]; rfl) hr').trans
      (congrArg some (List.append_cons ..).symm)
  | case3 | case4 | case6 => cases h   -- the packed function has no value

theorem shape_packed_eq_dynamic (shape : List Nat) (es : List Entry) (r : List Nat)
    (h : shapeSlice shape es = some r) : shapeDynamicSlice shape es = some r := by
  -- the packed function has a value, so its two guards were passed, and so was the guard of `padZeros` (the bound of the copy)
  obtain ⟨h1, h⟩ := Option.ite_none_left_eq_some.1 h
  obtain ⟨h2, h⟩ := Option.ite_none_left_eq_some.1 h
  obtain ⟨r', hr', hp⟩ := Option.bind_eq_some_iff.1 h
  rw [shapeDynamicSlice, if_neg h1, if_neg h2,
    shapeDyn_go _ _ shape _ es 0 [] r' rfl (Nat.zero_le _) (Option.ite_none_right_eq_some.1 hp).1 hr']
  exact hp

theorem idx_packed_eq_dynamic (shape : List Nat) (es : List Entry) (d r : List Nat)
    (h : sliceIdx shape es d = some r) : dynamicSlice shape es d = some r := by
  obtain ⟨h1, h⟩ := Option.ite_none_left_eq_some.1 h
  obtain ⟨r', hr', hp⟩ := Option.bind_eq_some_iff.1 h
  rw [dynamicSlice, if_neg h1, idxDyn_go _ shape d _ _ es 0 0 [] r' rfl rfl (Nat.zero_le _) (Nat.zero_le _) rfl hr']
  exact hp

theorem dynamicSlice_dom (shape : List Nat) (es : List Entry) (h : domEntries shape es = true) :
    Agrees shape es (shapeDynamicSlice shape es) (dynamicSlice shape es) :=
  (slice_dom shape es h).transfer (shape_packed_eq_dynamic shape es) (idx_packed_eq_dynamic shape es)

end NmVerif.Slice
