import NmVerif.Lemmas.StaticDomain
import NmVerif.Lemmas.StaticRef
/-
  C11, the operations: for each transfer function its shape-kind part (`XShapeK_sound`: the kind computed from the operand
  kinds admits the reference result), and the size rules that rest on a fact about a reference function.
-/
namespace NmVerif.Static
open NmVerif

theorem reduceShapeK_sound {sh d : ShapeK} {s t : Shape} {k : AxisK} {axes : List Nat} {kd : Bool}
    (hsh : sh.γ s) (hpos : Pos s) (hk : k.γ axes) (hr : refReduce axes kd s = some t)
    (hd : reduceShapeK k kd sh = some d) : d.γ t := by
  have hlen := (refReduce_spec hpos hr).1
  unfold reduceShapeK at hd
  split at hd
  · rename_i l a hst
    cases AxisK.static?_eq hk hst
    cases (hsh : s = l)
    rw [hr] at hd; cases hd; rfl
  · simp only [reduceGeneric, AxisK.count_eq hk] at hd
    cases kd with
    | true => cases hd; exact lenK_toShapeK_of_length_eq hsh hlen
    | false =>
      obtain ⟨k', hk', rfl⟩ := Option.map_eq_some_iff.mp hd
      exact toShapeK_of_lenK (lenK_sub_sound (lenK_sound hsh) hk' hlen)

theorem bcastStaticTuple_sound {va b t : Shape} {arr : ShapeK} (hl : b.length ≤ va.length)
    (hr : refBroadcast va b = some t) (harr : arr.γ t) : (bcastStaticTuple va arr).γ t := by
  fun_cases bcastStaticTuple va arr with
  | case1 hall =>
    cases refBroadcast_eq_left (fun x hx => by simpa using List.all_eq_true.mp hall x hx) hl hr
    exact LeAll.refl _
  | case2 => exact harr

theorem bcastStaticArray_sound {va b t : Shape} {sv : ShapeK} (hp : Pos va) (hl : b.length ≤ va.length)
    (hr : refBroadcast va b = some t) (hsv : sv.γ t) : (bcastStaticArray va sv).γ t := by
  fun_cases bcastStaticArray va sv with
  | case1 => exact hsv
  | case2 hmin =>
    cases refBroadcast_eq_left (all_gt_one_of_min hp fun h => hmin (beq_iff_eq.mpr h)) hl hr
    exact leAll_replicate (le_foldl_max _ 0).2

theorem bcastConstRt_sound {va b t : Shape} {l : LenK} (hp : Pos va) (hL : l.γ b.length)
    (hr : refBroadcast va b = some t) : (bcastConstRt va l).γ t := by
  -- every branch falls back to what two run-time shape types give, the constant one read as an array of its length
  have hrank : (bcastLenK (.fixed va.length) l).γ t := bcastLenK_sound rfl hL (refBroadcast_length hr)
  fun_cases bcastConstRt va l with
  | case1 lb hge => exact bcastStaticTuple_sound (hL ▸ hge) hr hrank
  | case3 bb hge => exact bcastStaticArray_sound hp (Nat.le_trans hL hge) hr hrank
  | case2 | case4 | case5 => exact hrank

/-- the two branches of `broadcast_shape_t` for a constant operand (right / left) are one function -/
theorem bcastRtConst_eq (vb : List Nat) (l : LenK) : bcastRtConst vb l = bcastConstRt vb l := by
  cases l <;> simp only [bcastRtConst, bcastConstRt, Nat.max_comm]

theorem broadcastShapeK_sound {A B k : ShapeK} {a b t : Shape} (hA : A.γ a) (hB : B.γ b) (hpa : Pos a) (hpb : Pos b)
    (hr : refBroadcast a b = some t) (hk : broadcastShapeK A B = some k) : k.γ t := by
  revert hk
  fun_cases broadcastShapeK A B with
  | case1 va vb hcb hca r hrv =>
    rintro ⟨⟩
    exact constOrClipped_sound hA hB hca hcb (fun ea eb => Option.some.inj (hr.symm.trans (ea ▸ eb ▸ hrv)))
      (fun la lb => refBroadcast_leAll la lb hr hrv)
  | case2 => exact nofun
  | case3 va vb hcb hca =>
    rintro ⟨⟩
    exact (refBroadcast_length hr).trans (by rw [(cvalue_le hA hca).length_eq, (cvalue_le hB hcb).length_eq])
  | case4 va hcv =>
    rintro ⟨⟩; cases constv?_eq hA hcv
    exact bcastConstRt_sound hpa (lenK_sound hB) hr
  | case5 vb hcv =>
    rintro ⟨⟩; cases constv?_eq hB hcv
    exact bcastRtConst_eq .. ▸ bcastConstRt_sound hpb (lenK_sound hA) (refBroadcast_comm a b ▸ hr)
  | case6 => rintro ⟨⟩; exact bcastLenK_sound (lenK_sound hA) (lenK_sound hB) (refBroadcast_length hr)

theorem concatLen_sound {la lb : LenK} {t : Shape} (ha : la.γ t.length) (hb : lb.γ t.length) : (concatLen la lb).γ t := by
  fun_cases concatLen la lb with
  | case1 | case2 => trivial
  | case3 | case5 => exact ha
  | case4 => exact hb

theorem concatFallback_sound {i j : SInfo} {a b t : Shape} {k : AxisK} {axis : Option Nat}
    (hi : i.γ a) (hj : j.γ b) (hk : k.γ1 axis) (hr : refConcat axis a b = some t) :
    (concatFallback k i j).γ t := by
  obtain ⟨_, hsome, _⟩ := refConcat_spec hr
  have hlen : axis ≠ none → (concatLen i.shape.lenK j.shape.lenK).γ t := fun hne =>
    concatLen_sound ((hsome hne).1 ▸ lenK_sound hi.1) ((hsome hne).2 ▸ lenK_sound hj.1)
  cases k with
  | none =>
    cases (hk : axis = none); cases hr
    have h1 := hi.2; have h2 := hj.2
    show (concatFlat i.size j.size).γ _
    generalize i.size = zi, j.size = zj at h1 h2 ⊢
    fun_cases concatFlat zi zj
    · rw [h1, h2]; rfl
    · rfl
  | cts x => cases (hk : axis = some x); exact hlen (by simp)
  | rts => exact hlen hk
  | ctt c => exact hk.elim
  | rt n => exact hk.elim

theorem concatShapeK_sound {i j : SInfo} {d : ShapeK} {a b t : Shape} {k : AxisK} {axis : Option Nat}
    (hi : i.γ a) (hj : j.γ b) (hk : k.γ1 axis) (hr : refConcat axis a b = some t)
    (hd : concatShapeK k i j = some d) : d.γ t := by
  unfold concatShapeK at hd
  split at hd
  · rename_i va vb ax hca hcb hax
    cases AxisK.staticAxis?_eq hk hax
    obtain ⟨r, hrv, rfl⟩ := Option.map_eq_some_iff.mp hd
    exact constOrClipped_sound hi.1 hj.1 hca hcb (fun ea eb => Option.some.inj (hr.symm.trans (ea ▸ eb ▸ hrv)))
      (fun la lb => leAll_bump' ((refConcat_spec hr).2.2 la lb hrv))
  · cases hd
    exact concatFallback_sound hi hj hk hr

theorem repeatShapeK_sound {sh d : ShapeK} {s t : Shape} {rep : NumK} {r : Nat} {ax : AxisK} {axis : Option Nat}
    (hsh : sh.γ s) (hr : rep.γ r) (hax : ax.γ1 axis) (href : refRepeat r axis s = some t)
    (hd : repeatShapeK sh rep ax = some d) : d.γ t := by
  obtain ⟨hnone, hsome, hmono⟩ := refRepeat_spec href
  unfold repeatShapeK at hd
  split at hd
  · rename_i v r' axis' hc hax'
    cases (hr : r = r')
    cases AxisK.staticAxis?_eq hax hax'
    exact like_map_sound hsh hc href hmono hd
  · cases ax with
    | none => cases hd; exact hnone hax
    | cts x => cases hd; exact lenK_toShapeK_of_length_eq hsh (hsome fun h => nomatch (hax : axis = some x).symm.trans h)
    | rts => cases hd; exact lenK_toShapeK_of_length_eq hsh (hsome hax)
    | ctt c | rt n => cases hd

theorem padShapeK_sound {sh d : ShapeK} {s t : Shape} {w : ArrK} {pw : List Nat}
    (hsh : sh.γ s) (hk : w.γ pw) (href : refPad pw s = some t) (hd : padShapeK sh w = some d) : d.γ t := by
  obtain ⟨hlen, hmono⟩ := refPad_spec href
  unfold padShapeK at hd
  split at hd
  · rename_i v m hc hm
    obtain ⟨t', ht', rfl⟩ := Option.map_eq_some_iff.mp hd
    rw [← w.toShapeK_isConst]
    exact constOrClipped_sound hsh (arrK_toShapeK_sound hk) hc (w.toShapeK_cvalue.trans hm)
      (fun e1 e2 => Option.some.inj (href.symm.trans (e1 ▸ e2 ▸ ht'))) (fun l1 l2 => hmono l1 l2 ht')
  · cases hd; exact lenK_toShapeK_of_length_eq hsh hlen

theorem rollAxisInfo_sound (b : Bool) {i : SInfo} {s : Shape} (h : i.γ s) : (rollAxisInfo b i).γ s := by
  have hs := seen_sound h
  unfold rollAxisInfo
  refine indexingInfo_sound ?_ hs.2
  split
  · rename_i heq; exact heq ▸ hs.1
  · exact lenK_toShapeK_of_length_eq hs.1 rfl

theorem sliceShapeK_sound {sh d : ShapeK} {s t : Shape} {n : Nat} (hsh : sh.γ s) (hlen : t.length + n = s.length)
    (hd : sliceShapeK n sh = some d) : d.γ t := by
  have hl := lenK_sound hsh
  unfold sliceShapeK at hd
  generalize sh.lenK = L at hd hl
  split at hd
  · cases (Option.ite_none_right_eq_some.mp hd).2
    exact Nat.eq_sub_of_add_eq (hlen.trans hl)
  · cases hd
    exact Nat.le_trans (Nat.le_add_right _ n) (Nat.le_trans (Nat.le_of_eq hlen) hl)
  · cases hd; trivial

theorem takeShapeK_sound {sh d : ShapeK} {s t : Shape} {idx : ArrK} {ix : List Nat} {ax : AxisK} {axis : Nat}
    (hsh : sh.γ s) (hk : idx.γ ix) (hax : ax.γ1 (some axis)) (href : refTake ix.length axis s = some t)
    (hd : takeShapeK sh idx ax = some d) : d.γ t := by
  have hlen : t.length = s.length := refTake_spec href ▸ List.length_set
  revert hd
  fun_cases takeShapeK sh idx ax with
  | case1 x v ix' hc =>
    cases (hax : some axis = some x); cases (hk : ix = ix')
    exact like_map_sound hsh hc href
      (fun hle h' => refTake_spec href ▸ refTake_spec h' ▸ hle.set _ _)
  | case2 | case3 => rintro ⟨⟩; exact lenK_toShapeK_of_length_eq hsh hlen
  | case4 => exact nofun

theorem atleastShapeK_sound (nd : Nat) {sh : ShapeK} {s : Shape} (hsh : sh.γ s) : (atleastShapeK nd sh).γ (refAtleastNd nd s) := by
  cases sh with
  | const l => exact congrArg (refAtleastNd nd) hsh
  | clipped b =>
    show LeAll (List.replicate (nd - s.length) 1 ++ s) (List.replicate (nd - b.length) 1 ++ b)
    rw [LeAll.length_eq hsh]
    exact LeAll.append (LeAll.refl _) hsh
  | fixedDim k => exact (length_refAtleastNd nd s).trans (congrArg (max · nd) hsh)
  | boundedDim k =>
    exact Nat.le_trans (Nat.le_of_eq (length_refAtleastNd nd s)) (Nat.max_le_max hsh (Nat.le_refl _))
  | dyn => trivial

/-- an operand of size 1 does not change the product of the broadcast, so the other operand's size kind survives -/
theorem bsizeStep_sound {z1 z2 : SizeK} {a b t : Shape} (h1 : z1.γ (prod a)) (h2 : z2.γ (prod b))
    (h : refBroadcast a b = some t) : (bsizeStep z1 z2).γ (prod t) := by
  fun_cases bsizeStep z1 z2 with
  | case1 | case2 => exact refBroadcast_prod_one_left h1 h ▸ h2
  | case3 | case4 => exact refBroadcast_prod_one_right h2 h ▸ h1
  | case5 => trivial

theorem bsizeK_sound {B : ShapeK} {z : SizeK} {zs : List SizeK} {t : Shape} (hB : B.γ t)
    (hz : (zs.foldl bsizeStep z).γ (prod t)) : (bsizeK B (z :: zs)).γ (prod t) := by
  cases B with
  | const _ | clipped _ => exact productK_sound hB
  | _ => exact hz

theorem matmulShapeK_sound {A B d : ShapeK} {a b t : Shape} (hA : A.γ a) (hB : B.γ b)
    (hlen : t.length = max a.length b.length) (hd : matmulShapeK A B = some d) : d.γ t := by
  have hb := bcastLenK_sound (lenK_sound hA) (lenK_sound hB) hlen
  unfold matmulShapeK at hd
  generalize A.lenK = la, B.lenK = lb at hd hb
  split at hd
  · cases (Option.ite_none_right_eq_some.mp hd).2
    exact hb
  · cases hd; exact hb

theorem matmulSize_sound {i j : SInfo} {a b t : Shape} (hi : i.γ a) (hj : j.γ b) (hprod : prod t ≤ prod a * prod b) :
    (matmulSize i j).γ (prod t) := by
  unfold matmulSize
  split
  · rename_i hx hy
    exact Nat.le_trans hprod (Nat.mul_le_mul (bsz_sound hi hx) (bsz_sound hj hy))
  · trivial

theorem trilShapeK_sound {sh : ShapeK} {s : Shape} (h : sh.γ s) : (trilShapeK sh).γ (refTril s) := by
  have hl := lenK_sound h
  cases sh with
  | const l => exact congrArg refTril h
  | clipped b | fixedDim k => exact (length_refTril s).trans (congrArg trilLen hl)
  | boundedDim k => exact Nat.le_trans (Nat.le_of_eq (length_refTril s)) (trilLen_le hl)
  | dyn => trivial

theorem poolShapeK_sound {sh d : ShapeK} {s t : Shape} {kk sk : ArrK} {kv sv : List Nat} {ceil : Bool}
    (hsh : sh.γ s) (hk : kk.γ kv) (hs : sk.γ sv) (href : refPool ceil kv sv s = some t)
    (hd : poolShapeK sh kk sk ceil = some d) : d.γ t := by
  obtain ⟨hlen, hmono⟩ := refPool_spec href
  unfold poolShapeK at hd
  split at hd
  · rename_i v kv' sv' hc
    cases (hk : kv = kv'); cases (hs : sv = sv')
    exact like_map_sound hsh hc href hmono hd
  · cases hd; exact lenK_toShapeK_of_length_eq hsh hlen

theorem resizeRt_sound {src dst : LenK} {d : ShapeK} {t : Shape} (hL : dst.γ t.length) (hd : resizeRt src dst = some d) : d.γ t := by
  revert hd
  fun_cases resizeRt src dst with
  | case1 | case4 | case5 | case6 | case7 => rintro ⟨⟩; exact hL
  | case2 | case3 => exact nofun

theorem resizeShapeK_sound {sh d : ShapeK} {s t : Shape} {k : ArrK} {targ : List Nat}
    (hsh : sh.γ s) (hk : k.γ targ) (href : refResize targ s = some t) (hd : resizeShapeK sh k = some d) : d.γ t := by
  have hL := arrK_lenK_sound hk
  unfold resizeShapeK at hd
  split at hd
  · rename_i l tt
    cases (hk : targ = tt); cases (hsh : s = l)
    rw [href] at hd; cases hd; rfl
  · exact refResize_spec href ▸ resizeRt_sound hL hd

theorem winK_lenK_sound {w : WinK} {wv : WinV} (h : w.γ wv) : w.lenK.γ wv.len := by
  revert h
  fun_cases WinK.γ w wv with
  | case1 => exact fun _ => rfl
  | case2 => exact arrK_lenK_sound
  | case3 => exact False.elim

theorem swShapeK_sound {sh d : ShapeK} {s t : Shape} {w : WinK} {wv : WinV} {ax : AxisK} {axis : Option Nat}
    (hsh : sh.γ s) (hw : w.γ wv) (hax : ax.γ1 axis) (href : refSlidingWindow wv axis s = some t)
    (hd : swShapeK sh w ax = some d) : d.γ t := by
  replace hd := (Option.ite_none_right_eq_some.mp hd).2
  unfold swInner at hd
  split at hd
  · rename_i l wv' axis' hws has
    cases WinK.static?_eq hw hws; cases AxisK.staticAxis?_eq hax has
    cases (hsh : s = l)
    rw [href] at hd; cases hd; rfl
  · cases hd
    exact toShapeK_of_lenK (refSlidingWindow_length href ▸ lenK_plus_sound (lenK_sound hsh) (winK_lenK_sound hw))

theorem compressRt_sound {sh d : ShapeK} {s t : Shape} {c : List Nat} {ax : AxisK} {axis : Option Nat}
    (hsh : sh.γ s) (hax : ax.γ1 axis) (href : refCompress c axis s = some t) (hd : compressRt sh ax = some d) : d.γ t := by
  obtain ⟨_, hnone, hsome, hle, _⟩ := refCompress_spec href
  have hkeep : axis ≠ none → sh.keepClipped.γ t := fun hne => by
    cases sh with
    | clipped b => exact hle b hne hsh
    | _ => exact lenK_toShapeK_of_length_eq hsh (hsome hne)
  cases ax with
  | none => cases hd; exact hnone hax
  | cts x => cases hd; exact hkeep fun h => nomatch (hax : axis = some x).symm.trans h
  | rts => cases hd; exact hkeep hax
  | ctt l | rt n => cases hd

theorem compressShapeK_sound {sh d : ShapeK} {s t : Shape} {c : ArrK} {cv : List Nat} {ax : AxisK} {axis : Option Nat}
    (hsh : sh.γ s) (hc : c.γ cv) (hax : ax.γ1 axis) (href : refCompress cv axis s = some t)
    (hd : compressShapeK sh c ax = some d) : d.γ t := by
  unfold compressShapeK at hd
  split at hd
  · rename_i cv' v axis' hcv has
    cases (hc : cv = cv'); cases AxisK.staticAxis?_eq hax has
    obtain ⟨r, hr, rfl⟩ := Option.map_eq_some_iff.mp hd
    split
    · cases isConst_eq hsh hcv ‹_›
      exact Option.some.inj (href.symm.trans hr)
    · exact leAll_bump' ((refCompress_spec href).2.2.2.2 (cvalue_le hsh hcv) hr)
  · exact compressRt_sound hsh hax href hd

theorem outerShapeK_sound {A B : ShapeK} {a b : Shape} (hA : A.γ a) (hB : B.γ b) : (outerShapeK A B).γ (refOuter a b) := by
  unfold outerShapeK refOuter
  split
  · rename_i va vb hca hcb
    exact constOrClipped_sound hA hB hca hcb (fun ea eb => ea ▸ eb ▸ rfl) LeAll.append
  · apply toShapeK_of_lenK
    rw [List.length_append]
    exact lenK_plus_sound (lenK_sound hA) (lenK_sound hB)

theorem outerSizeK_sound {d : ShapeK} {za zb : SizeK} {a b : Shape} (hd : d.γ (refOuter a b))
    (ha : za.γ (prod a)) (hb : zb.γ (prod b)) : (outerSizeK d za zb).γ (prod (refOuter a b)) := by
  have hp : prod (refOuter a b) = prod a * prod b := prod_append a b
  fun_cases outerSizeK d za zb with
  | case1 l => exact congrArg prod hd
  | case2 _ _ x ca y cb h2 h1 hcc =>
    simp only [Bool.and_eq_true] at hcc
    rw [hp, (SizeK.static?_sound ha h1).2 hcc.1, (SizeK.static?_sound hb h2).2 hcc.2]; rfl
  | case3 _ _ x ca y cb h2 h1 =>
    exact hp ▸ Nat.mul_le_mul (SizeK.static?_sound ha h1).1 (SizeK.static?_sound hb h2).1
  | case4 => trivial

end NmVerif.Static
