import NmVerif.Eval.Eval
import NmVerif.Lemmas.Addressing
import NmVerif.Lemmas.NDAWrite
/-
  The copy loop `foldl (copyStep v s)` over ANY list of flat positions: it keeps the output's layout, and afterwards a
  logical element holds the view's element if its position was visited and its previous value if not (`fold_copy_get`).
  The evaluator (C10) runs it over `range (prod s)`, a kernel launch (C13) over the in-range thread ids of its schedule.
-/
namespace NmVerif.Props.C10
open NmVerif NmVerif.Eval

variable {α : Type}

theorem copyStep_layout (v : Arr α) (s : Shape) (o : NDA α) (i : Nat) :
    (copyStep v s o i).shape = o.shape ∧ (copyStep v s o i).colMajor = o.colMajor ∧
    (copyStep v s o i).data.length = o.data.length := by
  simp [copyStep, NDA.set]

theorem fold_copy_layout (v : Arr α) (s : Shape) (l : List Nat) (o : NDA α) :
    (l.foldl (copyStep v s) o).shape = o.shape ∧ (l.foldl (copyStep v s) o).colMajor = o.colMajor ∧
    (l.foldl (copyStep v s) o).data.length = o.data.length := by
  induction l generalizing o with
  | nil => simp
  | cons i is ih =>
    simp only [List.foldl_cons]
    have h := copyStep_layout v s o i
    have := ih (copyStep v s o i)
    exact ⟨this.1.trans h.1, this.2.1.trans h.2.1, this.2.2.trans h.2.2⟩

theorem fold_copy_get (v : Arr α) (s : Shape) (l : List Nat)
    (o : NDA α) (hw : o.WF) (hsh : o.shape = s) (j : Idx) (hj : InShape j s) :
    let r := l.foldl (copyStep v s) o
    r.shape = s ∧ r.WF ∧
    r.get? j = if (∃ i ∈ l, ndindex s i = j) then some (v.get j) else o.get? j := by
  induction l generalizing o with
  | nil => simp [hsh, hw]
  | cons i is ih =>
    have hin : InShape (ndindex s i) s := indices_inShape (pos_of_inShape hj) i
    have hw' : (copyStep v s o i).WF := by
      unfold copyStep; exact C01.set_WF o hw _ _
    obtain ⟨h1, h2, h3⟩ := ih (copyStep v s o i) hw' ((copyStep_layout v s o i).1.trans hsh)
    refine ⟨h1, h2, ?_⟩
    have hstep : (copyStep v s o i).get? j = if ndindex s i = j then some (v.get j) else o.get? j := by
      unfold copyStep
      split
      next hij => rw [hij]; exact C01.get_set_same o hw j (hsh ▸ hj) _
      next hij => exact C01.get_set_other o (ndindex s i) j (hsh ▸ hin) (hsh ▸ hj) hij _
    simp only [List.foldl_cons, h3, hstep, List.mem_cons, exists_eq_or_imp]
    by_cases hex : ∃ k ∈ is, ndindex s k = j <;> by_cases hij : ndindex s i = j <;> simp [hex, hij]

end NmVerif.Props.C10
