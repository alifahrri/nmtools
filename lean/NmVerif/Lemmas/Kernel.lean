import NmVerif.Kernel
import NmVerif.Lemmas.CopyLoop
/-
  On a row-major output with a full buffer the thread body `assignResult` is the evaluator's copy step under the guard
  `idx < size`, so a launch is the copy loop over the in-range thread ids of the schedule, in schedule order; what it
  leaves in a cell is then the copy loop's invariant (`C10.fold_copy_get`, stated for any list of positions).
-/
namespace NmVerif.Kernel
open NmVerif NmVerif.Eval NmVerif.Props

variable {α : Type}

theorem _root_.NmVerif.Arr.flat_getElem? (a : Arr α) (k : Nat) (hk : k < prod a.shape) :
    a.flat[k]? = some (a.get (ndindex a.shape k)) := by
  unfold Arr.flat
  rw [← Shape.map_ndindex_range, List.map_map]
  simp [hk]

theorem _root_.NmVerif.Arr.flat_length (a : Arr α) : a.flat.length = prod a.shape := by
  rw [Arr.flat, List.length_map, Shape.allIdx_length]

/-- a row-major output of positive extents whose buffer has `prod shape` cells -/
structure GoodOut (out : NDA α) : Prop where
  row : out.colMajor = false
  wf : out.WF
  pos : Pos out.shape

theorem rowMajor_offset_ndindex {o : NDA α} (hrow : o.colMajor = false) {i : Nat} (h : i < prod o.shape) :
    o.offset (ndindex o.shape i) = i := by
  simp only [NDA.offset, NDA.stridesOf, hrow]
  exact Shape.offset_ndindex h

theorem assignResult_eq_copyStep (result : Arr α) (bsz : Nat) (out : NDA α) (t : Nat × Nat)
    (g : GoodOut out) (hsh : result.shape = out.shape) :
    assignResult result bsz out t =
      some (if threadOffset bsz t < prod out.shape then copyStep result out.shape out (threadOffset bsz t) else out) := by
  unfold assignResult
  simp only [hsh]
  split
  next h => rw [rowMajor_offset_ndindex g.row h, if_pos (g.wf ▸ h)]; rfl
  next => rfl

theorem runSchedule_eq_copyLoop (result : Arr α) (bsz : Nat) (sched : List (Nat × Nat)) (out : NDA α) (g : GoodOut out)
    (hsh : result.shape = out.shape) :
    runSchedule result bsz out sched =
      some (((sched.map (threadOffset bsz)).filter (· < prod out.shape)).foldl (copyStep result out.shape) out) := by
  induction sched generalizing out with
  | nil => rfl
  | cons t ts ih =>
    rw [runSchedule, List.foldlM_cons, assignResult_eq_copyStep result bsz out t g hsh, Option.bind_eq_bind, Option.bind_some,
      List.map_cons, List.filter_cons]
    by_cases h : threadOffset bsz t < prod out.shape
    · rw [if_pos h, if_pos (decide_eq_true h)]; exact ih _ ⟨g.row, C01.set_WF out g.wf _ _, g.pos⟩ hsh
    · rw [if_neg h, if_neg (by simpa using h)]; exact ih _ g hsh

theorem copyLoop_cell (v : Arr α) (l : List Nat) (out : NDA α) (g : GoodOut out) (hl : ∀ k ∈ l, k < prod out.shape)
    {i : Nat} (hi : i < prod out.shape) :
    (l.foldl (copyStep v out.shape) out).data[i]? = if i ∈ l then some (v.get (ndindex out.shape i)) else out.data[i]? := by
  have hin := indices_inShape g.pos i
  obtain ⟨hs, hc, -⟩ := C10.fold_copy_layout v out.shape l out
  obtain ⟨-, -, hget⟩ := C10.fold_copy_get v out.shape l out g.wf rfl (ndindex out.shape i) hin
  have hmem : (∃ k ∈ l, ndindex out.shape k = ndindex out.shape i) ↔ i ∈ l :=
    ⟨fun ⟨k, hk, e⟩ => by rwa [← ((Shape.ndindex_eq_iff (hl k hk) hin).1 e).symm.trans (offset_indices g.pos hi)],
      fun h => ⟨i, h, rfl⟩⟩
  have hcell : ∀ o : NDA α, o.shape = out.shape → o.colMajor = out.colMajor → o.get? (ndindex out.shape i) = o.data[i]? :=
    fun o h1 h2 => by rw [← h1]; exact o.get?_ndindex_rowMajor (h2 ▸ g.row) i (h1 ▸ hi)
  rw [← hcell _ hs hc, hget, hcell out rfl rfl]; simp only [hmem]

theorem _root_.NmVerif.Arr.Equiv.flat_eq {a b : Arr α} (h : a.Equiv b) : a.flat = b.flat := by
  unfold Arr.flat
  rw [← h.1]
  apply List.map_congr_left
  intro i hi
  exact h.2 i ((Shape.mem_allIdx_iff _ _).mp hi)

theorem mem_launchAsc (bsz grid : Nat) (t : Nat × Nat) : t ∈ launchAsc bsz grid ↔ t.1 < bsz ∧ t.2 < grid := by
  unfold launchAsc
  simp only [List.mem_flatMap, List.mem_range, List.mem_map]
  constructor
  · rintro ⟨b, hb, x, hx, rfl⟩; exact ⟨hx, hb⟩
  · rintro ⟨h1, h2⟩; exact ⟨t.2, h2, t.1, h1, rfl⟩

end NmVerif.Kernel
