import NmVerif.Index.Slice
import Mathlib.Tactic.SplitIfs
/-
  Helper lemmas for C05 (slicing), per axis: the implementation's normalisation `slice_indices` is Python's
  `slice.indices` for every extent and every start/stop/step; length and element map follow.
-/
namespace NmVerif.Slice

theorem u64_small (x : Int) (h1 : 0 ≤ x) (h2 : x < 18446744073709551616) : u64 x = x := Int.emod_eq_of_lt h1 h2

/-- step, start and stop of `pyIndices` as functions of the arguments (an omitted step reads as 1), so that statements can
    name them without an `∃` -/
def stepVal : Option Int → Int
  | none => 1
  | some k => k

def pyStart (n : Int) (a c : Option Int) : Int := pyAdjust n (stepVal c) (n - 1) 0 a
def pyStop (n : Int) (b c : Option Int) : Int := pyAdjust n (stepVal c) (-1) n b

theorem pyIndices_eq (n : Int) (a b c : Option Int) :
    pyIndices n a b c = if stepVal c = 0 then none else some (pyStart n a c, pyStop n b c, stepVal c) := by
  cases c <;> rfl

theorem pyAxis_eq (n : Nat) (a b c : Option Int) :
    pyAxis n a b c = if stepVal c = 0 then none
      else some ((pyLen (pyStart n a c) (pyStop n b c) (stepVal c)).toNat, pyStart n a c, stepVal c) := by
  rw [pyAxis, pyIndices_eq]
  split_ifs <;> rfl

theorem pyAxis_some {n : Nat} {a b c : Option Int} {l : Nat} {f k : Int} (h : pyAxis n a b c = some (l, f, k)) :
    stepVal c ≠ 0 ∧ l = (pyLen (pyStart n a c) (pyStop n b c) (stepVal c)).toNat ∧ f = pyStart n a c ∧ k = stepVal c := by
  obtain ⟨hk, ⟨⟩⟩ := Option.ite_none_left_eq_some.1 (pyAxis_eq .. ▸ h)
  exact ⟨hk, rfl, rfl, rfl⟩

/-- `slice_indices` shifts a negative bound by `n` and then clamps into `[lo, hi]`; CPython tests the sign first and
    then clamps on one side only -/
theorem clamp_shift (n lo hi v : Int) (h1 : -1 ≤ lo) (h2 : lo ≤ 0) (h3 : hi = n + lo) :
    (if (if v < 0 then v + n else v) < lo then lo
      else if (if v < 0 then v + n else v) > hi then hi else if v < 0 then v + n else v) =
    if v < 0 then (if v + n < 0 then lo else v + n) else if v ≥ n then hi else v := by
  by_cases hv : v < 0
  · -- a shifted negative bound is below `n`, so only the lower clamp can act
    have hw : ¬ v + n > hi := by omega
    simp only [hv, if_true, hw, if_false]
    split_ifs <;> first | rfl | omega
  · -- a non-negative bound is above `lo`, so only the upper clamp can act
    have hw : ¬ v < lo := by omega
    simp only [hv, if_false, hw]
    split_ifs <;> first | rfl | omega

/-- … so an adjusted bound lies in `[lo, hi]`: of a clamp this is plain -/
theorem adjusted_bounds (n lo hi v : Int) (hn : 0 ≤ n) (h1 : -1 ≤ lo) (h2 : lo ≤ 0) (h3 : hi = n + lo) :
    lo ≤ (if v < 0 then (if v + n < 0 then lo else v + n) else if v ≥ n then hi else v) ∧
    (if v < 0 then (if v + n < 0 then lo else v + n) else if v ≥ n then hi else v) ≤ hi := by
  rw [← clamp_shift n lo hi v h1 h2 h3]
  generalize (if v < 0 then v + n else v) = b
  split_ifs <;> omega

theorem pyAdjust_bounds (n : Nat) (k dN dP : Int) (x : Option Int) (hN : -1 ≤ dN ∧ dN ≤ n - 1) (hP : 0 ≤ dP ∧ dP ≤ n) :
    (if k < 0 then -1 else 0) ≤ pyAdjust n k dN dP x ∧ pyAdjust n k dN dP x ≤ if k < 0 then (n : Int) - 1 else n := by
  have hn := Int.natCast_nonneg n
  by_cases hk : k < 0 <;> cases x <;> simp only [pyAdjust, hk, if_true, if_false]
  · exact hN
  · exact adjusted_bounds n (-1) (n - 1) _ hn (by decide) (by decide) (by omega)
  · exact hP
  · exact adjusted_bounds n 0 n _ hn (by decide) (by decide) (by omega)

theorem pyLen_nonneg (st sp k : Int) : 0 ≤ pyLen st sp k := by
  unfold pyLen
  split_ifs with h1 h2 h2
  · exact Int.le_add_one (Int.ediv_nonneg (by omega) (by omega))
  · exact Int.le_refl 0
  · exact Int.le_add_one (Int.ediv_nonneg (by omega) (by omega))
  · exact Int.le_refl 0

theorem lt_pyLen_iff (st sp k : Int) (hk : k ≠ 0) (j : Nat) :
    (j : Int) < pyLen st sp k ↔ if 0 < k then st + j * k < sp else sp < st + j * k := by
  unfold pyLen
  by_cases hp : 0 < k
  · have hjk : 0 ≤ (j : Int) * k := Int.mul_nonneg (Int.natCast_nonneg j) (Int.le_of_lt hp)
    rw [if_neg (Int.not_lt.2 (Int.le_of_lt hp)), if_pos hp]
    split
    · rw [Int.lt_add_one_iff, Int.le_ediv_iff_mul_le hp]; omega
    · omega
  · have hneg : k < 0 := by omega
    have hk' : 0 < -k := Int.neg_pos_of_neg hneg
    have hjk : 0 ≤ (j : Int) * -k := Int.mul_nonneg (Int.natCast_nonneg j) (Int.le_of_lt hk')
    rw [Int.mul_neg] at hjk
    rw [if_pos hneg, if_neg hp]
    split
    · rw [Int.lt_add_one_iff, Int.le_ediv_iff_mul_le hk', Int.mul_neg]; omega
    · omega

/-- SPEC sanity, for every input: the elements Python selects lie inside the axis -/
theorem pyAxis_inBounds (n : Nat) (a b c : Option Int) (hk : stepVal c ≠ 0) (j : Nat)
    (hj : j < (pyLen (pyStart n a c) (pyStop n b c) (stepVal c)).toNat) :
    0 ≤ pyStart n a c + j * stepVal c ∧ pyStart n a c + j * stepVal c < n ∧ j < n := by
  simp only [pyStart, pyStop] at hj ⊢
  replace hj := (lt_pyLen_iff _ _ _ hk j).1 (Int.lt_toNat.1 hj)
  have hn := Int.natCast_nonneg n
  have hn' : (-1 : Int) ≤ n - 1 := by omega
  have h1 := pyAdjust_bounds n (stepVal c) (n - 1) 0 a ⟨hn', Int.le_refl _⟩ ⟨Int.le_refl _, hn⟩
  have h2 := pyAdjust_bounds n (stepVal c) (-1) n b ⟨Int.le_refl _, hn'⟩ ⟨hn, Int.le_refl _⟩
  -- start, stop in the clamped interval (`h1`, `h2`); element `j` between them (`hj`), at least `j` from start (`this`)
  by_cases hp : 0 < stepVal c
  · have : (j : Int) * 1 ≤ j * stepVal c := Int.mul_le_mul_of_nonneg_left hp (Int.natCast_nonneg j)
    have hnn : ¬ stepVal c < 0 := Int.not_lt.2 (Int.le_of_lt hp)
    rw [if_pos hp] at hj
    rw [if_neg hnn, if_neg hnn] at h1 h2
    omega
  · have hneg : stepVal c < 0 := by omega
    have : (j : Int) * 1 ≤ j * -stepVal c :=
      Int.mul_le_mul_of_nonneg_left (Int.neg_pos_of_neg hneg) (Int.natCast_nonneg j)
    rw [Int.mul_neg] at this
    rw [if_neg hp] at hj
    rw [if_pos hneg, if_pos hneg] at h1 h2
    omega

theorem sliceIndices_some (n : Nat) (a b : Option Int) (k : Int) :
    sliceIndices n a b (some k) = (pyAdjust n k (n - 1) 0 a, pyAdjust n k (-1) n b, k) := by
  -- `delta`: the equation lemma that `simp only [sliceIndices]` or `unfold` would ask for is slow to generate (three
  -- `match`es under `let`s, one of them a closure)
  delta sliceIndices
  by_cases hk : k < 0
  · have cl := fun v => clamp_shift n (-1) (n - 1) v (by decide) (by decide) (by omega)
    simp only [hk, if_true, cl]
    cases a <;> cases b <;> simp only [pyAdjust, hk, if_true]
  · have cl := fun v => clamp_shift n 0 n v (by decide) (by decide) (by omega)
    simp only [hk, if_false, cl]
    cases a <;> cases b <;> simp only [pyAdjust, hk, if_false]

theorem sliceIndices_eq_python (n : Nat) (a b c : Option Int) :
    sliceIndices n a b c = (pyStart n a c, pyStop n b c, stepVal c) := by
  cases c
  · exact sliceIndices_some n a b 1   -- an omitted step is read as 1 by both sides
  · exact sliceIndices_some n a b _

theorem computeStep_eq (c : Option Int) : computeStep c = absI (stepVal c) := by
  cases c <;> rfl

theorem sliceLen_eq_python (n : Nat) (a b c : Option Int) (hk : stepVal c ≠ 0) :
    sliceLen n a b c = some (pyLen (pyStart n a c) (pyStop n b c) (stepVal c)) := by
  have key : ∀ x y m : Int, 0 < m →
      ((if x - y < 0 then 0 else x - y) + m - 1) / m = if y < x then (x - y - 1) / m + 1 else 0 := by
    intro x y m hm
    by_cases h : y < x
    · rw [if_neg (by omega), if_pos h, show x - y + m - 1 = x - y - 1 + 1 * m by omega,
        Int.add_mul_ediv_right _ _ (by omega)]
    · rw [if_neg h, show (if x - y < 0 then 0 else x - y) = 0 by split <;> omega]
      exact Int.ediv_eq_zero_of_lt (by omega) (by omega)
  have hak : ¬ absI (stepVal c) ≤ 0 := by unfold absI; split_ifs <;> omega
  rw [sliceLen, lengthOf, computeStep_eq, if_neg hak, computeRange, sliceIndices_eq_python]
  unfold pyLen absI
  by_cases hneg : stepVal c < 0
  · simp only [hneg, if_true]
    exact congrArg some (key _ _ _ (by omega))
  · simp only [hneg, if_false]
    exact congrArg some (key _ _ _ (by omega))

/-- one range on one axis, all three readings in the same closed terms: the reference `pyAxis`, the MODEL's extent, the
    MODEL's element map (which stays on the axis) -/
theorem range_eq_pyAxis (n : Nat) (a b c : Option Int) (hn : n < 18446744073709551616) (hk : stepVal c ≠ 0) :
    pyAxis n a b c = some ((pyLen (pyStart n a c) (pyStop n b c) (stepVal c)).toNat, pyStart n a c, stepVal c) ∧
      sliceLen n a b c = some ((pyLen (pyStart n a c) (pyStop n b c) (stepVal c)).toNat : Int) ∧
      ∀ j : Nat, j < (pyLen (pyStart n a c) (pyStop n b c) (stepVal c)).toNat →
        computeIndex n a b c j = pyStart n a c + j * stepVal c ∧ 0 ≤ pyStart n a c + j * stepVal c ∧
          pyStart n a c + j * stepVal c < n := by
  refine ⟨by rw [pyAxis_eq, if_neg hk], ?_, fun j hj => ?_⟩
  · rw [sliceLen_eq_python n a b c hk, Int.toNat_of_nonneg (pyLen_nonneg _ _ _)]
  · obtain ⟨h0, h1, _⟩ := pyAxis_inBounds n a b c hk j hj
    rw [computeIndex, sliceIndices_eq_python]
    exact ⟨u64_small _ h0 (Int.lt_trans h1 (Int.ofNat_lt.2 hn)), h0, h1⟩

theorem intIndex_dom (n : Nat) (k : Int) (h1 : -(n : Int) ≤ k) (h2 : k < n) (h3 : n < 18446744073709551616) :
    intIndex n k = (if k < 0 then k + n else k) ∧ 0 ≤ intIndex n k ∧ intIndex n k < n := by
  -- the wrapped position is `k + n` or `k`, inside `[0, n)`, hence unchanged by the conversion to `size_t`
  have key : ∀ x : Int, 0 ≤ x → x < n → u64 x = x ∧ 0 ≤ u64 x ∧ u64 x < n := fun x h0 hx => by
    rw [u64_small x h0 (Int.lt_trans hx (Int.ofNat_lt.2 h3))]; exact ⟨rfl, h0, hx⟩
  by_cases hk : k < 0
  · simp only [intIndex, absI, hk, if_true]
    rw [Int.sub_neg, Int.add_comm]
    exact key _ (by omega) (by omega)
  · simp only [intIndex, hk, if_false]
    exact key _ (Int.not_lt.1 hk) h2

end NmVerif.Slice
