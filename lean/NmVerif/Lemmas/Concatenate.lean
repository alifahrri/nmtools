import NmVerif.Index.Concatenate
import NmVerif.Lemmas.SelCommon
/-
  SPEC of np.concatenate((a, b), axis) and proofs that the MODEL meets it (stated for the normalised axis position `k`).
  NumPy: ranks equal, extents equal off the axis; result extent `a[k] + b[k]` on the axis;
         `out[d] = a[d]` when `d[k] < a[k]`, else `b[d with d[k] - a[k]]`; axis None concatenates the flattened operands.
-/
namespace NmVerif.Index

/-- the operands may be joined along axis `k` -/
def ConcatCompatible (a b : Shape) (k : Nat) : Prop :=
  a.length = b.length ∧ k < a.length ∧ ∀ j, j ≠ k → a[j]? = b[j]?

theorem ConcatCompatible.eq_set {a b : Shape} {k y : Nat} (h : ConcatCompatible a b k) (hb : b[k]? = some y) :
    b = a.set k y := by
  apply List.ext_getElem?
  intro j
  by_cases hj : k = j
  · subst hj; rw [List.getElem?_set_self h.2.1, hb]
  · rw [List.getElem?_set_ne hj, h.2.2 j (Ne.symm hj)]

/-- against an operand that differs from `as` only where the loop is on the axis (`mapAt`, the model's own spelling of that),
    `shape_concatenate` succeeds and adds the two extents there -/
theorem shapeConcatLoop_mapAt (g : Nat → Nat) (ax : Int) (i : Nat) (as : Shape) :
    shapeConcatLoop ax i as (mapAt g ax i as) = (true, mapAt (fun e => e + g e) ax i as) := by
  induction as generalizing i with
  | nil => rfl
  | cons a as ih =>
    by_cases h : (i : Int) = ax
    · simp only [mapAt, shapeConcatLoop, h, if_true, ih]
    · simp only [mapAt, shapeConcatLoop, h, if_false, if_true, ih]

theorem shapeConcatenate_eq_spec (a b : Shape) (k : Nat) (h : ConcatCompatible a b k) :
    ∃ x y, a[k]? = some x ∧ b[k]? = some y ∧ shapeConcatenate a b (k : Int) = (true, replaceExtent a k (x + y)) := by
  have hk := h.2.1
  have hx := List.getElem?_eq_getElem hk
  obtain ⟨y, hy⟩ : ∃ y, b[k]? = some y := ⟨_, List.getElem?_eq_getElem (h.1 ▸ hk)⟩
  refine ⟨_, y, hx, hy, ?_⟩
  rw [shapeConcatenate, if_pos h.1, h.eq_set hy, ← mapAt_normAxis_nat (fun _ => y) k a.length _ a hx,
    shapeConcatLoop_mapAt, mapAt_normAxis_nat _ k _ _ a hx, replaceExtent_eq_set a k _ hk]

theorem indexConcatenate_spec (a b : Shape) (k : Nat) (h : ConcatCompatible a b k) (d : Idx)
    (hd : InShape d (shapeConcatenate a b (k : Int)).2) :
    ∃ x aa, d[k]? = some x ∧ a[k]? = some aa ∧
      indexConcatenate a b d (k : Int) = (if x < aa then some (false, d) else some (true, d.set k (x - aa))) ∧
      if x < aa then InShape d a else InShape (d.set k (x - aa)) b := by
  obtain ⟨aa, ba, ha, hb, hs⟩ := shapeConcatenate_eq_spec a b k h
  rw [hs] at hd
  have hk := h.2.1
  obtain ⟨x, hx, hxm, hd'⟩ := coord_of_inShape hk hd
  have hl : d.length = a.length := by rw [hd'.length_eq, List.length_set]
  obtain ⟨_, hak⟩ := List.getElem?_eq_some_iff.1 ha
  refine ⟨x, aa, hx, ha, ?_, ?_⟩
  · simp only [indexConcatenate, normAxis_nat, atPy_nat, ha, hb, hx]
    rw [← h.1, ← hl, List.take_length, mapAt_nat _ k x d hx]
    exact ite_congr rfl (fun _ => rfl) fun _ => if_pos (Nat.add_comm aa ba ▸ hxm)
  · by_cases h1 : x < aa
    · rw [if_pos h1]
      obtain ⟨_, rfl⟩ := List.getElem?_eq_some_iff.1 hx
      have := inShape_set_of_set hd' hk (hak ▸ h1)
      rwa [List.set_getElem_self] at this
    · rw [if_neg h1]
      have := Shape.inShape_set (e := ba) k hd' (Nat.sub_lt_left_of_lt_add (Nat.not_lt.1 h1) hxm)
      rwa [List.set_set, ← h.eq_set hb] at this

end NmVerif.Index
