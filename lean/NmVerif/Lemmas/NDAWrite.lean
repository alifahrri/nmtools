import NmVerif.NDA
import NmVerif.Lemmas.Addressing
/-
  Writing one logical element of a well-formed array (either layout): the element is read back, every other element and
  the invariant `len data = prod shape` are untouched.  Part of C01; the copy loop of the evaluators is built on these.
  A row-major array is read at the C01 offset of its buffer (`NDA.get?_rowMajor`), so its `k`-th logical element in `ndindex`
  order is cell `k` (what the kernels and the SIMD evaluators read).
-/
namespace NmVerif.Props.C01
open NmVerif

theorem get_set_same {α} (a : NDA α) (hw : a.WF) (i : Idx) (hi : InShape i a.shape) (v : α) :
    (a.set i v).get? i = some v :=
  List.getElem?_set_self (hw ▸ Shape.layoutOffset_lt a.colMajor hi)

theorem get_set_other {α} (a : NDA α) (i j : Idx) (hi : InShape i a.shape) (hj : InShape j a.shape)
    (hne : i ≠ j) (v : α) : (a.set i v).get? j = a.get? j :=
  List.getElem?_set_ne fun h => hne (Shape.layoutOffset_inj a.colMajor hi hj h)

theorem set_WF {α} (a : NDA α) (hw : a.WF) (i : Idx) (v : α) : (a.set i v).WF :=
  List.length_set.trans hw

end NmVerif.Props.C01

namespace NmVerif.NDA
variable {α : Type}

theorem get?_rowMajor (a : NDA α) (hr : a.colMajor = false) (idx : List Nat) :
    a.get? idx = a.data[computeOffset idx (strides a.shape)]? := by
  unfold NDA.get? NDA.offset NDA.stridesOf
  rw [hr]
  rfl

theorem get?_ndindex_rowMajor (a : NDA α) (hr : a.colMajor = false) (k : Nat)
    (hk : k < prod a.shape) : a.get? (ndindex a.shape k) = a.data[k]? := by
  rw [get?_rowMajor a hr, Shape.offset_ndindex hk]

end NmVerif.NDA
