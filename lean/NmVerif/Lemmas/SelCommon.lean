import NmVerif.Index.SelCommon
import NmVerif.Lemmas.Addressing
/-
  What the C04 models share: Python-style `nmtools::at` (`posPy` / `atPy` / `setPy`), `normalizeAxis1` (split into its cases in
  `normalizeAxis1_cases` only), the `i == axis ? f(d[i]) : d[i]` loop `mapAt`.  A view that changes ONE axis gets its bound from
  `inBounds_of_axis`; a loop over an axis LIST (roll, expand, sliding_window) is shown equal to ONE `mapIdx` with the per-axis
  total, a step at a time by `mapIdx_set`, and bounded by `inShape_mapIdx`.  At the end `reshapeIdx` to and from the flat shape
  `[prod s]` (the axis-None forms, the stack family).
-/
namespace NmVerif

theorem InShape.getElem?_lt {d : Idx} {s : Shape} (h : InShape d s) {k x n : Nat} (hx : d[k]? = some x)
    (hn : s[k]? = some n) : x < n :=
  ((Shape.inShape_iff_getElem? d s).1 h).2 k x n hx hn

theorem inShape_singleton {l : Idx} {w : Nat} (h : InShape l [w]) : ∃ o, l = [o] ∧ o < w := by
  obtain ⟨o, rfl⟩ := List.length_eq_one_iff.1 h.length_eq
  exact ⟨o, rfl, h.1⟩

theorem inShape_pair {l : Idx} {m n : Nat} (h : InShape l [m, n]) : ∃ a b, l = [a, b] ∧ a < m ∧ b < n := by
  obtain ⟨a, t, rfl⟩ := List.exists_cons_of_length_eq_add_one h.length_eq
  obtain ⟨b, rfl, hb⟩ := inShape_singleton h.2
  exact ⟨a, b, rfl, h.1, hb⟩

theorem InShape.append {i j : Idx} {s t : Shape} (h1 : InShape i s) (h2 : InShape j t) : InShape (i ++ j) (s ++ t) :=
  Shape.inShape_append h1 h2

end NmVerif
namespace NmVerif.Index

theorem i2u_of_nonneg (v : Int) (h : 0 ≤ v) : i2u v = v.toNat :=
  if_neg (Int.not_lt.2 h)

theorem i2u_nat (j : Nat) : i2u (j : Int) = j := i2u_of_nonneg j (Int.natCast_nonneg j)

theorem posPy_nat (n k : Nat) : posPy n (k : Int) = some k :=
  if_neg (Int.not_ofNat_neg k)

theorem posPy_neg (n : Nat) (i : Int) (h1 : i < 0) (h2 : 0 ≤ (n : Int) + i) :
    posPy n i = some ((n : Int) + i).toNat := by
  simp [posPy, h1, h2]

theorem atPy_nat {α} (l : List α) (k : Nat) : atPy l (k : Int) = l[k]? := by
  simp [atPy, posPy_nat]

theorem setPy_nat {α} (l : List α) (k : Nat) (v : α) : setPy l (k : Int) v = l.set k v := by
  simp [setPy, posPy_nat]

theorem normalizeAxis1_cases (axis : Int) (n k : Nat) (h : normalizeAxis1 axis n = some k) :
    k < n ∧ ((¬ axis < 0 ∧ axis = (k : Int)) ∨ (axis < 0 ∧ (n : Int) + axis = (k : Int))) := by
  revert h
  fun_cases normalizeAxis1 axis n with
  | case1 => nofun
  | case2 hr hneg =>
    rintro ⟨⟩
    have h0 : 0 ≤ (n : Int) + axis := Int.add_nonneg_iff_neg_le'.mpr (Int.not_lt.mp (not_or.mp hr).1)
    have hlt := Int.add_lt_add_left hneg (n : Int)
    rw [Int.add_zero] at hlt
    exact ⟨(Int.toNat_lt h0).mpr hlt, .inr ⟨hneg, (Int.toNat_of_nonneg h0).symm⟩⟩
  | case3 hr hneg =>
    rintro ⟨⟩
    have h0 := Int.not_lt.mp hneg
    exact ⟨(Int.toNat_lt h0).mpr (Int.not_le.mp (not_or.mp hr).2), .inl ⟨hneg, (Int.toNat_of_nonneg h0).symm⟩⟩

theorem normalizeAxis1_some (axis : Int) (n k : Nat) (h : normalizeAxis1 axis n = some k) :
    k < n ∧ posPy n axis = some k := by
  obtain ⟨hk, ⟨-, e⟩ | ⟨hneg, e⟩⟩ := normalizeAxis1_cases axis n k h
  · exact ⟨hk, e ▸ posPy_nat n k⟩
  · exact ⟨hk, by rw [posPy_neg n axis hneg (e ▸ Int.natCast_nonneg k), e]; rfl⟩

theorem normalizeAxis1_none (axis : Int) (n : Nat) (h : axis < -(n : Int) ∨ (n : Int) ≤ axis) :
    normalizeAxis1 axis n = none :=
  if_pos h

theorem normalizeAxis1_nat (k n : Nat) (h : k < n) : normalizeAxis1 (k : Int) n = some k := by
  have h0 := Int.not_ofNat_neg k
  have h1 : ¬ ((k : Int) < -(n : Int) ∨ (n : Int) ≤ (k : Int)) := fun c => c.elim
    (fun c => h0 (Int.lt_of_lt_of_le c (Int.neg_nonpos_of_nonneg (Int.natCast_nonneg n))))
    (Int.not_le.mpr (Int.ofNat_lt.mpr h))
  rw [normalizeAxis1, if_neg h1, if_neg h0, Int.toNat_natCast]

theorem normAxis_nat (k n : Nat) : normAxis (k : Int) n = (k : Int) :=
  if_neg (Int.not_ofNat_neg k)

theorem normAxis_of_normalizeAxis1 (axis : Int) (n k : Nat) (h : normalizeAxis1 axis n = some k) :
    normAxis axis n = (k : Int) := by
  unfold normAxis
  obtain ⟨_, ⟨hneg, e⟩ | ⟨hneg, e⟩⟩ := normalizeAxis1_cases axis n k h
  · rw [if_neg hneg]; exact e
  · rw [if_pos hneg, Int.add_comm]; exact e

theorem atPy_of_normalizeAxis1 {α} (l : List α) (axis : Int) (k : Nat) (h : normalizeAxis1 axis l.length = some k) :
    atPy l axis = l[k]? := by
  simp [atPy, (normalizeAxis1_some axis _ k h).2]

theorem setPy_of_normalizeAxis1 {α} (l : List α) (axis : Int) (k : Nat) (v : α) (h : normalizeAxis1 axis l.length = some k) :
    setPy l axis v = l.set k v := by
  simp [setPy, (normalizeAxis1_some axis _ k h).2]

theorem mapAt_of_lt (f : Nat → Nat) (axis : Int) (i : Nat) (d : List Nat) (h : axis < i) : mapAt f axis i d = d := by
  fun_induction mapAt f axis i d with
  | case1 => rfl
  | case2 i x xs ih => rw [if_neg (by omega), ih (by omega)]

theorem mapAt_neg (f : Nat → Nat) (axis : Int) (h : axis < 0) (i : Nat) (d : List Nat) : mapAt f axis i d = d :=
  mapAt_of_lt f axis i d (by omega)

theorem mapAt_offset (f : Nat → Nat) (i k : Nat) (d : List Nat) : mapAt f ((i + k : Nat) : Int) i d = d.modify k f := by
  induction d generalizing i k with
  | nil => exact (List.modify_nil f k).symm
  | cons x xs ih =>
    cases k with
    | zero => rw [Nat.add_zero, mapAt, if_pos rfl, mapAt_of_lt f i (i + 1) xs (by omega)]; rfl
    | succ k =>
      rw [mapAt, if_neg (by omega), List.modify_succ_cons, ← ih (i + 1) k, show i + 1 + k = i + (k + 1) by omega]

theorem mapAt_nat (f : Nat → Nat) (k x : Nat) (d : List Nat) (hx : d[k]? = some x) :
    mapAt f (k : Int) 0 d = d.set k (f x) := by
  have := mapAt_offset f 0 k d
  rwa [Nat.zero_add, List.modify_eq_set, hx] at this

theorem mapAt_normAxis_nat (f : Nat → Nat) (k n x : Nat) (d : List Nat) (hx : d[k]? = some x) :
    mapAt f (normAxis (k : Int) n) 0 d = d.set k (f x) :=
  normAxis_nat k n ▸ mapAt_nat f k x d hx

theorem mapAt_length (f : Nat → Nat) (axis : Int) (i : Nat) (d : List Nat) : (mapAt f axis i d).length = d.length := by
  fun_induction mapAt f axis i d with
  | case1 => rfl
  | case2 i x xs ih => exact congrArg Nat.succ ih

theorem inShape_set_of_set {d : Idx} {s : Shape} {k x e : Nat} (h : InShape d (s.set k e)) (hk : k < s.length)
    (hx : x < s[k]) : InShape (d.set k x) s := by
  have := Shape.inShape_set k h hx
  rwa [List.set_set, List.set_getElem_self] at this

/-- shape with extent `k` replaced by `m` (written as NumPy documents it) -/
def replaceExtent (s : Shape) (k m : Nat) : Shape := s.take k ++ m :: s.drop (k + 1)

theorem replaceExtent_eq_set (s : Shape) (k m : Nat) (hk : k < s.length) : replaceExtent s k m = s.set k m := by
  simp [replaceExtent, List.set_eq_take_append_cons_drop, hk]

theorem coord_of_inShape {d : Idx} {s : Shape} {k m : Nat} (hk : k < s.length)
    (hd : InShape d (replaceExtent s k m)) : ∃ x, d[k]? = some x ∧ x < m ∧ InShape d (s.set k m) := by
  rw [replaceExtent_eq_set s k m hk] at hd
  have hkd : k < d.length := by rw [hd.length_eq, List.length_set]; exact hk
  have hx := List.getElem?_eq_getElem hkd
  exact ⟨d[k], hx, hd.getElem?_lt hx (List.getElem?_set_self hk), hd⟩

theorem inBounds_of_axis {v : IxView} {s : Shape} {k m : Nat} (hk : k < s.length) (hsrc : v.src = s)
    (hdst : v.dst = replaceExtent s k m)
    (h : ∀ d x i, d[k]? = some x → x < m → v.map d = some i → ∃ j, j < s[k] ∧ i = d.set k j) : v.InBounds := by
  intro d hd i hi
  rw [hdst] at hd
  obtain ⟨x, hx, hxm, hd'⟩ := coord_of_inShape hk hd
  obtain ⟨j, hj, rfl⟩ := h d x i hx hxm hi
  rw [hsrc]
  exact inShape_set_of_set hd' hk hj

/-- `ks` are the normalised (`normalize_axis`) positions of the accepted axis list `axes` of an array of rank `n` -/
inductive AxesNorm (n : Nat) : List Int → List Nat → Prop
  | nil : AxesNorm n [] []
  | cons {ax : Int} {k : Nat} {axes : List Int} {ks : List Nat} :
      normalizeAxis1 ax n = some k → AxesNorm n axes ks → AxesNorm n (ax :: axes) (k :: ks)

theorem AxesNorm.length_eq {n : Nat} {axes : List Int} {ks : List Nat} (h : AxesNorm n axes ks) : ks.length = axes.length := by
  induction h with
  | nil => rfl
  | cons _ _ ih => simp [ih]

theorem mapM_normalizeAxis1_of_axesNorm (n : Nat) (axes : List Int) (ks : List Nat) (h : AxesNorm n axes ks) :
    axes.mapM (fun a => normalizeAxis1 a n) = some ks := by
  induction h with
  | nil => rfl
  | cons hk _ ih => simp [hk, ih]

theorem AxesNorm.lt {n : Nat} {axes : List Int} {ks : List Nat} (h : AxesNorm n axes ks) : ∀ k ∈ ks, k < n := by
  induction h with
  | nil => simp
  | cons hk _ ih =>
    intro k hmem
    rcases List.mem_cons.1 hmem with rfl | h'
    · exact (normalizeAxis1_some _ _ _ hk).1
    · exact ih k h'

/-- one step of an axis loop read through the closed form: changing entry `k` first is the same as changing the function at `k` -/
theorem mapIdx_set {α β : Type} (F F' : Nat → α → β) (l : List α) (k : Nat) (v : α) (hk : k < l.length)
    (hv : F k v = F' k l[k]) (h : ∀ p e, k ≠ p → F p e = F' p e) : (l.set k v).mapIdx F = l.mapIdx F' := by
  apply List.ext_getElem?
  intro p
  simp only [List.getElem?_mapIdx, List.getElem?_set]
  by_cases hkp : k = p
  · subst hkp
    simp only [hk, if_true, Option.map_some, List.getElem?_eq_getElem hk, hv]
  · simp only [hkp, if_false]
    cases l[p]? with
    | none => rfl
    | some e => exact congrArg some (h p e hkp)

theorem mapIdx_eq_self {α : Type} (F : Nat → α → α) (l : List α) (h : ∀ p x, l[p]? = some x → F p x = x) :
    l.mapIdx F = l := by
  apply List.ext_getElem?
  intro p
  rw [List.getElem?_mapIdx]
  cases hx : l[p]? with
  | none => rfl
  | some x => exact congrArg some (h p x hx)

theorem inShape_mapIdx {d : Idx} {s : Shape} (F G : Nat → Nat → Nat) (hd : InShape d (s.mapIdx G))
    (h : ∀ p x n, s[p]? = some n → x < G p n → F p x < n) : InShape (d.mapIdx F) s := by
  refine (Shape.inShape_iff_getElem? _ _).2 ⟨by rw [List.length_mapIdx, hd.length_eq, List.length_mapIdx],
    fun p y n hy hn => ?_⟩
  rw [List.getElem?_mapIdx, Option.map_eq_some_iff] at hy
  obtain ⟨x, hx, rfl⟩ := hy
  exact h p x n hn (hd.getElem?_lt hx (by rw [List.getElem?_mapIdx, hn]; rfl))

theorem reshapeIdx_to_flat {d : Idx} {s : Shape} (hd : InShape d s) :
    reshapeIdx [prod s] s d = [computeOffset d (strides s)] := by
  simp only [reshapeIdx, strides, prod, computeIndices, Nat.div_one, Nat.mod_eq_of_lt (offset_lt hd)]

theorem reshapeIdx_spec {s s' : Shape} {i : Idx} (hs : Pos s) (hp : prod s' = prod s) (hi : InShape i s') :
    InShape (reshapeIdx s s' i) s ∧ computeOffset (reshapeIdx s s' i) (strides s) = computeOffset i (strides s') :=
  ⟨indices_inShape hs _, offset_indices hs (hp ▸ offset_lt hi)⟩

theorem reshapeIdx_of_flat (s : Shape) (y : Nat) : reshapeIdx s [prod s] [y] = ndindex s y := by
  simp only [reshapeIdx, strides, prod, computeOffset, Nat.one_mul, Nat.add_zero, ndindex]

end NmVerif.Index
