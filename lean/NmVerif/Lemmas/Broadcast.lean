import NmVerif.Index.Broadcast
import NmVerif.Lemmas.Addressing
import NmVerif.Lemmas.BcLoop
/-
  The C++ loops address the shapes from the right, so the model recurses over reversed shapes: `gd l k` reads entry `k`
  of a reversed shape with absent entries as 1, and the results are characterised pointwise in `gd`.  For
  `shape_broadcast_to` the part of the target aligned with the source is described head first by `Aligned`; along it the
  offset over the origin axes is the offset of NumPy's source index (`Aligned.offset`), and C01's round trip gives the index.
-/
namespace NmVerif

/-- entry `k` of a (reversed) shape, absent entries count as 1 -/
def gd (l : List Nat) (k : Nat) : Nat :=
  match l[k]? with
  | some e => e
  | none => 1

theorem axR_eq_gd (s : Shape) (k : Nat) : axR s k = gd s.reverse k := rfl

@[simp] theorem gd_nil (k : Nat) : gd [] k = 1 := by simp [gd]
@[simp] theorem gd_cons_zero (a : Nat) (l : List Nat) : gd (a :: l) 0 = a := by simp [gd]
@[simp] theorem gd_cons_succ (a : Nat) (l : List Nat) (k : Nat) : gd (a :: l) (k+1) = gd l k := by simp [gd]

theorem gd_of_lt {l : List Nat} {k : Nat} (h : k < l.length) : gd l k = l[k] := by
  simp [gd, List.getElem?_eq_getElem h]

theorem gd_of_ge {l : List Nat} {k : Nat} (h : l.length ≤ k) : gd l k = 1 := by
  simp [gd, List.getElem?_eq_none h]

theorem gd_mem_or {l : List Nat} (k : Nat) : gd l k ∈ l ∨ gd l k = 1 :=
  (Nat.lt_or_ge k l.length).imp (fun h => gd_of_lt h ▸ List.getElem_mem h) gd_of_ge

theorem gd_pos {l : List Nat} (h : Pos l) (k : Nat) : 0 < gd l k :=
  (gd_mem_or k).elim (h _) fun e => e ▸ Nat.one_pos

theorem ext_gd {l1 l2 : List Nat} (hl : l1.length = l2.length) (h : ∀ k, gd l1 k = gd l2 k) : l1 = l2 :=
  List.ext_getElem hl fun k h1 h2 => gd_of_lt h1 ▸ gd_of_lt h2 ▸ h k

theorem Pos.cons {a : Nat} {t : List Nat} (ha : 0 < a) (ht : Pos t) : Pos (a :: t) := Shape.pos_cons ha ht

theorem Pos.reverse {s : List Nat} (h : Pos s) : Pos s.reverse := Shape.pos_reverse.mpr h

/-- the `success` test of one loop iteration -/
def compat (a b : Nat) : Prop := a = b ∨ a = 1 ∨ b = 1

instance (a b : Nat) : Decidable (compat a b) := by unfold compat; exact inferInstance

theorem bc1_eq (a b : Nat) : bc1 a b = if compat a b then some (max a b) else none := by
  simp only [bc1, compat, Nat.max_def, gt_iff_lt, ← Nat.not_le, ite_not]

theorem bc1_eq_some_iff {a b z : Nat} : bc1 a b = some z ↔ compat a b ∧ z = max a b := by
  rw [bc1_eq]; split <;> simp [*, eq_comm]

theorem bc1_eq_none_iff {a b : Nat} : bc1 a b = none ↔ ¬ compat a b := by
  rw [bc1_eq]; split <;> simp [*]

/-- all values are pairwise equal-or-1 -/
def AllCompat (xs : List Nat) : Prop := ∀ x ∈ xs, ∀ y ∈ xs, compat x y

/-- `m` is the largest member of `xs` -/
def IsMaxOf (m : Nat) (xs : List Nat) : Prop := m ∈ xs ∧ ∀ x ∈ xs, x ≤ m

theorem IsMaxOf.unique {m n : Nat} {xs : List Nat} (h1 : IsMaxOf m xs) (h2 : IsMaxOf n xs) : m = n := by
  have a := h1.2 n h2.1
  have b := h2.2 m h1.1
  omega

theorem isMaxOf_singleton {m x : Nat} : IsMaxOf m [x] ↔ m = x := by
  simp only [IsMaxOf, List.mem_singleton, forall_eq]
  exact ⟨fun h => h.1, fun h => ⟨h, Nat.le_of_eq h.symm⟩⟩

theorem isMaxOf_max_cons (m a s : Nat) (xs : List Nat) :
    IsMaxOf m (max a s :: xs) ↔ IsMaxOf m (a :: s :: xs) := by
  simp only [IsMaxOf, List.mem_cons, forall_eq_or_imp, Nat.max_le, and_assoc]
  rw [← or_assoc]
  -- among upper bounds of `a` and `s`, being `max a s` is being `a` or `s`
  exact and_congr_left fun ⟨_, _, _⟩ => or_congr_left (by omega)

theorem compat.symm {a b : Nat} : compat a b → compat b a
  | .inl e => .inl e.symm
  | .inr (.inl e) => .inr (.inr e)
  | .inr (.inr e) => .inr (.inl e)

theorem compat_max_iff {a b c : Nat} (ha : 0 < a) (hb : 0 < b) (hab : compat a b) :
    compat (max a b) c ↔ compat a c ∧ compat b c := by
  rcases hab with rfl | rfl | rfl
  · rw [Nat.max_self]; exact (and_self_iff).symm
  · rw [Nat.max_eq_right hb]; exact (and_iff_right (.inr (.inl rfl))).symm
  · rw [Nat.max_eq_left ha]; exact (and_iff_left (.inr (.inl rfl))).symm

theorem allCompat_singleton (x : Nat) : AllCompat [x] := by
  simp [AllCompat, compat]

theorem allCompat_cons {a : Nat} {xs : List Nat} :
    AllCompat (a :: xs) ↔ (∀ x ∈ xs, compat a x) ∧ AllCompat xs := by
  simp only [AllCompat, List.forall_mem_cons]
  constructor
  · rintro ⟨⟨_, h1⟩, h2⟩; exact ⟨h1, fun x hx => (h2 x hx).2⟩
  · rintro ⟨h1, h2⟩; exact ⟨⟨Or.inl rfl, h1⟩, fun x hx => ⟨(h1 x hx).symm, h2 x hx⟩⟩

theorem allCompat_max_cons {a s : Nat} {xs : List Nat} (ha : 0 < a) (hs : 0 < s) (hc : compat a s) :
    AllCompat (max a s :: xs) ↔ AllCompat (a :: s :: xs) := by
  rw [allCompat_cons, allCompat_cons, allCompat_cons]
  constructor
  · rintro ⟨h, hx⟩
    have := fun x m => (compat_max_iff ha hs hc).1 (h x m)
    exact ⟨List.forall_mem_cons.2 ⟨hc, fun x m => (this x m).1⟩, fun x m => (this x m).2, hx⟩
  · rintro ⟨h1, h2, hx⟩
    exact ⟨fun x m => (compat_max_iff ha hs hc).2 ⟨h1 x (List.mem_cons_of_mem _ m), h2 x m⟩, hx⟩

theorem bcRev_nil_right (a : List Nat) : bcRev a [] = some a := by
  cases a <;> simp [bcRev]

/-- named `_symm` because `NmVerif.bc1_comm` is this fact about `MB.bc1` in Lemmas/MatmulBroadcast, and the NN files import
    both -/
theorem bc1_symm (a b : Nat) : bc1 a b = bc1 b a :=
  Option.ext fun _ => by
    rw [bc1_eq_some_iff, bc1_eq_some_iff, Nat.max_comm]
    exact and_congr_left' ⟨compat.symm, compat.symm⟩

theorem bc1_refl (x : Nat) : bc1 x x = some x := bc1_eq_some_iff.2 ⟨.inl rfl, (Nat.max_self x).symm⟩

theorem bc1_unit_right {x : Nat} (h : 0 < x) : bc1 x 1 = some x :=
  bc1_eq_some_iff.2 ⟨.inr (.inr rfl), (Nat.max_eq_left h).symm⟩

theorem bc1_mono {a b A B z Z : Nat} (h : bc1 a b = some z) (H : bc1 A B = some Z) (ha : a ≤ A) (hb : b ≤ B) : z ≤ Z := by
  rw [(bc1_eq_some_iff.1 h).2, (bc1_eq_some_iff.1 H).2]
  exact Nat.max_le.2 ⟨Nat.le_trans ha (Nat.le_max_left ..), Nat.le_trans hb (Nat.le_max_right ..)⟩

theorem bc1_eq_left {a b z : Nat} (h : bc1 a b = some z) (ha : 1 < a) : z = a := by
  obtain ⟨hc, rfl⟩ := bc1_eq_some_iff.1 h
  unfold compat at hc; omega

/-- stated as `bcShape_forall` takes the fact about one pair, hence the bound on `b` that the proof does not need -/
theorem bc1_pos {a b z : Nat} (h : bc1 a b = some z) (ha : 0 < a) (_ : 0 < b) : 0 < z :=
  (bc1_eq_some_iff.1 h).2 ▸ Nat.lt_of_lt_of_le ha (Nat.le_max_left ..)

theorem bcRev_eq_loop : bcRev = bcLoop bc1 :=
  eq_bcLoop (fun _ => rfl) (fun _ _ => rfl) fun a as b bs => by rw [bcRev]; cases bc1 a b <;> rfl

theorem broadcastShape2_eq : broadcastShape2 = bcShape bc1 := by
  funext a b; rw [broadcastShape2, bcRev_eq_loop]; rfl

theorem bc2_length {a b r : Shape} (h : broadcastShape2 a b = some r) : r.length = max a.length b.length :=
  bcShape_length (broadcastShape2_eq ▸ h)

theorem bc2_pos {a b r : Shape} (ha : Pos a) (hb : Pos b) (h : broadcastShape2 a b = some r) : Pos r :=
  bcShape_forall (0 < ·) bc1_pos (broadcastShape2_eq ▸ h) ha hb

theorem bc2_nil_left (b : Shape) : broadcastShape2 [] b = some b :=
  broadcastShape2_eq ▸ bcShape_nil_left b

theorem bc2_nil_right (a : Shape) : broadcastShape2 a [] = some a :=
  broadcastShape2_eq ▸ bcShape_nil_right a

theorem bc2_eq_left {A b r : Shape} (hA : ∀ v ∈ A, 1 < v) (hl : b.length ≤ A.length)
    (h : broadcastShape2 A b = some r) : r = A :=
  bcShape_eq_left (1 < ·) bc1_eq_left (broadcastShape2_eq ▸ h) hA hl

theorem bc2_comm (a b : Shape) : broadcastShape2 a b = broadcastShape2 b a := by
  rw [broadcastShape2_eq]; exact bcShape_comm bc1_symm a b

theorem bcRev_self (a : List Nat) : bcRev a a = some a := by
  induction a with
  | nil => simp [bcRev]
  | cons x xs ih => simp [bcRev, bc1_refl, ih]

/-- `bcLoop_cons_eq_some` with the step `bc1` spelt out -/
theorem bcRev_cons_eq_some {x y : Nat} {xs ys r : List Nat} :
    bcRev (x :: xs) (y :: ys) = some r ↔ ∃ r', compat x y ∧ bcRev xs ys = some r' ∧ r = max x y :: r' := by
  simp only [bcRev, bc1_eq]
  by_cases hc : compat x y <;> simp [hc, eq_comm]

theorem bcRev_absorb {a b r : List Nat} (h : bcRev a b = some r) : bcRev a r = some r := by
  -- `bcLoop.induct` is the recursion of `bcRev` (nil / any, cons / nil, cons / cons) without the split on `bc1 a b`
  -- that `bcRev.induct` adds; `bcRev_cons_eq_some` does that split
  induction a, b using bcLoop.induct generalizing r with
  | case1 b => rfl
  | case2 x xs => cases h; exact bcRev_self _
  | case3 x xs y ys ih =>
    obtain ⟨r', hc, hr', rfl⟩ := bcRev_cons_eq_some.1 h
    -- `max x y` is `y`, compatible with `x` by `hc`, or `x` itself
    have hm : compat x (max x y) :=
      (Nat.le_total x y).elim (fun l => (Nat.max_eq_right l).symm ▸ hc) fun l => .inl (Nat.max_eq_left l).symm
    exact bcRev_cons_eq_some.2 ⟨r', hm, ih hr', by rw [Nat.max_eq_right (Nat.le_max_left x y)]⟩

theorem bcRev_isSome_of_compat {a b : List Nat} (h : ∀ k, compat (gd a k) (gd b k)) : ∃ r, bcRev a b = some r := by
  induction a, b using bcLoop.induct with
  | case1 b => exact ⟨b, rfl⟩
  | case2 x xs => exact ⟨x :: xs, rfl⟩
  | case3 x xs y ys ih =>
    obtain ⟨r', hr'⟩ := ih (fun k => h (k+1))
    exact ⟨_, bcRev_cons_eq_some.2 ⟨r', h 0, hr', rfl⟩⟩

theorem compat_of_bcRev {a b r : List Nat} (h : bcRev a b = some r) (k : Nat) : compat (gd a k) (gd b k) := by
  induction a, b using bcLoop.induct generalizing r k with
  | case1 b => exact .inr (.inl (gd_nil k))
  | case2 x xs => exact .inr (.inr (gd_nil k))
  | case3 x xs y ys ih =>
    obtain ⟨r', hc, hr', rfl⟩ := bcRev_cons_eq_some.1 h
    cases k with
    | zero => exact hc
    | succ n => exact ih hr' n

/-- an absent axis counts as 1, hence the positivity hypotheses -/
theorem bcRev_gd {a b r : List Nat} (ha : Pos a) (hb : Pos b) (h : bcRev a b = some r) (k : Nat) :
    gd r k = max (gd a k) (gd b k) := by
  induction a, b using bcLoop.induct generalizing r k with
  | case1 b => cases h; rw [gd_nil]; exact (Nat.max_eq_right (gd_pos hb k)).symm
  | case2 x xs => cases h; rw [gd_nil]; exact (Nat.max_eq_left (gd_pos ha k)).symm
  | case3 x xs y ys ih =>
    obtain ⟨r', _, hr', rfl⟩ := bcRev_cons_eq_some.1 h
    cases k with
    | zero => rfl
    | succ n => exact ih ha.tail hb.tail hr' n

theorem bcRev_spec {a b : List Nat} (ha : Pos a) (hb : Pos b) (r : List Nat) :
    bcRev a b = some r ↔
      r.length = max a.length b.length ∧ ∀ k, compat (gd a k) (gd b k) ∧ gd r k = max (gd a k) (gd b k) := by
  refine ⟨fun h => ⟨bcLoop_length (bcRev_eq_loop ▸ h), fun k => ⟨compat_of_bcRev h k, bcRev_gd ha hb h k⟩⟩, fun ⟨hl, hk⟩ => ?_⟩
  obtain ⟨r', hr'⟩ := bcRev_isSome_of_compat fun k => (hk k).1
  rw [hr', ext_gd ((bcLoop_length (bcRev_eq_loop ▸ hr')).trans hl.symm) fun k => (bcRev_gd ha hb hr' k).trans (hk k).2.symm]

/-- `r` is the broadcast of the family `ss` of reversed shapes, stated per axis -/
def FamSpec (r : List Nat) (ss : List (List Nat)) : Prop :=
  IsMaxOf r.length (ss.map List.length) ∧
  ∀ k, AllCompat (ss.map (gd · k)) ∧ IsMaxOf (gd r k) (ss.map (gd · k))

theorem FamSpec.unique {r r' : List Nat} {ss : List (List Nat)} (h : FamSpec r ss) (h' : FamSpec r' ss) : r = r' :=
  ext_gd (h.1.unique h'.1) (fun k => (h.2 k).2.unique (h'.2 k).2)

/-- on every axis the accumulated shape `p` stands for the two shapes it was made of -/
theorem famStep {a s p : List Nat} (ha : Pos a) (hs : Pos s) (hp : bcRev a s = some p) (t : List (List Nat)) (k : Nat) :
    (AllCompat ((p :: t).map (gd · k)) ↔ AllCompat ((a :: s :: t).map (gd · k))) ∧
    ∀ m, IsMaxOf m ((p :: t).map (gd · k)) ↔ IsMaxOf m ((a :: s :: t).map (gd · k)) := by
  simp only [List.map_cons, bcRev_gd ha hs hp k]
  exact ⟨allCompat_max_cons (gd_pos ha k) (gd_pos hs k) (compat_of_bcRev hp k), fun m => isMaxOf_max_cons m _ _ _⟩

theorem broadcastShape2_eq_some {a b r : Shape} :
    broadcastShape2 a b = some r ↔ bcRev a.reverse b.reverse = some r.reverse := by
  rw [broadcastShape2_eq, bcRev_eq_loop]; exact bcShape_eq_some

theorem broadcastFold_none (ts : List Shape) : broadcastFold none ts = none :=
  List.foldlRecOn (motive := (· = none)) ts _ rfl fun _ hb _ _ => by subst hb; rfl

theorem broadcastFold_cases (a : Shape) (rest : List Shape) (ha : Pos a) (hr : ∀ s ∈ rest, Pos s) :
    match broadcastFold (some a) rest with
    | some r => Pos r ∧ FamSpec r.reverse ((a :: rest).map List.reverse)
    | none => ¬ ∀ k, AllCompat (((a :: rest).map List.reverse).map (gd · k)) := by
  induction rest generalizing a with
  | nil => exact ⟨ha, isMaxOf_singleton.2 rfl, fun k => ⟨allCompat_singleton _, isMaxOf_singleton.2 rfl⟩⟩
  | cons s t ih =>
    have hs : Pos s := hr s (by simp)
    show match broadcastFold (broadcastShape2 a s) t with | some r => _ | none => _
    cases hp : broadcastShape2 a s with
    | none =>
      rw [broadcastFold_none]
      intro h
      obtain ⟨p, hp'⟩ := bcRev_isSome_of_compat (a := a.reverse) (b := s.reverse) (fun k => h k _ (by simp) _ (by simp))
      rw [broadcastShape2, hp'] at hp; cases hp
    | some p =>
      have hp' := broadcastShape2_eq_some.1 hp
      have step := famStep ha.reverse hs.reverse hp' (t.map List.reverse)
      have := ih p (bc2_pos ha hs hp) (fun u hu => hr u (by simp [hu]))
      split at this
      · next r _ =>
        refine ⟨this.1, ?_, fun k => ⟨(step k).1.1 (this.2.2 k).1, ((step k).2 _).1 (this.2.2 k).2⟩⟩
        have := this.2.1
        simpa only [List.map_cons, bcLoop_length (bcRev_eq_loop ▸ hp'), isMaxOf_max_cons] using this
      · exact fun h => this fun k => (step k).1.2 (h k)

theorem sbtRev_isSome_iff (a b : List Nat) :
    (sbtRev a b).isSome ↔ a.length ≤ b.length ∧ ∀ k, k < a.length → (gd a k = gd b k ∨ gd a k = 1) := by
  -- the clauses of `sbtRev`: source exhausted, target exhausted, equal extents, source extent 1, refusal
  fun_induction sbtRev a b with
  | case1 bs => simp
  | case2 a as => simp
  | case3 as b bs ih | case4 as b bs _ ih =>
    simp only [Option.isSome_map, ih, List.length_cons, Nat.add_le_add_iff_right, Nat.forall_lt_succ_left, gd_cons_zero,
      gd_cons_succ, true_or, or_true, true_and]
  | case5 a as b bs h1 h2 => exact ⟨nofun, fun h => ((h.2 0 (Nat.zero_lt_succ _)).elim h1 h2).elim⟩

/-- a successful `shape_broadcast_to` on the part of the target aligned with the source, read head first -/
inductive Aligned : List Nat → List Nat → List Bool → Prop
  | nil : Aligned [] [] []
  | same (a : Nat) {as bs fs} : Aligned as bs fs → Aligned (a :: as) (a :: bs) (false :: fs)
  | stretch {b : Nat} {as bs fs} : 1 ≠ b → Aligned as bs fs → Aligned (1 :: as) (b :: bs) (true :: fs)

theorem Aligned.length {src dst : List Nat} {fs : List Bool} (h : Aligned src dst fs) :
    src.length = dst.length ∧ fs.length = dst.length := by
  induction h with
  | nil => exact ⟨rfl, rfl⟩
  | same _ _ ih => simp only [List.length_cons, ih.1, ih.2, and_self]
  | stretch _ _ ih => simp only [List.length_cons, ih.1, ih.2, and_self]

theorem Aligned.flags_eq {src dst : List Nat} {fs : List Bool} (h : Aligned src dst fs) :
    fs = List.zipWith (fun a b => decide (a ≠ b)) src dst := by
  induction h with
  | nil => rfl
  | same a _ ih => rw [List.zipWith_cons_cons, ← ih, decide_eq_false (by simp)]
  | stretch hb _ ih => rw [List.zipWith_cons_cons, ← ih, decide_eq_true hb]

theorem Aligned.append {as bs as' bs' : List Nat} {fs fs' : List Bool} (h : Aligned as bs fs) (h' : Aligned as' bs' fs') :
    Aligned (as ++ as') (bs ++ bs') (fs ++ fs') := by
  induction h with
  | nil => exact h'
  | same a _ ih => exact .same a ih
  | stretch hb _ ih => exact .stretch hb ih

/-- the loop runs from the last axis: a successful run returns the target, and read head first the target is what the
    loop copies once the source is exhausted (the prepended axes, all free) followed by the part aligned with the source -/
theorem sbtRev_split {xs ys : List Nat} {l : List (Nat × Bool)} (hl : sbtRev xs ys = some l) :
    l.map (·.1) = ys ∧ ∃ pre dst' fs, ys.reverse = pre ++ dst' ∧ Aligned xs.reverse dst' fs ∧
      (l.map (·.2)).reverse = List.replicate pre.length true ++ fs := by
  fun_induction sbtRev xs ys generalizing l with
  | case1 bs =>
    cases hl
    exact ⟨by simp [Function.comp_def], bs.reverse, [], [], by simp, .nil, by simp [Function.comp_def, List.map_const']⟩
  | case2 => cases hl
  | case3 as b bs ih =>
    obtain ⟨l', hl', rfl⟩ := Option.map_eq_some_iff.1 hl
    obtain ⟨e, pre, dst', fs, hd, hfs, hf⟩ := ih hl'
    exact ⟨congrArg (b :: ·) e, pre, dst' ++ [b], fs ++ [false], by rw [List.reverse_cons, hd, List.append_assoc],
      by rw [List.reverse_cons]; exact hfs.append (.same b .nil),
      by rw [List.map_cons, List.reverse_cons, hf, List.append_assoc]⟩
  | case4 as b bs hb ih =>
    obtain ⟨l', hl', rfl⟩ := Option.map_eq_some_iff.1 hl
    obtain ⟨e, pre, dst', fs, hd, hfs, hf⟩ := ih hl'
    exact ⟨congrArg (b :: ·) e, pre, dst' ++ [b], fs ++ [true], by rw [List.reverse_cons, hd, List.append_assoc],
      by rw [List.reverse_cons]; exact hfs.append (.stretch hb .nil),
      by rw [List.map_cons, List.reverse_cons, hf, List.append_assoc]⟩
  | case5 => cases hl

/-- entries of `w` selected by the mask -/
def pick : List Nat → List Bool → List Nat
  | x :: xs, m :: ms => if m then x :: pick xs ms else pick xs ms
  | _, _ => []

theorem nonzeroFrom_replicate_false (k n : Nat) (l : List Bool) :
    nonzeroFrom k (List.replicate n false ++ l) = nonzeroFrom (k + n) l := by
  induction n generalizing k with
  | zero => simp
  | succ n ih =>
    simp only [List.replicate_succ, List.cons_append, nonzeroFrom]
    rw [ih (k+1)]
    simp only [Bool.false_eq_true, if_false]
    congr 1; omega

theorem originAxes_split (n : Nat) (fs : List Bool) :
    originAxes (List.replicate n true ++ fs) = nonzeroFrom n (logicalNot fs) := by
  unfold originAxes nonzero logicalNot
  simp only [List.map_append, List.map_replicate, Bool.not_true]
  rw [nonzeroFrom_replicate_false]; simp

theorem gather_cons (v : List Nat) (k : Nat) (idx : List Nat) :
    gather v (k :: idx) = (v[k]?).bind fun x => (gather v idx).map (x :: ·) := by
  unfold gather
  rw [List.mapM_cons]
  cases v[k]? <;> cases List.mapM (fun k => v[k]?) idx <;> rfl

/-- `pre` is the part of the vector the recursion has passed; the positions count from its length -/
theorem gather_nonzeroFrom (pre w : List Nat) (m : List Bool) (h : w.length = m.length) :
    gather (pre ++ w) (nonzeroFrom pre.length m) = some (pick w m) := by
  induction m generalizing pre w with
  | nil => cases w <;> rfl
  | cons b ms ih =>
    cases w with
    | nil => simp at h
    | cons x ws =>
      have hi := ih (pre ++ [x]) ws (by simpa using h)
      rw [List.append_assoc, List.length_append] at hi
      cases b with
      | false => exact hi
      | true =>
        show gather (pre ++ x :: ws) (pre.length :: nonzeroFrom (pre.length + 1) ms) = some (x :: pick ws ms)
        rw [gather_cons, List.getElem?_append_right (Nat.le_refl _), Nat.sub_self]
        exact congrArg (Option.map (x :: ·)) hi

theorem pick_origin (x : Nat) (xs : List Nat) (fs : List Bool) :
    pick (x :: xs) (logicalNot (false :: fs)) = x :: pick xs (logicalNot fs) := rfl

theorem pick_free (x : Nat) (xs : List Nat) (fs : List Bool) :
    pick (x :: xs) (logicalNot (true :: fs)) = pick xs (logicalNot fs) := rfl

theorem Aligned.prod_pick {src dst : List Nat} {fs : List Bool} (h : Aligned src dst fs) :
    prod (pick dst (logicalNot fs)) = prod src := by
  induction h with
  | nil => rfl
  | same a _ ih => rw [pick_origin, prod, prod, ih]
  | stretch _ _ ih => rw [pick_free, prod, Nat.one_mul, ih]

/-- the NumPy element rule on the aligned part -/
def specAligned (src d' : List Nat) : List Nat := List.zipWith (fun e x => if e = 1 then 0 else x) src d'

/-- an index below the extent is kept, also where the extent is 1 -/
theorem specAligned_cons_of_lt {a x : Nat} (h : x < a) (as xs : List Nat) :
    specAligned (a :: as) (x :: xs) = x :: specAligned as xs := by
  show (if a = 1 then 0 else x) :: _ = _
  congr 1
  split <;> omega

theorem specAligned_one_cons (x : Nat) (as xs : List Nat) : specAligned (1 :: as) (x :: xs) = 0 :: specAligned as xs := rfl

theorem specAligned_self {s d : List Nat} (h : InShape d s) : specAligned s d = d := by
  induction d, s, h using inShape_ind with
  | nil => rfl
  | cons i0 it a t h0 _ ih => rw [specAligned_cons_of_lt h0, ih]

theorem specBroadcastIdx_append {src dpre d' : List Nat} (h : d'.length = src.length) :
    specBroadcastIdx src (dpre ++ d') = specAligned src d' := by
  unfold specBroadcastIdx specAligned
  rw [List.length_append, h, Nat.add_sub_cancel, List.drop_left]

theorem Aligned.offset {src dst d : List Nat} {fs : List Bool} (h : Aligned src dst fs) (hd : InShape d dst) :
    InShape (specAligned src d) src ∧
    computeOffset (pick d (logicalNot fs)) (strides (pick dst (logicalNot fs)))
      = computeOffset (specAligned src d) (strides src) := by
  induction d, dst, hd using inShape_ind generalizing src fs with
  | nil => cases h; exact ⟨trivial, rfl⟩
  | cons x xs b bs hx _ ih =>
    cases h with
    | same _ h =>
      obtain ⟨hin, ho⟩ := ih h
      simp only [pick_origin, strides, computeOffset, specAligned_cons_of_lt hx, h.prod_pick, ho]
      exact ⟨⟨hx, hin⟩, trivial⟩
    | stretch _ h =>
      obtain ⟨hin, ho⟩ := ih h
      simp only [pick_free, strides, computeOffset, specAligned_one_cons, Nat.mul_zero, Nat.zero_add, ho]
      exact ⟨⟨Nat.one_pos, hin⟩, trivial⟩

/-- a successful `shape_broadcast_to` splits the target into the prepended axes (all free) and the part aligned with
    the source; every fact about `broadcast_to` is read off this -/
theorem shapeBroadcastTo_some {src dst sh : List Nat} {free : List Bool} (h : shapeBroadcastTo src dst = some (sh, free)) :
    sh = dst ∧ ∃ pre dst' fs, dst = pre ++ dst' ∧ Aligned src dst' fs ∧ free = List.replicate pre.length true ++ fs := by
  obtain ⟨-, h⟩ := Option.ite_none_right_eq_some.mp h
  obtain ⟨l, hl, e⟩ := Option.map_eq_some_iff.1 h
  obtain ⟨e1, pre, dst', fs, hd, hfs, hf⟩ := sbtRev_split hl
  cases e
  rw [List.reverse_reverse] at hd hfs
  exact ⟨by rw [e1, List.reverse_reverse], pre, dst', fs, hd, hfs, hf⟩

theorem broadcastToIndex_spec {src dst sh : List Nat} {free : List Bool} (h : shapeBroadcastTo src dst = some (sh, free))
    {d : Idx} (hd : InShape d dst) :
    broadcastToIndex d src dst (originAxes free) = some (specBroadcastIdx src d) ∧
      InShape (specBroadcastIdx src d) src := by
  obtain ⟨_, pre, dst', fs, rfl, hfs, rfl⟩ := shapeBroadcastTo_some h
  obtain ⟨dpre, d', rfl, hpre, hin⟩ := Shape.inShape_append_split.1 hd
  have hlen := hfs.length
  have hdl := hin.length_eq
  rw [specBroadcastIdx_append (hdl.trans hlen.1.symm)]
  unfold broadcastToIndex
  rw [originAxes_split]
  -- both gathers skip the prepended axes and pick the origin axes of the aligned part
  have g1 := gather_nonzeroFrom pre dst' (logicalNot fs) (by simp [logicalNot]; omega)
  have g2 := gather_nonzeroFrom dpre d' (logicalNot fs) (by simp [logicalNot]; omega)
  rw [hpre.length_eq] at g2
  rw [g1, g2]
  simp only [Option.bind_eq_bind, Option.bind_some, Option.pure_def, Option.some.injEq]
  -- there the offset is that of NumPy's index in the source, which C01's round trip gives back
  obtain ⟨hs, ho⟩ := hfs.offset hin
  rw [ho, indices_offset hs]
  exact ⟨rfl, hs⟩

theorem specBroadcastIdx_self (s : Shape) (d : Idx) (h : InShape d s) : specBroadcastIdx s d = d :=
  (specBroadcastIdx_append (dpre := []) h.length_eq).trans (specAligned_self h)

theorem shapeBroadcastTo_isSome_iff (src dst : Shape) :
    (shapeBroadcastTo src dst).isSome ↔ BroadcastableTo src dst := by
  unfold shapeBroadcastTo BroadcastableTo
  split
  · rw [Option.isSome_map, sbtRev_isSome_iff]; simp only [List.length_reverse, axR_eq_gd]
  · next h => exact ⟨nofun, fun hb => absurd hb.1 h⟩

/-! ### zero extents: the implementation's maximum against NumPy's "extent that is not 1" -/

theorem bc1_eq_npBc1 (a b : Nat) (h : ¬ ((a = 0 ∧ b = 1) ∨ (a = 1 ∧ b = 0))) : bc1 a b = npBc1 a b := by
  rw [bc1_eq, npBc1]
  by_cases hc : compat a b
  · rw [if_pos hc, if_pos (c := a = b ∨ a = 1 ∨ b = 1) hc]
    congr 1
    unfold compat at hc
    split <;> omega
  · rw [if_neg hc, if_neg (c := a = b ∨ a = 1 ∨ b = 1) hc]

theorem bcRev_eq_npRev (a b : List Nat) (h : zeroOneRev a b = false) : bcRev a b = npRev a b := by
  induction a, b using bcLoop.induct with
  | case1 b => cases b <;> rfl
  | case2 x xs => rfl
  | case3 x xs y ys ih =>
    simp only [zeroOneRev, Bool.or_eq_false_iff, Bool.and_eq_false_imp, beq_iff_eq, beq_eq_false_iff_ne] at h
    rw [bcRev, npRev, bc1_eq_npBc1 x y (by omega), ih h.2]

end NmVerif
