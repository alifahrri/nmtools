import NmVerif.Lemmas.LinalgViews
/-
  `view::matmulv2` per rank case: the two operands after their re-arrangements, the pipeline from its four steps
  (`matmulV2_of`), the element by `contract_last`.  Nothing of the SPEC here (NN/BilinearLemmas builds on `matmulV2_elem_22`,
  Props/C17 on `matmulV2_elem_12`); `matmulV2_eq_spec` (LinalgChecked) collects the cases against NumPy's matmul.
-/
namespace NmVerif
open NmVerif.MB
open Linalg

theorem matmulLhsTile_22 (ba bb : List Nat) (m k k' n : Nat) :
    matmulLhsTile (ba ++ [m, k]) (bb ++ [k', n]) = List.replicate (ba.length + 1) 1 ++ [n] := by
  simp [matmulLhsTile, List.replicate_succ']

theorem matmulRhsTranspose_2 (n : Nat) : matmulRhsTranspose (n + 2) = List.range n ++ [n + 1, n] := by
  simp [matmulRhsTranspose, swapLast2_range]

theorem matmulLhsReshape_22 (ba bb : List Nat) (m k k' n : Nat) :
    matmulLhsReshape (ba ++ [m, k]) (bb ++ [k', n]) = ba ++ [m, n, k] := by
  rw [matmulLhsReshape, if_pos (by simp), getNeg?_append_two_1]
  simp only [setNeg_append_one]
  rw [show ba ++ [m, k] ++ [n] = (ba ++ [m]) ++ [k, n] by simp, swapLast2_append, List.append_assoc]
  rfl

theorem matmulRhsReshape_22 (x bb : List Nat) (n k : Nat) (hx : 2 ≤ x.length) :
    matmulRhsReshape x (bb ++ [n, k]) = bb ++ [1, n, k] := by
  simp [matmulRhsReshape, hx]

theorem matmulV2_lhs (ba : List Nat) (m k n : Nat) :
    ∃ a, reshape (tile (ident (ba ++ [m, k])) (List.replicate (ba.length + 1) 1 ++ [n])) (ba ++ [m, n, k]) = some a ∧
      a.shape = ba ++ [m, n, k] ∧
      ∀ p i j kk, InShape p ba → i < m → j < n → kk < k → a.get (p ++ [i, j, kk]) = p ++ [i, kk] := by
  obtain ⟨a, ha, hsh, hget⟩ := reshape_tile_last (ba ++ [m]) 0 k n
  simp only [List.replicate_zero, List.append_nil, List.append_assoc, List.cons_append, List.nil_append,
    List.length_append, List.length_cons, List.length_nil, Nat.zero_add] at ha hsh hget
  refine ⟨a, ha, hsh, fun p i j kk hp hi hj hkk => ?_⟩
  have := hget (p ++ [i]) j kk (Shape.inShape_append hp (inShape_one.2 hi)) hj hkk
  simpa only [List.append_assoc, List.cons_append, List.nil_append] using this

theorem matmulV2_rhs (bb : List Nat) (k n : Nat) :
    ∃ b c, transpose (ident (bb ++ [k, n])) (List.range bb.length ++ [bb.length + 1, bb.length]) = some b ∧
      b.shape = bb ++ [n, k] ∧
      reshape b (bb ++ [1, n, k]) = some c ∧ c.shape = bb ++ [1, n, k] ∧
      ∀ q j kk, InShape q bb → j < n → kk < k → c.get (q ++ [0, j, kk]) = q ++ [kk, j] := by
  obtain ⟨b, hb, hbsh, hbget⟩ := transpose_swap_last2 (ident (bb ++ [k, n])) bb k n rfl
  obtain ⟨c, hc, hcs, hcg⟩ := reshape_insert_ones b bb [n, k] 1 hbsh
  simp only [List.replicate_one, List.append_assoc, List.cons_append, List.nil_append] at hc hcs hcg
  refine ⟨b, c, hb, hbsh, hc, hcs, fun q j kk hq hj hkk => ?_⟩
  rw [hcg q [j, kk] hq (inShape_two.2 ⟨hj, hkk⟩), hbget q kk j hq.length_eq]
  rfl

theorem matmulV2_of {sa sb : Shape} {a b c : Arr Idx} {m : Arr Term}
    (ha : reshape (tile (ident sa) (matmulLhsTile sa sb)) (matmulLhsReshape sa sb) = some a)
    (hb : transpose (ident sb) (matmulRhsTranspose sb.length) = some b)
    (hc : reshape b (matmulRhsReshape a.shape b.shape) = some c)
    (hm : mulT a c = some m) : matmulV2 sa sb = some (sumLast 1 m) := by
  simp only [matmulV2, Option.bind_eq_bind, Option.pure_def, ha, hb, hc, hm, Option.bind_some]

theorem matmulV2_elem_22 (ba bb bs : Shape) (m k n : Nat) (hbs : broadcastShape ba bb = some bs)
    (hpa : Pos ba) (hpb : Pos bb) (hm : 0 < m) :
    ∃ r, matmulV2 (ba ++ [m, k]) (bb ++ [k, n]) = some r ∧ r.shape = bs ++ [m, n] ∧
      ∀ (β : Idx) (i j : Nat), InShape β bs → i < m → j < n →
      r.get (β ++ [i, j]) = (List.range k).map (fun kk => (bcIdx β ba ++ [i, kk], bcIdx β bb ++ [kk, j])) := by
  obtain ⟨a, ha, hash, haget⟩ := matmulV2_lhs ba m k n
  obtain ⟨b, c, hb, hbsh, hc, hcsh, hcget⟩ := matmulV2_rhs bb k n
  have hX : broadcastShape (ba ++ [m, n]) (bb ++ [1, n]) = some (bs ++ [m, n]) := by
    simpa using broadcastShape_snoc (broadcastShape_snoc hbs (bc1_one_right hm)) (bc1_self n)
  obtain ⟨mm, hm, -, hrsh, hrget⟩ := contract_last a c (ba ++ [m, n]) (bb ++ [1, n]) (bs ++ [m, n]) k
    (by rw [hash]; simp) (by rw [hcsh]; simp) hX
  refine ⟨_, ?_, hrsh, ?_⟩
  · refine matmulV2_of (by rw [matmulLhsTile_22, matmulLhsReshape_22]; exact ha)
      (by rw [List.length_append, show [k, n].length = 2 from rfl, matmulRhsTranspose_2]; exact hb)
      (by rw [hbsh, matmulRhsReshape_22 _ _ _ _ (by rw [hash]; simp)]; exact hc) hm
  · intro β i j hβ hi hj
    have hlen := broadcastShape_length hbs
    rw [hrget (β ++ [i, j]) (by simp [hβ.length_eq])]
    apply List.map_congr_left
    intro kk hkk
    have hkk' := List.mem_range.1 hkk
    rw [bcIdx_append (β := β) (τ := [i, j]) (s := ba) (t := [m, n]) (by simp) (by rw [hβ.length_eq]; omega),
        bcIdx_append (β := β) (τ := [i, j]) (s := bb) (t := [1, n]) (by simp) (by rw [hβ.length_eq]; omega)]
    have h1 : bcIdx [i, j] [m, n] = [i, j] := bcIdx_self (inShape_two.2 ⟨hi, hj⟩)
    have h2 : bcIdx [i, j] [1, n] = [0, j] := by simp [bcIdx]; omega
    rw [h1, h2]
    have e1 := haget (bcIdx β ba) i j kk (bcIdx_inShape_left hpa hbs hβ) hi hj hkk'
    have e2 := hcget (bcIdx β bb) j kk (bcIdx_inShape_right hpb hbs hβ) hj hkk'
    have e3 : bcIdx β ba ++ [i, j] ++ [kk] = bcIdx β ba ++ [i, j, kk] := by simp
    have e4 : bcIdx β bb ++ [0, j] ++ [kk] = bcIdx β bb ++ [0, j, kk] := by simp
    rw [e3, e4, e1, e2]

theorem matmulRhsTranspose_1 : matmulRhsTranspose 1 = [0] := by simp [matmulRhsTranspose, List.range_succ]

theorem matmulLhsTile_of_vec {ls rs : Shape} (h : ¬(2 ≤ ls.length ∧ 2 ≤ rs.length)) :
    matmulLhsTile ls rs = List.replicate ls.length 1 := by simp only [matmulLhsTile, if_neg h]
theorem matmulLhsReshape_of_vec {ls rs : Shape} (h : ¬(2 ≤ ls.length ∧ 2 ≤ rs.length)) : matmulLhsReshape ls rs = ls :=
  if_neg h
theorem matmulRhsReshape_of_vec {ls rs : Shape} (h : ¬(2 ≤ ls.length ∧ 2 ≤ rs.length)) : matmulRhsReshape ls rs = rs :=
  if_neg h

theorem matmulV2_elem_12 (bb : Shape) (k n : Nat) :
    ∃ r, matmulV2 [k] (bb ++ [k, n]) = some r ∧ r.shape = bb ++ [n] ∧
      ∀ (γ : Idx) (j : Nat), InShape γ bb → j < n →
      r.get (γ ++ [j]) = (List.range k).map (fun kk => ([kk], γ ++ [kk, j])) := by
  obtain ⟨a, ha, hash, haget⟩ := reshape_tile_ones [k]
  -- the rhs: transposed, then reshaped to the shape it has
  obtain ⟨b, hb, hbsh, hbget⟩ := transpose_swap_last2 (ident (bb ++ [k, n])) bb k n rfl
  obtain ⟨c, hc, hcsh, hcget⟩ := reshape_same b (bb ++ [n, k]) hbsh
  obtain ⟨m, hm, -, hrsh, hrget⟩ := contract_last a c [] (bb ++ [n]) (bb ++ [n]) k
    (by rw [hash]; simp) (by rw [hcsh]; simp) (by simp)
  refine ⟨_, ?_, hrsh, ?_⟩
  · refine matmulV2_of (by rw [matmulLhsTile_of_vec (by simp), matmulLhsReshape_of_vec (by simp)]; exact ha)
      (by rw [List.length_append, show [k, n].length = 2 from rfl, matmulRhsTranspose_2]; exact hb)
      (by rw [matmulRhsReshape_of_vec (by rw [hash]; simp), hbsh]; exact hc) hm
  · intro γ j hγ hj
    rw [hrget (γ ++ [j]) (by simp [hγ.length_eq])]
    apply List.map_congr_left
    intro kk hkk
    have hkk' := List.mem_range.1 hkk
    rw [bcIdx_self (Shape.inShape_append hγ (inShape_one.2 hj))]
    simp only [bcIdx_nil, List.nil_append]
    rw [haget [kk] (by simpa [InShape] using hkk')]
    have e : γ ++ [j] ++ [kk] = γ ++ [j, kk] := by simp
    rw [e, hcget _ (Shape.inShape_append hγ (inShape_two.2 ⟨hj, hkk'⟩)), hbget γ kk j hγ.length_eq]
    rfl

theorem matmulV2_elem_x1 (ba : Shape) (k : Nat) :
    ∃ r, matmulV2 (ba ++ [k]) [k] = some r ∧ r.shape = ba ∧
      ∀ p, InShape p ba → r.get p = (List.range k).map (fun kk => (p ++ [kk], [kk])) := by
  obtain ⟨a, ha, hash, haget⟩ := reshape_tile_ones (ba ++ [k])
  -- the rhs: the operand itself, transposed by `[0]` and reshaped to `[k]`
  have hb : transpose (ident [k]) [0] = some ⟨[k], fun d => scatter d [0]⟩ := transpose_ident rfl
  obtain ⟨c, hc, hcsh, hcget⟩ := reshape_same (α := Idx) ⟨[k], fun d => scatter d [0]⟩ [k] rfl
  obtain ⟨m, hm, -, hrsh, hrget⟩ := contract_last a c ba [] ba k hash hcsh (by simp)
  refine ⟨_, matmulV2_of (by rw [matmulLhsTile_of_vec (by simp), matmulLhsReshape_of_vec (by simp)]; exact ha)
    (by rw [List.length_singleton, matmulRhsTranspose_1]; exact hb) (by rw [matmulRhsReshape_of_vec (by simp)]; exact hc) hm,
    hrsh, fun p hp => ?_⟩
  rw [hrget p hp.length_eq]
  apply List.map_congr_left
  intro kk hkk
  have hkk' := List.mem_range.1 hkk
  rw [bcIdx_self hp, bcIdx_nil, List.nil_append, hcget [kk] (inShape_one.2 hkk'),
    haget (p ++ [kk]) (Shape.inShape_append hp (inShape_one.2 hkk'))]
  rfl

end NmVerif
