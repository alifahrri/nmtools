import NmVerif.Basic
/-
  Pointwise `≤` of two lists of the same length (a shape under its bounds), with its closure under append / reverse /
  replicate, what it means for the product and for clamping.  Core Lean only.
-/
namespace NmVerif

def LeL : List Nat → List Nat → Prop
  | [], [] => True
  | x :: xs, y :: ys => x ≤ y ∧ LeL xs ys
  | _, _ => False

instance : (a b : List Nat) → Decidable (LeL a b)
  | [], [] => isTrue trivial
  | x :: xs, y :: ys => by
      unfold LeL
      have := instDecidableLeL xs ys
      exact inferInstance
  | [], _ :: _ => isFalse (by simp [LeL])
  | _ :: _, [] => isFalse (by simp [LeL])

@[elab_as_elim]
theorem LeL.induction {motive : List Nat → List Nat → Prop} (nil : motive [] [])
    (cons : ∀ {x y : Nat} {xs ys : List Nat}, x ≤ y → LeL xs ys → motive xs ys → motive (x :: xs) (y :: ys))
    {a b : List Nat} (h : LeL a b) : motive a b := by
  fun_induction LeL a b with
  | case1 => exact nil
  | case2 _ _ _ _ ih => exact cons h.1 h.2 (ih h.2)
  | case3 => exact h.elim

theorem LeL.length_eq {a b : List Nat} (h : LeL a b) : a.length = b.length :=
  h.induction rfl fun _ _ ih => congrArg (· + 1) ih

theorem LeL.prod_le {a b : List Nat} (h : LeL a b) : prod a ≤ prod b :=
  h.induction (Nat.le_refl 1) fun hxy _ ih => Nat.mul_le_mul hxy ih

theorem LeL.refl (a : List Nat) : LeL a a := by
  induction a with
  | nil => trivial
  | cons x xs ih => exact ⟨Nat.le_refl x, ih⟩

theorem LeL.append {a b c d : List Nat} (h1 : LeL a b) (h2 : LeL c d) : LeL (a ++ c) (b ++ d) :=
  h1.induction h2 fun hxy _ ih => ⟨hxy, ih⟩

theorem LeL.reverse {a b : List Nat} (h : LeL a b) : LeL a.reverse b.reverse := by
  refine h.induction trivial fun hxy _ ih => ?_
  rw [List.reverse_cons, List.reverse_cons]
  exact ih.append ⟨hxy, trivial⟩

theorem LeL.of_reverse {a b : List Nat} (h : LeL a.reverse b.reverse) : LeL a b := by
  simpa using h.reverse

theorem zipWith_min_of_LeL {r bs : List Nat} (h : LeL r bs) : List.zipWith min r bs = r := by
  refine h.induction rfl fun hxy _ ih => ?_
  rw [List.zipWith_cons_cons, ih, Nat.min_eq_left hxy]

theorem noClamp_of_LeL {r bs : List Nat} (h : LeL r bs) :
    (List.zipWith (fun v b => if v > b then 1 else 0) r bs).sum = 0 := by
  refine h.induction rfl fun hxy _ ih => ?_
  rw [List.zipWith_cons_cons, List.sum_cons, ih, if_neg (Nat.not_lt.2 hxy)]

theorem replicate_LeL {r : List Nat} {m : Nat} (h : ∀ v ∈ r, v ≤ m) : LeL r (List.replicate r.length m) := by
  induction r with
  | nil => trivial
  | cons x xs ih =>
    exact ⟨h x (by simp), ih (fun v hv => h v (by simp [hv]))⟩

end NmVerif
