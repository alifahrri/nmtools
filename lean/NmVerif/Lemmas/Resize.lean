import NmVerif.Index.Resize
/-
  resize (nearest-neighbour sampling): SPEC `resizeIdxSpec` and proofs that the MODEL meets it.
-/
namespace NmVerif.Index

/-- documented definition of nearest-neighbour resize: source coordinate `⌊d·src/dst⌋` per axis -/
def resizeIdxSpec (d : Idx) (src dst : Shape) : Idx :=
  List.zipWith (fun x (p : Nat × Nat) => x * p.1 / p.2) d (List.zip src dst)

theorem indexResize_eq_spec (d : Idx) (src dst : Shape) : indexResize d src dst = resizeIdxSpec d src dst := by
  fun_induction indexResize d src dst with
  | case1 i d s src t dst ih => rw [resizeIdxSpec, List.zip_cons_cons, List.zipWith_cons_cons, Nat.mul_comm, ih]; rfl
  | case2 d src dst h =>
    -- the catch-all clause of the loop is the catch-all clause of `zipWith`
    refine (List.zipWith.eq_2 _ _ _ fun _ _ _ _ h1 h2 => ?_).symm
    obtain ⟨_, _, h3, h4, _⟩ := List.zip_eq_cons_iff.1 h2
    exact h _ _ _ _ _ _ h1 h3 h4

theorem indexResize_inShape (d : Idx) (src dst : Shape) (hl : src.length = dst.length) (hs : Pos src) (hd : InShape d dst) :
    InShape (indexResize d src dst) src := by
  induction d, dst, hd using inShape_ind generalizing src with
  | nil => cases List.length_eq_zero_iff.1 hl; trivial
  | cons x d t dst hx _ ih =>
    obtain ⟨s, src, rfl⟩ := List.exists_cons_of_length_eq_add_one hl
    exact ⟨(Nat.div_lt_iff_lt_mul (Nat.zero_lt_of_lt hx)).2 (Nat.mul_lt_mul_of_pos_left hx hs.head),
      ih src (Nat.succ.inj hl) hs.tail⟩

theorem resizeView_eq_some {s t : Shape} {v : IxView} :
    resizeView s t = some v ↔ (s.length = t.length ∧ Pos t) ∧ ⟨s, t, fun d => some (indexResize d s t)⟩ = v := by
  have hp : (t.all fun e => decide (0 < e)) = true ↔ Pos t := by
    simp only [List.all_eq_true, decide_eq_true_eq]; rfl
  rw [resizeView, shapeResize, ← hp]
  split
  · exact ⟨fun e => ⟨‹_›, Option.some.inj e⟩, fun e => congrArg some e.2⟩
  · exact ⟨nofun, fun e => absurd e.1 ‹_›⟩

end NmVerif.Index
