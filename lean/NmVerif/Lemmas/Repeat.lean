import NmVerif.Index.Repeat
import NmVerif.Lemmas.SelCommon
/-
  SPEC of np.repeat and proofs that the MODEL meets it (stated for the normalised axis position `k`).
  NumPy: `np.repeat(a, r, axis=k)`: every entry of axis `k` is repeated `r` times in place
         (`out[…, x, …] = a[…, x / r, …]`, extent `s[k]·r`); with one count per entry, entry `j` is repeated `rs[j]` times:
         the source positions along the axis are `np.repeat(arange(len rs), rs)` = `repeatSrc rs 0`, extent `sum rs`;
         axis None works on the flattened array.
-/
namespace NmVerif.Index

/-- `np.repeat(arange(len rs) + k0, rs)`: source position of every destination position along the axis -/
def repeatSrc : List Nat → Nat → List Nat
  | [], _ => []
  | r :: rs, k0 => List.replicate r k0 ++ repeatSrc rs (k0 + 1)

theorem shapeRepeat_eq_spec (s : Shape) (r k : Nat) (hk : k < s.length) :
    shapeRepeat s r (k : Int) = some (replaceExtent s k (s[k] * r)) := by
  simp [shapeRepeat, atPy_nat, setPy_nat, hk, replaceExtent_eq_set]

theorem shapeRepeatList_eq_spec (s : Shape) (rs : List Nat) (k : Nat) (hk : k < s.length) :
    shapeRepeatList s rs (k : Int) = some (replaceExtent s k (sum rs)) := by
  simp [shapeRepeatList, atPy_nat, setPy_nat, hk, replaceExtent_eq_set]

theorem indexRepeat_eq (s : Shape) (r k x : Nat) (d : Idx) (hx : d[k]? = some x) :
    indexRepeat s r (k : Int) d = d.set k (x / r) :=
  mapAt_normAxis_nat _ k _ x d hx

theorem indexRepeatList_eq (s : Shape) (rs : List Nat) (k x : Nat) (d : Idx) (hx : d[k]? = some x) :
    indexRepeatList s rs (k : Int) d = d.set k (firstAbove rs x) :=
  mapAt_normAxis_nat _ k _ x d hx

theorem repeatSrc_length (rs : List Nat) (k0 : Nat) : (repeatSrc rs k0).length = sum rs := by
  induction rs generalizing k0 with
  | nil => simp [repeatSrc, sum]
  | cons r rs ih => simp [repeatSrc, sum, ih]

theorem firstAbove_cons (r : Nat) (rs : List Nat) (x : Nat) :
    firstAbove (r :: rs) x = if x < r then 0 else firstAbove rs (x - r) + 1 := by
  simp only [firstAbove, cumsum, List.findIdx_cons, Bool.cond_decide, List.findIdx_map]
  split
  · rfl
  · congr 2
    funext c
    exact decide_eq_decide.2 (Nat.sub_lt_iff_lt_add' (Nat.le_of_not_lt ‹_›)).symm

/-- the C++ search "first k with x < cumsum[k]" finds NumPy's source position -/
theorem repeatSrc_getElem (rs : List Nat) (k0 x : Nat) (h : x < sum rs) :
    (repeatSrc rs k0)[x]? = some (k0 + firstAbove rs x) ∧ firstAbove rs x < rs.length := by
  induction rs generalizing k0 x with
  | nil => simp [sum] at h
  | cons r rs ih =>
    rw [firstAbove_cons, repeatSrc]
    by_cases hx : x < r
    · rw [if_pos hx, List.getElem?_append_left (List.length_replicate ▸ hx), List.getElem?_replicate, if_pos hx]
      exact ⟨rfl, Nat.succ_pos _⟩
    · have hr := Nat.le_of_not_lt hx
      have := ih (k0 + 1) (x - r) (Nat.sub_lt_left_of_lt_add hr h)
      rw [if_neg hx, List.getElem?_append_right (List.length_replicate ▸ hr), List.length_replicate, this.1]
      exact ⟨by rw [Nat.add_assoc, Nat.add_comm 1], Nat.succ_lt_succ this.2⟩

end NmVerif.Index
