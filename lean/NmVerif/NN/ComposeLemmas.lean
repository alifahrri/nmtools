import NmVerif.NN.Compose
import NmVerif.NN.Spec
import NmVerif.Lemmas.Reduce
import NmVerif.Lemmas.BroadcastRule
import NmVerif.Lemmas.Ufunc
/-
  NN/ComposeLemmas — plumbing for the composed routines: which elements a keepdims reduction folds for a source index
  (`grp`, the notion every later statement uses; it is `groupL` of NN/Spec, hence a `lineOf` / `blockOf`), how its result is
  broadcast back (`specBroadcastIdx` of the keepdims shape = `proj`), spec lemmas of the combinators `bin` / `un` / `red`, each
  read at one index so that only the elements that index reads need be defined,
  resting on Lemmas/BroadcastRule, Lemmas/Ufunc (what C06 and C07 state for a pair of operands) and on Lemmas/Reduce.

  Names, here and in the files that build on this one: per operand pattern there is a triple — `broadcastShape2` of the two
  shapes, where `specBroadcastIdx` reads the smaller operand, and `bin` on that pattern (from `bin_spec` and the two):
  `bshape_keep` / `sbi_keep` / `bin_back` (a keepdims result against its source), `bshape_trailing` / `sbi_trailing` /
  `bin_trailing` (a trailing part of the shape: the bias of linear and bilinear, layer_norm's weight and bias), `bshape_chanE` /
  `sbi_chanE` / `bin_chanE` (a per-channel parameter: NN/ChanLemmas).
-/
namespace NmVerif.NN
open NmVerif.Reduce

variable {α : Type}

/-- `groupL` enumerates the box of the slices a keepdims reduction builds for the projection of `i`: the group of `i` is
    the fibre `Reduce.reductionSlicesLoop_box` speaks of -/
theorem groupL_eq_box (p : Nat → Bool) (d : Idx) (s : Shape) (o : Nat) (i : Idx) (hi : InShape i s) :
    ∀ ii sl, d.drop ii = projL p true o i → reductionSlicesLoop p true d o ii s = some sl → boxIdx sl = groupL p o s i := by
  induction i, s, hi using inShape_ind generalizing o with
  | nil => intro ii sl _ h; rw [← Option.some.inj h]; rfl
  | cons i0 it a t _ _ ih =>
    intro ii sl hd h
    cases hp : p o with
    | true =>
      rw [projL_reduced hp] at hd
      rw [reductionSlicesLoop_reduced hp] at h
      obtain ⟨sl', h1, rfl⟩ := Option.map_eq_some_iff.1 h
      rw [boxIdx_cons_zero, ih (o + 1) _ sl' (List.drop_eq_cons hd).2 h1, groupL, if_pos hp]
    | false =>
      rw [projL_kept hp] at hd
      rw [reductionSlicesLoop_kept hp true (List.drop_eq_cons hd).1] at h
      obtain ⟨sl', h1, rfl⟩ := Option.map_eq_some_iff.1 h
      rw [boxIdx_cons_point, ih (o + 1) _ sl' (List.drop_eq_cons hd).2 h1, groupL, if_neg (by simp [hp])]

theorem groupL_congr (p q : Nat → Bool) (s : Shape) (o : Nat) (i : Idx)
    (h : ∀ k, o ≤ k → k < o + s.length → p k = q k) : groupL p o s i = groupL q o s i := by
  fun_induction groupL p o s i with
  | case1 => rfl
  | case2 o a t i0 it hp ih =>
    obtain ⟨h0, ht⟩ := window_cons h
    simp only [groupL, ← h0, hp, ih ht, if_true]
  | case3 o a t i0 it hp ih =>
    obtain ⟨h0, ht⟩ := window_cons h
    simp only [groupL, ← h0, hp, ih ht]
    rfl
  | case4 => rfl

theorem groupL_none (p : Nat → Bool) (s : Shape) (o : Nat) (i : Idx) (hi : InShape i s)
    (h : ∀ k, o ≤ k → k < o + s.length → p k = false) : groupL p o s i = [i] := by
  induction i, s, hi using inShape_ind generalizing o with
  | nil => rfl
  | cons i0 it a t _ _ ih =>
    obtain ⟨h0, ht⟩ := window_cons h
    simp [groupL, h0, ih (o + 1) ht]

theorem groupL_all (p : Nat → Bool) (s : Shape) (o : Nat) (i : Idx) (hi : i.length = s.length)
    (h : ∀ k, o ≤ k → k < o + s.length → p k = true) : groupL p o s i = allIdx s := by
  fun_induction groupL p o s i with
  | case1 => rfl
  | case2 o a t i0 it hp ih => rw [ih (by simpa using hi) (window_cons h).2]; rfl
  | case3 o a t i0 it hp ih => exact absurd (window_cons h).1 hp
  | case4 => simp at hi

theorem groupL_single (p : Nat → Bool) (s : Shape) (o ax : Nat) (i : Idx) (hi : InShape i s) (hax : ax < s.length)
    (h : ∀ k, o ≤ k → k < o + s.length → p k = decide (k = o + ax)) : groupL p o s i = lineOf s ax i := by
  induction i, s, hi using inShape_ind generalizing o ax with
  | nil => simp at hax
  | cons i0 it a t _ ht ih =>
    obtain ⟨h0, h'⟩ := window_cons h
    cases ax with
    | zero =>
      have hn := groupL_none p t (o + 1) it ht fun k h1 h2 => (h' k h1 h2).trans (decide_eq_false (by omega))
      simp [groupL, lineOf, h0, hn, ← List.map_eq_flatMap]
    | succ m =>
      rw [groupL, h0, decide_eq_false (by omega), if_neg Bool.false_ne_true,
        ih (o + 1) m (by simpa using hax) fun k h1 h2 => (h' k h1 h2).trans (by rw [Nat.add_assoc, Nat.add_comm 1])]
      simp only [lineOf, List.getElem?_cons_succ]
      cases t[m]? with
      | none => rfl
      | some n => simp [List.map_map, Function.comp_def]

theorem groupL_trailing (p : Nat → Bool) (m : Nat) (s : Shape) (o : Nat) (i : Idx) (hi : InShape i s)
    (h : ∀ k, o ≤ k → k < o + s.length → p k = decide (o + m ≤ k)) : groupL p o s i = blockOf s m i := by
  induction i, s, hi using inShape_ind generalizing o m with
  | nil => cases m <;> rfl
  | cons i0 it a t h0 ht ih =>
    cases m with
    | zero =>
      rw [groupL_all p (a :: t) o (i0 :: it) (congrArg (· + 1) ht.length_eq) fun k h1 h2 => (h k h1 h2).trans (decide_eq_true h1)]
      simp [blockOf]
    | succ m =>
      obtain ⟨hp, h'⟩ := window_cons h
      rw [groupL, hp, decide_eq_false (by omega), if_neg Bool.false_ne_true,
        ih m (o + 1) fun k h1 h2 => (h' k h1 h2).trans (by rw [Nat.add_assoc, Nat.add_comm 1])]
      simp [blockOf, List.map_map, Function.comp_def]

/-- the group of a source index under a keepdims reduction over the axis set `R` -/
def grp (s : Shape) (R : List Nat) (d : Idx) : List Idx := addressed s R true (proj R true d)

theorem grp_self {s : Shape} {R : List Nat} {d : Idx} (hd : InShape d s) : d ∈ grp s R d := by
  unfold grp addressed
  exact List.mem_filter.2 ⟨(Shape.mem_allIdx_iff s d).2 hd, by simp⟩

theorem grp_inShape {s : Shape} {R : List Nat} {d k : Idx} (hk : k ∈ grp s R d) : InShape k s :=
  mem_allIdx_inShape (List.mem_filter.1 hk).1

theorem grp_same {s : Shape} {R : List Nat} {d k : Idx} (hk : k ∈ grp s R d) : grp s R k = grp s R d := by
  have := (List.mem_filter.1 hk).2
  simp only [beq_iff_eq] at this
  unfold grp
  rw [this]

theorem grp_ne_nil {s : Shape} {R : List Nat} {d : Idx} (hd : InShape d s) : grp s R d ≠ [] :=
  List.ne_nil_of_mem (grp_self hd)

theorem grp_eq_groupL (s : Shape) (R : List Nat) (i : Idx) (hi : InShape i s) :
    grp s R i = groupL (fun k => decide (k ∈ R)) 0 s i := by
  obtain ⟨sl, h1, h2, _⟩ := reductionSlicesLoop_addressed (fun k => decide (k ∈ R)) R true s (fun _ _ => rfl) _ (proj_true_inShape s R i hi)
  rw [grp, ← h2, slicedReads_eq_box]
  exact groupL_eq_box _ _ s 0 i hi 0 sl (proj_eq_loop _ R true i s.length hi.length_eq (fun _ _ => rfl)) h1

/-- the keepdims result read at the broadcast position of source index `i` is the result element of `i`'s group -/
theorem sbi_keep (s : Shape) (R : List Nat) (i : Idx) (hi : InShape i s) :
    specBroadcastIdx (specShape s R true) i = proj R true i := by
  refine (specBroadcastIdx_append (dpre := []) (by rw [specShape_keep_length]; exact hi.length_eq)).trans ?_
  simp only [specShape, proj, if_true]
  -- position by position, from any starting position `k`: a reduced axis has extent 1 and reads 0; a kept one reads `i`
  suffices h : ∀ k, specAligned ((s.zipIdx k).map fun q => if q.2 ∈ R then 1 else q.1) i
      = (i.zipIdx k).map fun q => if q.2 ∈ R then 0 else q.1 from h 0
  induction i, s, hi using inShape_ind with
  | nil => intro k; rfl
  | cons i0 it a t h0 _ ih =>
    intro k
    simp only [List.zipIdx_cons, List.map_cons]
    by_cases hk : k ∈ R
    · rw [if_pos hk, if_pos hk, specAligned_one_cons, ih]
    · rw [if_neg hk, if_neg hk, specAligned_cons_of_lt h0, ih]

theorem pos_ones (n : Nat) : Pos (List.replicate n 1) := fun _ h => List.eq_of_mem_replicate h ▸ Nat.one_pos

theorem bcRev_dom_le (a b : List Nat) (hl : b.length ≤ a.length)
    (h : ∀ p ∈ a.zip b, 0 < p.1 ∧ (p.2 = p.1 ∨ p.2 = 1)) : bcRev a b = some a := by
  rw [bcRev_eq_loop]
  exact bcLoop_dom (fun x y => 0 < x ∧ (y = x ∨ y = 1))
    (fun x y h => h.2.elim (· ▸ bc1_refl x) (· ▸ bc1_unit_right h.1)) a b hl h

theorem bshape_keep (s : Shape) (R : List Nat) (hs : Pos s) :
    broadcastShape2 s (specShape s R true) = some s := by
  have hl := specShape_keep_length s R
  unfold broadcastShape2
  rw [bcRev_dom_le s.reverse _ (by simp [hl])]
  · simp
  · intro p hp
    -- the pairs of the two reversed shapes are the pairs `(x, if k ∈ R then 1 else x)` of an extent with its position
    rw [List.zip_eq_zipWith, ← List.reverse_zipWith hl.symm, List.mem_reverse, ← List.zip_eq_zipWith] at hp
    have e : s.zip (specShape s R true) = s.zipIdx.map fun q => (q.1, if q.2 ∈ R then 1 else q.1) := by
      conv => lhs; arg 1; rw [← List.zipIdx_map_fst 0 s]
      exact List.zip_map'
    obtain ⟨q, hq, rfl⟩ := List.mem_map.1 (e ▸ hp)
    exact ⟨hs q.1 (List.fst_mem_of_mem_zipIdx hq), by split <;> simp⟩

theorem ufunc2_defined {β γ : Type} (op : α → β → γ) (a : Arr α) (b : Arr β) (r : Shape) (ha : Pos a.shape) (hb : Pos b.shape)
    (hr : broadcastShape2 a.shape b.shape = some r) :
    ∃ u, ufunc2 op a b = some u ∧ u.shape = r ∧ ∀ d, InShape d r →
      u.get d = some (op (a.get (specBroadcastIdx a.shape d)) (b.get (specBroadcastIdx b.shape d))) := by
  cases h : ufunc2 op a b with
  | none =>
    have h1 := (NmVerif.Props.C07.ufunc2_none_iff_incompatible op a b ha hb).1 h
    exact absurd ((NmVerif.Props.C06.broadcast2_eq_some_iff a.shape b.shape ha hb r).1 hr).1 h1
  | some u =>
    obtain ⟨h1, h2⟩ := NmVerif.Props.C07.ufunc2_spec op a b u h
    rw [hr, Option.some.injEq] at h1
    exact ⟨u, rfl, h1.symm, fun d hd => h2 d (h1 ▸ hd)⟩

theorem bin_spec (f : α → α → α) {a b : OArr α} {sa sb r : Shape} (ha : a.shape = sa) (hb : b.shape = sb) (hpa : Pos sa)
    (hpb : Pos sb) (hr : broadcastShape2 sa sb = some r) :
    ∃ u, bin f a b = some u ∧ u.shape = r ∧ ∀ d, InShape d r →
      u.get d = optOp f (a.get (specBroadcastIdx sa d)) (b.get (specBroadcastIdx sb d)) := by
  subst ha hb
  obtain ⟨u, h, h1, h2⟩ := ufunc2_defined (optOp f) a b r hpa hpb hr
  exact ⟨joinA u, by simp [bin, h], h1, fun d hd => by show (u.get d).join = _; rw [h2 d hd]; rfl⟩

theorem red_spec (op : α → α → α) {a : OArr α} {s : Shape} (axis : Int) (keep : Bool) (ha : a.shape = s)
    (hv : ValidAxis s.length axis) :
    ∃ v, red op a (some [axis]) keep = some v ∧ v.shape = specShape s [normAxis s.length axis] keep ∧
      ∀ j, InShape j (specShape s [normAxis s.length axis] keep) →
        v.get j = (foldFirst (optOp op) none ((addressed s [normAxis s.length axis] keep j).map a.get)).join := by
  subst ha
  obtain ⟨v, h1, h2, h3⟩ := reduce_map_spec (optOp op) none a (some [axis]) keep (validAxes_single hv) Option.join
  exact ⟨v, h1, h2, fun j hj => h3 j (h2 ▸ hj)⟩

theorem foldFirst_optOp_map_some {β : Type} (f : α → α → α) (g : β → α) (l : List β) :
    (foldFirst (optOp f) none (l.map (fun i => some (g i)))).join = foldFirst f none (l.map g) :=
  foldFirst_optOp_some f g l

/-- `g` is bound after `d`: only the group of `d` need be defined, by a function that may depend on `d` (softmax: the
    maximum of `d`'s own line enters `g`) -/
theorem red_keep_back (op : α → α → α) {a : OArr α} {s : Shape} (ha : a.shape = s) (axis : Int)
    (hv : ValidAxis s.length axis) :
    ∃ v, red op a (some [axis]) true = some v ∧ v.shape = specShape s [normAxis s.length axis] true ∧
      ∀ d, InShape d s → ∀ g : Idx → α, (∀ k ∈ grp s [normAxis s.length axis] d, a.get k = some (g k)) →
        v.get (proj [normAxis s.length axis] true d) = foldFirst op none ((grp s [normAxis s.length axis] d).map g) := by
  obtain ⟨v, h1, h2, h3⟩ := red_spec op axis true ha hv
  refine ⟨v, h1, h2, fun d hd g hg => ?_⟩
  have : (addressed s [normAxis s.length axis] true (proj [normAxis s.length axis] true d)).map a.get
      = (grp s [normAxis s.length axis] d).map (fun i => some (g i)) := List.map_congr_left hg
  rw [h3 _ (proj_true_inShape _ _ d hd), this, foldFirst_optOp_some]

theorem bin_back (f : α → α → α) {a v : OArr α} {s : Shape} {R : List Nat} (ha : a.shape = s) (hs : Pos s)
    (hv : v.shape = specShape s R true) :
    ∃ u, bin f a v = some u ∧ u.shape = s ∧ ∀ d, InShape d s → u.get d = optOp f (a.get d) (v.get (proj R true d)) := by
  obtain ⟨u, h1, h2, h3⟩ := bin_spec f ha hv hs (pos_specShape_keep s R hs) (bshape_keep s R hs)
  refine ⟨u, h1, h2, fun d hd => ?_⟩
  rw [h3 d hd, specBroadcastIdx_self _ d hd, sbi_keep s R d hd]

theorem optOp_some_right (f : α → α → α) (o : Option α) (y : α) : optOp f o (some y) = o.map (f · y) := by
  cases o <;> rfl

theorem bcRev_append_self : ∀ (a b : List Nat), bcRev (a ++ b) a = some (a ++ b)
  | [], b => by cases b <;> rfl
  | x :: a, b => by simp [bcRev, bc1_refl, bcRev_append_self a b]

theorem bshape_trailing (lead ns : Shape) : broadcastShape2 (lead ++ ns) ns = some (lead ++ ns) := by
  unfold broadcastShape2
  rw [List.reverse_append, bcRev_append_self]
  simp

theorem sbi_trailing {ns : Shape} (p : Idx) {q : Idx} (hq : InShape q ns) : specBroadcastIdx ns (p ++ q) = q :=
  (specBroadcastIdx_append hq.length_eq).trans (specAligned_self hq)

theorem bin_trailing (f : α → α → α) {D : OArr α} {y : Arr α} {lead ns : Shape} (hD : D.shape = lead ++ ns)
    (hp : Pos (lead ++ ns)) (hy : y.shape = ns) :
    ∃ v, bin f D (lift y) = some v ∧ v.shape = lead ++ ns ∧ ∀ p q, InShape p lead → InShape q ns →
      v.get (p ++ q) = (D.get (p ++ q)).map (f · (y.get q)) := by
  obtain ⟨v, h1, h2, h3⟩ := bin_spec f (b := lift y) hD hy hp (Shape.pos_append.1 hp).2 (bshape_trailing lead ns)
  refine ⟨v, h1, h2, fun p q hpi hq => ?_⟩
  have hin : InShape (p ++ q) (lead ++ ns) := Shape.inShape_append hpi hq
  rw [h3 _ hin, specBroadcastIdx_self _ _ hin, sbi_trailing p hq]
  exact optOp_some_right f _ (y.get q)

/-- `X` is what the caller knows `D` to hold at `p ++ [o]`: the conclusion then IS the `match bias` of the caller's statement -/
theorem bin_opt_bias (f : α → α → α) (D : OArr α) (bias : Option (Arr α)) (lead : Shape) (O : Nat)
    (hD : D.shape = lead ++ [O]) (hp : Pos (lead ++ [O])) (hb : ∀ c, bias = some c → c.shape = [O]) :
    ∃ v, (match bias with | none => some D | some bb => bin f D (lift bb)) = some v ∧ v.shape = lead ++ [O] ∧
      ∀ p o X, InShape p lead → o < O → D.get (p ++ [o]) = X → v.get (p ++ [o]) = match bias with
        | none => X
        | some c => X.map (fun S => f S (c.get [o])) := by
  cases bias with
  | none => exact ⟨D, rfl, hD, fun _ _ _ _ _ h => h⟩
  | some bb =>
    obtain ⟨v, h1, h2, h3⟩ := bin_trailing f hD hp (hb bb rfl)
    exact ⟨v, h1, h2, fun p o X hpi ho hX => hX ▸ h3 p [o] hpi ⟨ho, trivial⟩⟩

theorem grp_single_eq_lineOf {s : Shape} {ax : Nat} {i : Idx} (hi : InShape i s) (hax : ax < s.length) :
    grp s [ax] i = lineOf s ax i :=
  (grp_eq_groupL s [ax] i hi).trans (groupL_single _ s 0 ax i hi hax fun k _ _ => by simp)

/-- `view::softmax` on an array whose elements are `some (g i)` (C17 `softmax_eq_def`, `softmin_eq_def`: `g = x`, `neg ∘ x`) -/
theorem softmax_line (mx sub add div : α → α → α) (exp : α → α) {a : OArr α} {s : Shape} {g : Idx → α}
    (ha : a.shape = s) (hg : ∀ i, InShape i s → a.get i = some (g i)) (hs : Pos s) (axis : Int) (hv : ValidAxis s.length axis) :
    ∃ v, softmax mx sub add div exp a axis = some v ∧ v.shape = s ∧ ∀ i, InShape i s →
      (v.get i = (foldFirst mx none ((lineOf s (normAxis s.length axis) i).map g)).bind fun M =>
        (foldFirst add none ((lineOf s (normAxis s.length axis) i).map fun k => exp (sub (g k) M))).map fun S =>
          div (exp (sub (g i) M)) S) ∧
      ∃ y, v.get i = some y := by
  obtain ⟨va, ha1, ha2, ha4⟩ := red_keep_back mx ha axis hv
  obtain ⟨vb, hb1, hb2, hb3⟩ := bin_back sub ha hs ha2
  obtain ⟨vd, hd1, hd2, hd4⟩ := red_keep_back add (a := un exp vb) hb2 axis hv
  obtain ⟨v, hv1, hv2, hv3⟩ := bin_back div (a := un exp vb) hb2 hs hd2
  refine ⟨v, by simp only [softmax, ha1, hb1, hd1, hv1, Option.bind_some], hv2, fun i hi => ?_⟩
  -- the group is never empty, and every member of it has its maximum `M`
  obtain ⟨M, hM⟩ := foldFirst_map_defined mx g (grp_ne_nil (R := [normAxis s.length axis]) hi)
  obtain ⟨S, hS⟩ := foldFirst_map_defined add (fun k => exp (sub (g k) M)) (grp_ne_nil (R := [normAxis s.length axis]) hi)
  have hc : ∀ k ∈ grp s [normAxis s.length axis] i, (un exp vb).get k = some (exp (sub (g k) M)) := fun k hk => by
    have hk' := grp_inShape hk
    show (vb.get k).map exp = _
    rw [hb3 k hk', hg k hk', ha4 k hk' g fun j hj => hg j (grp_inShape hj), grp_same hk, hM]
    rfl
  rw [← grp_single_eq_lineOf hi (normAxis_lt hv), hv3 i hi, hc i (grp_self hi), hd4 i hi _ hc, hM, Option.bind_some, hS]
  exact ⟨rfl, _, rfl⟩

theorem foldFirst_div_distrib (add div : α → α → α) (c : α) (hlaw : ∀ a b, add (div a c) (div b c) = div (add a b) c)
    (l : List α) : foldFirst add none (l.map (div · c)) = (foldFirst add none l).map (div · c) := by
  cases l with
  | nil => rfl
  | cons a t => exact congrArg some ((List.foldl_map ..).trans (List.foldl_hom (div · c) hlaw))

end NmVerif.NN
