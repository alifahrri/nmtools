import NmVerif.NN.Pool
import NmVerif.NN.Spec
/-
  NN/PoolLemmas — shape_pool2d / slice_pool2d / pool window against the reference (all extents, kernels, strides,
  any number of leading axes).
-/
namespace NmVerif.NN

/-- domain of the pooling theorems: positive kernel that fits the input, positive stride -/
def PoolDom (n k s : Nat) : Prop := 0 < k ∧ k ≤ n ∧ 0 < s

instance (n k s : Nat) : Decidable (PoolDom n k s) := by unfold PoolDom; exact inferInstance

theorem poolExtent_eq_spec {n k s : Nat} (c : Bool) (h : PoolDom n k s) :
    poolExtent n k s c = poolOutSpec n k s c := by
  obtain ⟨hk, hkn, hs⟩ := h
  unfold poolExtent poolOutSpec
  cases c with
  | true =>
    have e : n - k + s - 1 = n - k + (s - 1) := by omega
    simp only [if_true, e, Nat.add_sub_cancel]
    generalize (n - k + (s - 1)) / s = q
    by_cases h1 : q * s ≥ n
    · have hq : q + 1 > 1 := by
        rcases Nat.eq_zero_or_pos q with h0 | h0
        · rw [h0] at h1; omega
        · omega
      rw [if_pos ⟨hq, h1⟩, if_pos h1]
    · rw [if_neg (fun h => h1 h.2), if_neg h1]
  | false =>
    simp only [Bool.false_eq_true, if_false, outSize]
    have e : n + 2 * 0 - 1 * (k - 1) - 1 = n - k := by omega
    rw [e]

/-- in ceil mode this is what the last-window rule of `poolExtent` is for -/
theorem pool_start_lt {n k s : Nat} {c : Bool} (h : PoolDom n k s) {i : Nat} (hi : i < poolExtent n k s c) :
    s * i < n := by
  obtain ⟨hk, hkn, hs⟩ := h
  unfold poolExtent at hi
  cases c with
  | false =>
    have h2 : s * i ≤ s * ((n - k) / s) := Nat.mul_le_mul_left s (Nat.le_of_lt_succ hi)
    have h3 := Nat.mul_div_le (n - k) s
    omega
  | true =>
    simp only [if_true, Nat.add_sub_cancel] at hi
    generalize hq : (n - k + s - 1) / s = q at hi
    have hql : q * s ≤ n - k + s - 1 := hq ▸ Nat.div_mul_le_self _ _
    split at hi
    · have h2 : (i + 1) * s ≤ q * s := Nat.mul_le_mul_right s (by omega)
      rw [Nat.add_mul, Nat.one_mul, Nat.mul_comm i s] at h2
      omega
    · next h1 =>
      have h2 : i * s ≤ q * s := Nat.mul_le_mul_right s (by omega)
      rw [Nat.mul_comm i s] at h2
      rcases Nat.eq_zero_or_pos q with h0 | h0
      · rw [h0, Nat.zero_mul] at h2; omega
      · omega

theorem shapePool2d_append (lead : List Nat) (H W kh kw sh sw : Nat) (c : Bool) :
    shapePool2d (lead ++ [H, W]) [kh, kw] [sh, sw] c
      = some (lead ++ [poolExtent H kh sh c, poolExtent W kw sw c]) := by
  unfold shapePool2d
  have hl : (lead ++ [H, W]).length = lead.length + 2 := by simp
  have hnb : (lead ++ [H, W]).length - 2 = lead.length := by omega
  rw [if_neg (by omega)]
  simp only [hnb, List.drop_left, List.take_left]

theorem slicePool2d_append (lead li : List Nat) (hl : li.length = lead.length) (H W kh kw sh sw i j : Nat) :
    slicePool2d (li ++ [i, j]) (lead ++ [H, W]) [kh, kw] [sh, sw]
      = some (li.map (fun i => (i, i + 1, 1)) ++ [(sh * i, sh * i + kh, 1), (sw * j, sw * j + kw, 1)]) := by
  unfold slicePool2d
  have h1 : (lead ++ [H, W]).length = lead.length + 2 := by simp
  have h2 : (li ++ [i, j]).length - 2 = li.length := by simp
  have h3 : (lead ++ [H, W]).length - 2 = li.length := by omega
  rw [if_neg (by omega)]
  simp only [h2, h3, List.drop_left, List.take_left]

theorem sliceRange_unit {n i : Nat} (h : i < n) : sliceRange n (i, i + 1, 1) = [i] := by
  unfold sliceRange
  have e : min (i + 1) n = i + 1 := by omega
  simp [e]

theorem sliceRange_window {n k s i : Nat} (hk : 0 < k) (h : s * i < n) :
    sliceRange n (s * i, s * i + k, 1) = rangeFrom (s * i) (min (s * i + k) n) := by
  unfold sliceRange rangeFrom
  have e : min (s * i + k) n > s * i := by omega
  simp only [e, if_true]

theorem zipWith_sliceRange_lead {li lead : List Nat} (h : InShape li lead) :
    List.zipWith sliceRange lead (li.map (fun i => (i, i + 1, 1))) = li.map (fun i => [i]) := by
  induction li, lead, h using inShape_ind with
  | nil => rfl
  | cons i is s ss h0 _ ih => simp only [List.map_cons, List.zipWith_cons_cons, sliceRange_unit h0, ih]

theorem cartesian_units (li : List Nat) (rest : List (List Nat)) :
    cartesian (li.map (fun i => [i]) ++ rest) = (cartesian rest).map (li ++ ·) := by
  induction li with
  | nil => simp
  | cons i is ih =>
    simp only [List.map_cons, List.cons_append, cartesian, ih, List.flatMap_cons, List.flatMap_nil,
      List.append_nil, List.map_map]
    rfl

theorem cartesian_two (A B : List Nat) :
    cartesian [A, B] = A.flatMap fun a => B.map fun b => [a, b] := by
  simp only [cartesian, List.map_cons, List.map_nil, ← List.map_eq_flatMap, List.map_map]
  rfl

/-- the window `pool2d_t::operator()` reads = the reference (clipped) window, element for element, in order -/
theorem poolWindow_eq_spec {lead li : List Nat} (hli : InShape li lead) {H W kh kw sh sw i j : Nat}
    (hkh : 0 < kh) (hkw : 0 < kw) (hi : sh * i < H) (hj : sw * j < W) :
    poolWindow (lead ++ [H, W]) [kh, kw] [sh, sw] (li ++ [i, j]) = some (specWindow li H W kh kw sh sw i j) := by
  unfold poolWindow
  rw [slicePool2d_append lead li hli.length_eq, Option.map_some, List.zipWith_append (by simp [hli.length_eq]),
    zipWith_sliceRange_lead hli]
  simp only [List.zipWith_cons_cons, List.zipWith_nil_right, sliceRange_window hkh hi, sliceRange_window hkw hj]
  rw [cartesian_units, cartesian_two]
  unfold specWindow
  simp only [List.map_flatMap, List.map_map]
  rfl

theorem mem_rangeFrom {lo hi a : Nat} : a ∈ rangeFrom lo hi ↔ lo ≤ a ∧ a < hi := by
  rw [rangeFrom, ← List.range'_eq_map_range, List.mem_range'_1]
  omega

theorem specWindow_inShape {lead li : List Nat} (hli : InShape li lead) {H W kh kw sh sw i j : Nat} :
    ∀ x ∈ specWindow li H W kh kw sh sw i j, InShape x (lead ++ [H, W]) := by
  intro x hx
  unfold specWindow at hx
  simp only [List.mem_flatMap, List.mem_map, mem_rangeFrom] at hx
  obtain ⟨a, ha, b, hb, rfl⟩ := hx
  refine Shape.inShape_append hli ?_
  simp only [InShape]
  exact ⟨by omega, by omega, trivial⟩

theorem rangeFrom_length (lo hi : Nat) : (rangeFrom lo hi).length = hi - lo := by simp [rangeFrom]

theorem specWindow_length (li : Idx) (H W kh kw sh sw i j : Nat) :
    (specWindow li H W kh kw sh sw i j).length
      = (min (sh * i + kh) H - sh * i) * (min (sw * j + kw) W - sw * j) := by
  unfold specWindow
  rw [List.length_flatMap]
  simp only [List.length_map, rangeFrom_length]
  simp only [List.map_const', List.sum_replicate_nat, rangeFrom_length]

theorem specWindow_ne_nil {li : Idx} {H W kh kw sh sw i j : Nat} (hkh : 0 < kh) (hkw : 0 < kw) (hi : sh * i < H) (hj : sw * j < W) :
    specWindow li H W kh kw sh sw i j ≠ [] := by
  apply List.ne_nil_of_length_pos
  rw [specWindow_length]
  exact Nat.mul_pos (Nat.sub_pos_of_lt (Nat.lt_min.2 ⟨Nat.lt_add_of_pos_right hkh, hi⟩))
    (Nat.sub_pos_of_lt (Nat.lt_min.2 ⟨Nat.lt_add_of_pos_right hkw, hj⟩))

theorem poolWindow_spec {lead li : List Nat} (hli : InShape li lead) {H W kh kw sh sw i j : Nat} {ceil : Bool}
    (hH : PoolDom H kh sh) (hW : PoolDom W kw sw)
    (hidx : InShape (li ++ [i, j]) (lead ++ [poolExtent H kh sh ceil, poolExtent W kw sw ceil])) :
    poolWindow (lead ++ [H, W]) [kh, kw] [sh, sw] (li ++ [i, j]) = some (specWindow li H W kh kw sh sw i j) ∧
      specWindow li H W kh kw sh sw i j ≠ [] ∧ ∀ x ∈ specWindow li H W kh kw sh sw i j, InShape x (lead ++ [H, W]) := by
  have hij := ((Shape.inShape_append_iff _ lead _).1 hidx).2
  rw [← hli.length_eq, List.drop_left] at hij
  have h1 := pool_start_lt hH hij.1
  have h2 := pool_start_lt hW hij.2.1
  exact ⟨poolWindow_eq_spec hli hH.1 hW.1 h1 h2, specWindow_ne_nil hH.1 hW.1 h1 h2, specWindow_inShape hli⟩

end NmVerif.NN
