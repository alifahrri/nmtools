import NmVerif.NN.ComposeLemmas
import NmVerif.NN.AxisLemmas
import NmVerif.Lemmas.LinalgMatmulV2
/-
  NN/BilinearLemmas — `view::bilinear`: `bilinear_of_steps` carries the composition for any input rank, given what the
  rank decides (the two reshapes, the matmulv2 term lists, the read-back of the second input, the final permutation);
  `bilinear_lead_eq_def` instantiates it for inputs `lead ++ [B, ·]` with any `lead` (rank ≥ 2), where the rank decides only
  whether `bilinear_input_reshape` inserts a unit axis (`UnitAxis`).
-/
namespace NmVerif.NN
open NmVerif.Reduce NmVerif.Linalg
variable {α : Type}

theorem bilinearAt_eq_L (add mul : α → α → α) (x y w : Idx → α) (I J b o : Nat) :
    bilinearAt add mul x y w I J b o = bilinearAtL add mul x y w I J [b] o := rfl

/-- `A ++ [J]` is the shape of the matmulv2 result (`A` holds the out-features axis wherever the rank puts it), `q` the index of
    `A` that the final transpose moves to `p ++ [o]` -/
theorem bilinear_of_steps (add mul : α → α → α) (x y w : Arr α) (bias : Option (Arr α)) {xs ys : Shape} (A lead : Shape)
    (I J O : Nat) {x' y' : Arr α} {r : Arr (List Term)}
    (hxs : bilinearInputReshape x.shape = some xs) (hys : bilinearInputReshape y.shape = some ys)
    (hx' : reshape x xs = some x') (hy' : reshape y ys = some y')
    (hr : matmulV2 x'.shape w.shape = some r) (hrs : r.shape = A ++ [J]) (hpA : Pos (A ++ [J]))
    (hpy : Pos y'.shape) (hbs : broadcastShape2 (A ++ [J]) y'.shape = some (A ++ [J]))
    (htr : (bilinearResultTranspose A.length).mapM (fun k => A[k]?) = some (lead ++ [O]))
    (hb : ∀ c, bias = some c → c.shape = [O]) (hpR : Pos (lead ++ [O])) :
    ∃ v, bilinear add mul x y w bias = some v ∧ v.shape = lead ++ [O] ∧ ∀ p o, InShape p lead → o < O →
      ∀ q, scatter (p ++ [o]) (bilinearResultTranspose A.length) = q → InShape q A →
      (∀ j, j < J → (r.get (q ++ [j])).map (fun tm => mul (x'.get tm.1) (w.get tm.2))
        = (List.range I).map fun i => mul (x.get (p ++ [i])) (w.get [o, i, j])) →
      (∀ j, j < J → y'.get (specBroadcastIdx y'.shape (q ++ [j])) = y.get (p ++ [j])) →
      v.get (p ++ [o]) = match bias with
        | none => bilinearAtL add mul x.get y.get w.get I J p o
        | some c => (bilinearAtL add mul x.get y.get w.get I J p o).map (fun S => add S (c.get [o])) := by
  let a : OArr α := ⟨r.shape, fun d => foldFirst add none ((r.get d).map fun tm => mul (x'.get tm.1) (w.get tm.2))⟩
  have ha : matmulVal add mul x' w = some a := by simp only [matmulVal, hr, Option.map_some]; rfl
  obtain ⟨b1, hb1, hb2, hb3⟩ := bin_spec mul (a := a) (b := lift y') hrs rfl hpA hpy hbs
  obtain ⟨c, hc1, hc2, hc3⟩ := red_last add hb2 false
  simp only [Bool.false_eq_true, if_false] at hc2 hc3
  let D : OArr α := ⟨lead ++ [O], fun d => c.get (scatter d (bilinearResultTranspose A.length))⟩
  have hD : transpose c (bilinearResultTranspose c.shape.length) = some D := by
    simp only [transpose, hc2, htr]; rfl
  obtain ⟨v, hv1, hv2, hv3⟩ := bin_opt_bias add D bias lead O rfl hpR hb
  refine ⟨v, ?_, hv2, fun p o hp ho q hsc hin hL hyb => ?_⟩
  · simp only [bilinear, hxs, hys, hx', hy', ha, hb1, hc1, hD, Option.bind_some]
    exact hv1
  · refine hv3 p o _ hp ho ?_
    show c.get (scatter (p ++ [o]) (bilinearResultTranspose A.length)) = _
    -- both sides are a fold over `J` optional terms: compare term by term
    rw [hsc, hc3 _ hin, bilinearAtL, ← foldFirst_optOp_mapM]
    refine congrArg (fun l => (foldFirst (optOp add) none l).join) (List.map_congr_left fun j hj => ?_)
    have hj' := List.mem_range.1 hj
    have hd : InShape (q ++ [j]) (A ++ [J]) := Shape.inShape_append hin ⟨hj', trivial⟩
    rw [hb3 _ hd, specBroadcastIdx_self _ _ hd, ← hL j hj']
    exact (congrArg (optOp mul _ <| some ·) (hyb j hj')).trans (optOp_some_right mul _ _)

/-- what the rank decides, for `e` unit axes inserted behind `lead`: the reshape target, the batch broadcast of matmulv2 against
    the out-features axis, and how the two reshaped inputs are read back -/
structure UnitAxis (lead : Shape) (O : Nat) (e : Nat) : Prop where
  reshape : ∀ B K, bilinearInputReshape (lead ++ [B, K]) = some (lead ++ List.replicate e 1 ++ [B, K])
  batch : MB.broadcastShape (lead ++ List.replicate e 1) [O] = some (lead ++ [O])
  lhs : ∀ p o, InShape p lead → o < O → MB.bcIdx (p ++ [o]) (lead ++ List.replicate e 1) = p ++ List.replicate e 0
  bshape : ∀ B J, broadcastShape2 (lead ++ [O, B] ++ [J]) (lead ++ List.replicate e 1 ++ [B, J]) = some (lead ++ [O, B] ++ [J])
  rhs : ∀ p o b j B J, InShape p lead → b < B → j < J →
    specBroadcastIdx (lead ++ List.replicate e 1 ++ [B, J]) (p ++ [o, b] ++ [j]) = p ++ List.replicate e 0 ++ [b, j]

theorem unitAxis_nil {O : Nat} : UnitAxis [] O 0 where
  reshape _ _ := rfl
  batch := broadcastShape_nil_left _
  lhs p o hp _ := by cases List.eq_nil_of_length_eq_zero hp.length_eq; rfl
  bshape B J := bshape_trailing [O] [B, J]
  rhs p o b j B J hp hb hj := by
    cases List.eq_nil_of_length_eq_zero hp.length_eq; exact sbi_trailing [o] (q := [b, j]) ⟨hb, hj, trivial⟩

theorem unitAxis_cons {O : Nat} (hO : 0 < O) (a : Nat) (t : Shape) : UnitAxis (a :: t) O 1 where
  reshape B K := by
    simp only [bilinearInputReshape, List.cons_append]
    congr 1
    have e : (a :: (t ++ [B, K])).length - 2 = (a :: t).length := by simp
    rw [e, ← List.cons_append, List.take_left, List.drop_left]
    simp
  batch := by
    have := broadcastShape_append_one (a :: t) [] 1 O
    rw [List.nil_append, bc1_one_left hO, broadcastShape_nil_right] at this
    exact this
  lhs p o hp ho := bcIdx_append_ones (t := [O]) hp ⟨ho, trivial⟩
  bshape B J := by
    unfold broadcastShape2
    simp only [List.reverse_append, List.reverse_cons, List.reverse_nil, List.nil_append, List.replicate_one, List.cons_append,
      List.append_assoc]
    rw [bcRev_eq_loop, bcLoop_cons (bc1_refl J), bcLoop_cons (bc1_refl B), bcLoop_cons (bc1_unit_right hO), ← bcRev_eq_loop,
      bcRev_self]
    simp
  rhs p o b j B J hp hb hj := by
    refine (specBroadcastIdx_append (dpre := []) (d' := p ++ [o, b] ++ [j]) (by simp [hp.length_eq])).trans ?_
    -- `p` against `a :: t`, then `o` against the unit axis, then `[b, j]` against `[B, J]`
    rw [specAligned, List.append_assoc, List.append_assoc, List.append_assoc, List.zipWith_append hp.length_eq.symm]
    exact congr (congrArg _ (specAligned_self hp)) (congrArg (0 :: ·) (specAligned_self (s := [B, J]) (d := [b, j]) ⟨hb, hj, trivial⟩))

theorem unitAxis_exists {O : Nat} (hO : 0 < O) : ∀ lead : Shape, ∃ e, UnitAxis lead O e
  | [] => ⟨0, unitAxis_nil⟩
  | a :: t => ⟨1, unitAxis_cons hO a t⟩

/-- bilinear for any leading (batch) axes; C17 `bilinear_rank2_eq_def`, `bilinear_rank3_eq_def` are `lead = []`, `[B0]` -/
theorem bilinear_lead_eq_def (add mul : α → α → α) (x y w : Arr α) (bias : Option (Arr α)) (lead : Shape) (B I J O : Nat)
    (hx : x.shape = lead ++ [B, I]) (hy : y.shape = lead ++ [B, J]) (hw : w.shape = [O, I, J])
    (hb : ∀ c, bias = some c → c.shape = [O]) (hlead : Pos lead) (hB : 0 < B) (hJ : 0 < J) (hO : 0 < O) :
    ∃ v, bilinear add mul x y w bias = some v ∧ v.shape = lead ++ [B] ++ [O] ∧ ∀ p b o, InShape p lead → b < B → o < O →
      v.get (p ++ [b] ++ [o]) = match bias with
        | none => bilinearAtL add mul x.get y.get w.get I J (p ++ [b]) o
        | some c => (bilinearAtL add mul x.get y.get w.get I J (p ++ [b]) o).map (fun S => add S (c.get [o])) := by
  obtain ⟨e, U⟩ := unitAxis_exists hO lead
  obtain ⟨x', hx1, hx2, hx3⟩ := reshape_insert_ones x lead [B, I] e hx
  obtain ⟨y', hy1, hy2, hy3⟩ := reshape_insert_ones y lead [B, J] e hy
  have hpu : Pos (lead ++ List.replicate e 1) := Shape.pos_append.2 ⟨hlead, pos_ones e⟩
  obtain ⟨r, hr1, hr2, hr3⟩ := matmulV2_elem_22 (lead ++ List.replicate e 1) [O] (lead ++ [O]) B I J U.batch hpu
    (Pos.cons hO Shape.pos_nil) hB
  have hA : lead ++ [O] ++ [B, J] = lead ++ [O, B] ++ [J] := by simp
  have htp : ∀ n, bilinearResultTranspose (n + 2) = List.range n ++ [n + 1, n] := fun n => by simp [bilinearResultTranspose]
  have hl : ∀ {p : Idx}, p.length = lead.length → (lead ++ [O, B]).length = p.length + 2 := fun h => by simp [h]
  obtain ⟨v, h1, h2, h3⟩ := bilinear_of_steps add mul x y w bias (lead ++ [O, B]) (lead ++ [B]) I J O
    (by rw [hx]; exact U.reshape B I) (by rw [hy]; exact U.reshape B J) hx1 hy1
    (by rw [hx2, hw]; exact hr1) (hr2.trans hA)
    (Shape.pos_append.2 ⟨Shape.pos_append.2 ⟨hlead, Pos.cons hO (Pos.cons hB Shape.pos_nil)⟩, Pos.cons hJ Shape.pos_nil⟩)
    (by rw [hy2]; exact Shape.pos_append.2 ⟨hpu, Pos.cons hB (Pos.cons hJ Shape.pos_nil)⟩)
    (by rw [hy2]; exact U.bshape B J)
    (by
      rw [hl rfl, htp, List.mapM_append, mapM_range_eq_some lead _ (fun i hi => List.getElem?_append_left hi)]
      simp)
    hb (Shape.pos_append.2 ⟨Shape.pos_append.2 ⟨hlead, Pos.cons hB Shape.pos_nil⟩, Pos.cons hO Shape.pos_nil⟩)
  refine ⟨v, h1, h2, fun p b o hp hb' ho => h3 (p ++ [b]) o (Shape.inShape_append hp ⟨hb', trivial⟩) ho (p ++ [o, b])
    (by rw [hl hp.length_eq, htp, List.append_assoc]; exact scatter_swap_last2 p b o)
    (Shape.inShape_append hp ⟨ho, hb', trivial⟩) (fun j hj => ?_) (fun j hj => ?_)⟩
  · -- the term list of matmulv2 at `p ++ [o, b, j]`: its lhs index is `p ++ [o]` read through the unit axis
    have hr := hr3 (p ++ [o]) b j (Shape.inShape_append hp ⟨ho, trivial⟩) hb' hj
    rw [U.lhs p o hp ho, bcIdx_append_right (q := [o]) (t := [O]) ⟨ho, trivial⟩] at hr
    rw [show r.get (p ++ [o, b] ++ [j]) = (List.range I).map fun kk => (p ++ List.replicate e 0 ++ [b, kk], [o, kk, j]) by
      simpa using hr, List.map_map]
    apply List.map_congr_left
    intro i hi
    show mul (x'.get (p ++ List.replicate e 0 ++ [b, i])) _ = _
    rw [hx3 p [b, i] hp ⟨hb', List.mem_range.1 hi, trivial⟩]
    simp
  · rw [hy2, U.rhs p o b j B J hp hb' hj, hy3 p [b, j] hp ⟨hb', hj, trivial⟩]
    simp

end NmVerif.NN
