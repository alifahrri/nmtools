import NmVerif.NN.ComposeLemmas
import NmVerif.Lemmas.ReduceMean
/-
  NN/NormLemmas — the shared core of layer / instance / group norm (`normCore`): which elements enter the mean and the
  variance of output index `i` (the group of `i` under the keepdims reduction), and how both are broadcast back; then
  axis lists that name a block of axes (`axes_block`: the axis set is a `List.range'`; the trailing axes here, group_norm's
  `2 ..` in NN/GroupNormLemmas), for which the group is the block `x[p, ·]` (`normCore_block`, `normCore_trailing`).
-/
namespace NmVerif.NN
open NmVerif.Reduce

variable {α : Type}

theorem normAt_defined (add sub div : α → α → α) (sqabs sqrt : α → α) (divn : α → Nat → α) (eps : α) (x : Idx → α)
    {G : List Idx} (i : Idx) (h : G ≠ []) : ∃ y, normAt add sub div sqabs sqrt divn eps x G i = some y := by
  obtain ⟨S, hS⟩ := foldFirst_map_defined add x h
  obtain ⟨V, hV⟩ := foldFirst_map_defined add (fun k => sqabs (sub (x k) (divn S G.length))) h
  exact ⟨_, by simp only [normAt, hS, Option.bind_some, hV]; rfl⟩

/-- the affine tail of the norms on one element: normalised (`o₁`), times the weight (`o₂`), plus the bias (`o₃`) -/
theorem normAt_affine {add sub mul div : α → α → α} {sqabs sqrt : α → α} {divn : α → Nat → α} {eps : α} {x : Idx → α}
    {G : List Idx} {i : Idx} {wc bc : α} {o₁ o₂ o₃ : Option α} (h₁ : o₁ = normAt add sub div sqabs sqrt divn eps x G i)
    (h₂ : o₂ = o₁.map (mul · wc)) (h₃ : o₃ = o₂.map (add · bc)) (h : G ≠ []) :
    o₃ = (normAt add sub div sqabs sqrt divn eps x G i).map (fun y => add (mul y wc) bc) ∧ ∃ y, o₃ = some y := by
  obtain ⟨y, hy⟩ := normAt_defined add sub div sqabs sqrt divn eps x i h
  rw [h₃, h₂, h₁, hy]
  exact ⟨rfl, _, rfl⟩

theorem map_allIdx_ne_nil {s : Shape} {q : Idx} (hq : InShape q s) {β : Type} (f : Idx → β) : (allIdx s).map f ≠ [] :=
  List.ne_nil_of_mem (List.mem_map_of_mem ((Shape.mem_allIdx_iff s q).2 hq))

theorem normCore_spec (add sub div : α → α → α) (sqabs sqrt : α → α) (divn : α → Nat → α) (eps : α) (x : Arr α)
    {s : Shape} (l : List Int) (hx : x.shape = s) (hs : Pos s) (hv : ValidAxes s.length (some l)) :
    ∃ v, normCore add sub div sqabs sqrt divn eps x l = some v ∧ v.shape = s ∧ ∀ i, InShape i s →
      v.get i = normAt add sub div sqabs sqrt divn eps x.get (grp s (axisSet s.length (some l)) i) i := by
  subst hx
  obtain ⟨mu, hm1, hm2, hm3⟩ := mean_eq_spec add divn x (some l) true hv
  obtain ⟨vr, hv1, hv2, hv3⟩ := var_spec_posAxes add sub sqabs divn x (some l) 0 true hv (posAxes_of_pos hs _)
  obtain ⟨sh, hs1, hs2, hs3⟩ := bin_back sub (a := lift x) rfl hs hm2
  obtain ⟨v, hd1, hd2, hd3⟩ := bin_back div (v := un (fun t => sqrt (add t eps)) vr) hs2 hs hv2
  refine ⟨v, by simp only [normCore, hm1, hs1, hv1, Option.bind_some]; exact hd1, hd2, fun i hi => ?_⟩
  have hpi := proj_true_inShape x.shape (axisSet x.shape.length (some l)) i hi
  rw [hd3 i hi, hs3 i hi]
  show optOp div (optOp sub (some (x.get i)) (mu.get _)) ((vr.get _).map fun t => sqrt (add t eps)) = _
  rw [hm3 _ (hm2 ▸ hpi), hv3 _ (hv2 ▸ hpi)]
  simp only [specVarElem, normAt, grp, Nat.sub_zero]
  -- by cases on the sum `oS`, then on the sum of squared deviations `oV`
  generalize foldFirst add none (List.map x.get _) = oS
  cases oS with
  | none => rfl
  | some S =>
    simp only [Option.map_some, Option.bind_some]
    generalize foldFirst add none _ = oV
    cases oV <;> rfl

theorem axes_block (n m k : Nat) (f : Nat → Int) (hv : ∀ i, i < k → ValidAxis n (f i)) (hn : ∀ i, i < k → normAxis n (f i) = m + i) :
    ValidAxes n (some ((List.range k).map f)) ∧ axisSet n (some ((List.range k).map f)) = List.range' m k := by
  have hset : axisSet n (some ((List.range k).map f)) = List.range' m k := by
    simp only [axisSet, List.map_map, List.range'_eq_map_range]
    exact List.map_congr_left (fun i hi => hn i (List.mem_range.1 hi))
  refine ⟨⟨?_, ?_⟩, hset⟩
  · intro a ha
    simp only [List.mem_map, List.mem_range] at ha
    obtain ⟨i, hi, rfl⟩ := ha
    exact hv i hi
  · simp only [axisSet] at hset
    rw [hset]
    exact List.nodup_range'

theorem trailing_block (lead ns : Shape) :
    ValidAxes (lead ++ ns).length (some (trailingAxes ns.length)) ∧
    axisSet (lead ++ ns).length (some (trailingAxes ns.length)) = List.range' lead.length ns.length := by
  rw [List.length_append]
  have hv : ∀ i, i < ns.length → ValidAxis (lead.length + ns.length) (-(ns.length : Int) + (i : Int)) := fun i hi => by
    unfold ValidAxis; omega
  exact axes_block _ _ _ _ hv fun i hi => by have := normAxis_eq (hv i hi); rw [if_pos (by omega)] at this; omega

theorem grp_block {lead ns : Shape} {R : List Nat} (hR : R = List.range' lead.length ns.length)
    {p q : Idx} (hp : InShape p lead) (hq : InShape q ns) : grp (lead ++ ns) R (p ++ q) = (allIdx ns).map (p ++ ·) := by
  have hi := Shape.inShape_append hp hq
  rw [hR, grp_eq_groupL _ _ _ hi, show (allIdx ns).map (p ++ ·) = blockOf (lead ++ ns) lead.length (p ++ q) by
    simp [blockOf, ← hp.length_eq]]
  exact groupL_trailing _ lead.length _ 0 _ hi fun j _ hj =>
    decide_eq_decide.2 (List.mem_range'_1.trans ⟨fun h => by omega, fun h => ⟨by omega, by simpa using hj⟩⟩)

theorem normCore_block (add sub div : α → α → α) (sqabs sqrt : α → α) (divn : α → Nat → α) (eps : α) (x : Arr α)
    (lead ns : Shape) (l : List Int) (hx : x.shape = lead ++ ns) (hp : Pos (lead ++ ns))
    (hl : ValidAxes (lead ++ ns).length (some l) ∧ axisSet (lead ++ ns).length (some l) = List.range' lead.length ns.length) :
    ∃ v, normCore add sub div sqabs sqrt divn eps x l = some v ∧ v.shape = lead ++ ns ∧
      ∀ p q, InShape p lead → InShape q ns →
        v.get (p ++ q) = normAt add sub div sqabs sqrt divn eps x.get ((allIdx ns).map (p ++ ·)) (p ++ q) := by
  obtain ⟨nrm, hn1, hn2, hn3⟩ := normCore_spec add sub div sqabs sqrt divn eps x l hx hp hl.1
  refine ⟨nrm, hn1, hn2, fun p q hpi hq => ?_⟩
  rw [hn3 _ (Shape.inShape_append hpi hq), grp_block hl.2 hpi hq]

theorem normCore_trailing (add sub div : α → α → α) (sqabs sqrt : α → α) (divn : α → Nat → α) (eps : α) (x : Arr α)
    (lead ns : Shape) (hx : x.shape = lead ++ ns) (hp : Pos (lead ++ ns)) :
    ∃ v, normCore add sub div sqabs sqrt divn eps x (trailingAxes ns.length) = some v ∧ v.shape = lead ++ ns ∧
      ∀ p q, InShape p lead → InShape q ns →
        v.get (p ++ q) = normAt add sub div sqabs sqrt divn eps x.get ((allIdx ns).map (p ++ ·)) (p ++ q) := by
  exact normCore_block add sub div sqabs sqrt divn eps x lead ns _ hx hp (trailing_block lead ns)

end NmVerif.NN
