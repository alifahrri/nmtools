import NmVerif.NN.ConvLemmas
/-
  NN/Conv2dLemmas — the conv2d instance (n_planes = 2) of the convnd pipeline, for per-plane stride / padding /
  dilation given as None, one integer, or a pair `(h, w)`.
-/
namespace NmVerif.NN

/-- per-plane values `(h, w)` of an optional argument: `None` ↦ default, `v` ↦ `(v, v)`, `[h, w]` ↦ `(h, w)` -/
def vals2 (dflt : Nat) : PArg → Nat × Nat
  | .none => (dflt, dflt)
  | .int v => (v, v)
  | .arr [a, b] => (a, b)
  | .arr _ => (0, 0)

/-- accepted forms: None, an integer, a pair -/
def Form2 (a : PArg) : Prop := a = .none ∨ (∃ v, a = .int v) ∨ (∃ h w, a = .arr [h, w])

/-- accepted forms with positive entries -/
def PosForm2 (a : PArg) : Prop := a = .none ∨ (∃ v, 0 < v ∧ a = .int v) ∨ (∃ h w, 0 < h ∧ 0 < w ∧ a = .arr [h, w])

theorem vals2_pos {a : PArg} (h : PosForm2 a) : 0 < (vals2 1 a).1 ∧ 0 < (vals2 1 a).2 := by
  rcases h with rfl | ⟨v, hv, rfl⟩ | ⟨h, w, hh, hw, rfl⟩ <;> simp [vals2, *]

theorem crw2 (O Cg KH KW g : Nat) : convReshapeWeight [O, Cg, KH, KW] g 2 = [g, O / g, Cg, KH, KW] := by
  simp only [convReshapeWeight, setI, List.range, List.range.loop, List.foldl, List.length_cons, List.length_nil, List.length_set]
  rfl

theorem cri2 (N C H W g : Nat) : convReshapeInput [N, C, H, W] g 2 = [N, g, 1, C / g, H, W] := by
  simp only [convReshapeInput, setI, List.range, List.range.loop, List.foldl, List.length_cons, List.length_nil, List.length_set]
  rfl

theorem crr2 (a b c d e : Nat) : convReshapeReduce [a, b, c, d, e] 2 = [a, b * c, d, e] := by
  simp only [convReshapeReduce, setI, List.range, List.range.loop, List.foldl, List.length_cons, List.length_nil, List.length_set]
  rfl

theorem crb2 (O : Nat) : convReshapeBias [O] 2 = [O, 1, 1] := rfl

theorem cwa2 : convWindowAxis 2 = [-1, -2] := rfl

theorem cpad2 {pad : PArg} (h : Form2 pad) :
    convPad 6 pad 2 = [0, 0, 0, 0, (vals2 0 pad).1, (vals2 0 pad).2, 0, 0, 0, 0, (vals2 0 pad).1, (vals2 0 pad).2] := by
  rcases h with rfl | ⟨v, rfl⟩ | ⟨a, b, rfl⟩ <;> rfl

theorem expand2 (a : Arr Int) (s0 s1 s2 KH KW spW spH : Nat) (ha : a.shape = [s0, s1, s2, KH, KW]) :
    (expandV a [-1, -2] [spW, spH]).shape = [s0, s1, s2, KH + (KH - 1) * spH, KW + (KW - 1) * spW] ∧
      ∀ i0 i1 i2 kh kw, (expandV a [-1, -2] [spW, spH]).get [i0, i1, i2, kh, kw]
        = if kw % (spW + 1) = 0 then (if kh % (spH + 1) = 0 then a.get [i0, i1, i2, kh / (spH + 1), kw / (spW + 1)] else 0) else 0 := by
  have p1 : posI 5 (-1) = 4 := by decide
  have p2 : posI 5 (-2) = 3 := by decide
  refine ⟨by show expandShape a.shape _ _ = _; rw [ha]; rfl, fun i0 i1 i2 kh kw => ?_⟩
  simp only [expandV, expandGet, ha, List.length_cons, List.length_nil, List.zip_cons_cons, List.zip_nil_right, expandIdx, p1, p2,
    List.getD_cons_succ, List.getD_cons_zero, List.set_cons_succ, List.set_cons_zero, ne_eq]
  by_cases h1 : kw % (spW + 1) = 0
  · by_cases h2 : kh % (spH + 1) = 0
    · rw [if_neg (not_not_intro h1), if_neg (not_not_intro h2), if_pos h1, if_pos h2]
    · rw [if_neg (not_not_intro h1), if_pos h2, if_pos h1, if_neg h2]
  · rw [if_pos h1, if_neg h1]

theorem convWeight2_spec {w : Arr Int} {Og g Cg KH KW : Nat} (hw : w.shape = [Og * g, Cg, KH, KW]) (hg : 0 < g) (hKH : 0 < KH) (hKW : 0 < KW)
    {dil : PArg} (hdil : PosForm2 dil) :
    ∃ aw, convWeight 2 w dil g = some aw ∧
      aw.shape = [g, Og, Cg, (KH - 1) * (vals2 1 dil).1 + 1, (KW - 1) * (vals2 1 dil).2 + 1] ∧
      ∀ {a b c kh kw : Nat}, a < Og → b < g → c < Cg → kh < (KH - 1) * (vals2 1 dil).1 + 1 → kw < (KW - 1) * (vals2 1 dil).2 + 1 →
        aw.get [b, a, c, kh, kw]
          = if kw % (vals2 1 dil).2 = 0 then
              (if kh % (vals2 1 dil).1 = 0 then w.get [b * Og + a, c, kh / (vals2 1 dil).1, kw / (vals2 1 dil).2] else 0)
            else 0 := by
  refine ⟨awArr 2 w [g, Og, Cg, KH, KW] dil,
    convWeight_eq (by rw [hw, crw2, Nat.mul_div_cancel _ hg]) (by simp) (by rw [hw]; simp only [prod]; ring) dil, ?_⟩
  obtain ⟨hd1, hd2⟩ := vals2_pos hdil
  have hget : ∀ {a b c kh kw : Nat}, a < Og → b < g → c < Cg → kh < KH → kw < KW →
      (reshaped w [g, Og, Cg, KH, KW]).get [b, a, c, kh, kw] = w.get [b * Og + a, c, kh, kw] :=
    fun ha hb hc hkh hkw => reshaped_weight (ks := [KH, KW]) (k := [_, _]) hw ha hb hc ⟨hkh, hkw, trivial⟩
  have hs1 : (vals2 1 dil).1 - 1 + 1 = (vals2 1 dil).1 := Nat.sub_add_cancel hd1
  have hs2 : (vals2 1 dil).2 - 1 + 1 = (vals2 1 dil).2 := Nat.sub_add_cancel hd2
  rcases hdil with rfl | ⟨d, _, hdd⟩ | ⟨dh, dw, _, _, hdd⟩
  · refine ⟨by show _ = [g, Og, Cg, (KH - 1) * 1 + 1, (KW - 1) * 1 + 1]; rw [dil_one hKH, dil_one hKW]; rfl,
      fun ha hb hc hkh hkw => ?_⟩
    simp only [vals2, dil_one hKH, dil_one hKW, Nat.mod_one, if_true, Nat.div_one] at hkh hkw ⊢
    exact hget ha hb hc hkh hkw
  all_goals
    -- a given dilation: by definition the reshaped weight expanded on the window axes; axis `-1` (W) gets `dW - 1`, axis `-2` (H) `dH - 1`
    have expanded : awArr 2 w [g, Og, Cg, KH, KW] dil
        = expandV (reshaped w [g, Og, Cg, KH, KW]) [-1, -2] [(vals2 1 dil).2 - 1, (vals2 1 dil).1 - 1] := by subst hdd; rfl
    obtain ⟨hs, hg'⟩ := expand2 (reshaped w [g, Og, Cg, KH, KW]) g Og Cg KH KW ((vals2 1 dil).2 - 1) ((vals2 1 dil).1 - 1) rfl
    rw [expanded]
    refine ⟨by rw [hs, Nat.add_pred_mul_pred KH _ hKH hd1, Nat.add_pred_mul_pred KW _ hKW hd2], fun ha hb hc hkh hkw => ?_⟩
    rw [hg', hs1, hs2, hget ha hb hc (Nat.div_lt_of_lt_pred_mul_add_one hKH hkh) (Nat.div_lt_of_lt_pred_mul_add_one hKW hkw)]

theorem padRead2_nopad {x : Arr Int} {H W n ch i j : Nat} (hi : i < H) (hj : j < W) :
    padRead2 x H W 0 0 n ch i j = x.get [n, ch, i, j] := by
  simp [padRead2, hi, hj]

theorem convInput2_spec {x : Arr Int} {N g Cg H W : Nat} (hx : x.shape = [N, g * Cg, H, W]) (hg : 0 < g) {pad : PArg} (hpad : Form2 pad) :
    ∃ ain, convInput 2 x pad g = .ok ain ∧ ain.shape = [N, g, 1, Cg, H + 2 * (vals2 0 pad).1, W + 2 * (vals2 0 pad).2] ∧
      ∀ {n b c i j : Nat}, n < N → b < g → c < Cg → i < H + 2 * (vals2 0 pad).1 → j < W + 2 * (vals2 0 pad).2 →
        ain.get [n, b, 0, c, i, j] = padRead2 x H W (vals2 0 pad).1 (vals2 0 pad).2 n (b * Cg + c) i j := by
  refine ⟨ainArr x [N, g, 1, Cg, H, W] pad [0, 0, 0, 0, (vals2 0 pad).1, (vals2 0 pad).2] [0, 0, 0, 0, (vals2 0 pad).1, (vals2 0 pad).2],
    convInput_eq (by rw [hx, cri2, Nat.mul_div_cancel_left _ hg]) (by simp) (by rw [hx]; simp only [prod]; ring) (cpad2 hpad) rfl rfl, ?_⟩
  have hget : ∀ {n b c i j : Nat}, n < N → b < g → c < Cg → i < H → j < W →
      (reshaped x [N, g, 1, Cg, H, W]).get [n, b, 0, c, i, j] = x.get [n, b * Cg + c, i, j] :=
    fun hn hb hc hi hj => reshaped_input (sp := [H, W]) (j := [_, _]) hx hn hb hc ⟨hi, hj, trivial⟩
  have hpadded : ∀ pH pW, (∀ {n b c i j : Nat}, n < N → b < g → c < Cg →
      padGet (reshaped x [N, g, 1, Cg, H, W]) [0, 0, 0, 0, pH, pW] [n, b, 0, c, i, j]
        = padRead2 x H W pH pW n (b * Cg + c) i j) := fun pH pW n b c i j hn hb hc => by
    have h := padIdx_prefix (p := [n, b, 0, c]) (s := [N, g, 1, Cg]) ⟨hn, hb, Nat.one_pos, hc, trivial⟩ [i, j] [H, W] [pH, pW]
    unfold padGet padRead2
    rw [show padIdx [n, b, 0, c, i, j] (reshaped x [N, g, 1, Cg, H, W]).shape [0, 0, 0, 0, pH, pW] = _ from h]
    simp only [padIdx, pad_out_iff]
    by_cases hr : (pH ≤ i ∧ i < H + pH) ∧ (pW ≤ j ∧ j < W + pW)
    · rw [if_neg (not_not_intro hr.1), if_neg (not_not_intro hr.2), if_pos hr]
      exact hget hn hb hc (sub_lt_of_pad hr.1) (sub_lt_of_pad hr.2)
    · rw [if_neg hr]
      by_cases h1 : pH ≤ i ∧ i < H + pH
      · rw [if_neg (not_not_intro h1), if_pos (fun h2 => hr ⟨h1, h2⟩)]; rfl
      · rw [if_pos h1]; rfl
  rcases hpad with rfl | ⟨p, rfl⟩ | ⟨pH, pW, rfl⟩
  · exact ⟨rfl, fun hn hb hc hi hj => (hget hn hb hc hi hj).trans (padRead2_nopad hi hj).symm⟩
  -- a given padding: by definition the padded view, of extents `N + 0 + 0, …, H + pH + pH, W + pW + pW`
  all_goals exact ⟨by show [N, g, 1, Cg, _, _] = _; rw [add_pad_pad, add_pad_pad], fun hn hb hc _ _ => hpadded _ _ hn hb hc⟩

theorem sw_idx6 (n0 n1 b c i j kw kh : Nat) :
    slidingWindowIdx 6 [-1, -2] [n0, n1, b, c, i, j, kw, kh] = [n0, n1, b, c, i + kh, j + kw] := rfl

theorem sw_idx5' (a b c z1 z2 kw kh : Nat) :
    slidingWindowIdx 5 [-1, -2] [a, b, c, z1, z2, kw, kh] = [a, b, c, z1 + kh, z2 + kw] := rfl

theorem merge8 (n a b i j c kw kh : Nat) : mergeIdx [7, 6, 3] 8 0 [n, a, b, i, j] [c, kw, kh] = [n, a, b, c, i, j, kw, kh] := rfl

theorem convCore2 {ain aw : Arr Int} {N Og g Cg Hp Wp KHp KWp : Nat} (hain : ain.shape = [N, g, 1, Cg, Hp, Wp])
    (haw : aw.shape = [g, Og, Cg, KHp, KWp]) (hOg : 0 < Og) (hKH : 0 < KHp) (hKW : 0 < KWp) (hfH : KHp ≤ Hp) (hfW : KWp ≤ Wp) :
    ∃ rs, convCore 2 ain aw = some rs ∧ rs.shape = [N, Og * g, Hp - (KHp - 1), Wp - (KWp - 1)] ∧
      ∀ n o i j, n < N → o < Og * g → i < Hp - (KHp - 1) → j < Wp - (KWp - 1) →
        rs.get [n, o, i, j] = sumTo Cg (fun c => sumTo KWp (fun kw => sumTo KHp (fun kh =>
          ain.get [n, o / Og, 0, c, i + kh, j + kw] * aw.get [o / Og, o % Og, c, kh, kw]))) := by
  have e1 : KHp - (KHp - 1) = 1 := Nat.sub_sub_self hKH
  have e2 : KWp - (KWp - 1) = 1 := Nat.sub_sub_self hKW
  have hHo : 0 < Hp - (KHp - 1) := Nat.sub_pos_of_lt (Nat.lt_of_lt_of_le (Nat.sub_lt hKH Nat.one_pos) hfH)
  have hWo : 0 < Wp - (KWp - 1) := Nat.sub_pos_of_lt (Nat.lt_of_lt_of_le (Nat.sub_lt hKW Nat.one_pos) hfW)
  have hbs : bshape [N, g, 1, Cg, Hp - (KHp - 1), Wp - (KWp - 1), KWp, KHp] [g, Og, Cg, 1, 1, KWp, KHp]
      = some [N, g, Og, Cg, Hp - (KHp - 1), Wp - (KWp - 1), KWp, KHp] := by
    show (bshapeRev [KHp, KWp, Wp - (KWp - 1), Hp - (KHp - 1), Cg, 1, g, N] [KHp, KWp, 1, 1, Cg, Og, g]).map List.reverse = _
    rw [bshapeRev_eq, bcLoop_cons (bc1_self _), bcLoop_cons (bc1_self _), bcLoop_cons (bc1_one_right hWo),
      bcLoop_cons (bc1_one_right hHo), bcLoop_cons (bc1_self _), bcLoop_cons (bc1_one_left hOg), bcLoop_cons (bc1_self _)]
    rfl
  have hcore := convCore_some (n := 2) (ain := ain) (aw := aw) (by rw [hain, haw]; rfl)
    (by rw [haw]; show [g, Og, Cg, KHp - (KHp - 1), KWp - (KWp - 1), KWp, KHp] = _; rw [e1, e2]) hbs
    (axn := [7, 6, 3]) rfl (rdst := [N, Og * g, Hp - (KHp - 1), Wp - (KWp - 1)]) (by rw [Nat.mul_comm Og g]; exact crr2 ..) (by simp)
    (by show prod [N, g, Og, Hp - (KHp - 1), Wp - (KWp - 1)] = _; simp only [prod]; ring)
  refine ⟨_, hcore, rfl, ?_⟩
  intro n o i j hn ho hi hj
  show listSum ((allIdx [Cg, KWp, KHp]).map _) = _
  simp only [listSum_allIdx_cons, listSum_allIdx_nil]
  apply sumTo_congr; intro c hc
  apply sumTo_congr; intro kw hkw
  apply sumTo_congr; intro kh hkh
  have ha : o % Og < Og := Nat.mod_lt _ hOg
  have hb : o / Og < g := Nat.div_lt_of_lt_mul ho
  rw [show reshapeIdx (removeAxes [7, 6, 3] 0 [N, g, Og, Cg, Hp - (KHp - 1), Wp - (KWp - 1), KWp, KHp])
      [N, Og * g, Hp - (KHp - 1), Wp - (KWp - 1)] [n, o, i, j] = [n, o / Og, o % Og, i, j] from
    reshapeIdx_reduce (out := [_, _]) (l := [i, j]) hOg hn ho ⟨hi, hj, trivial⟩, hain, haw]
  simp only [List.length_cons, List.length_nil, Nat.reduceAdd, Nat.zero_add, merge8, bIdx, Nat.sub_self, List.drop_zero,
    List.drop_succ_cons, List.zipWith_cons_cons, List.zipWith_nil_right, if_true, bsel hn, bsel hb, bsel hc, bsel hi, bsel hj,
    bsel hkw, bsel hkh, bsel ha, cwa2, sw_idx6, sw_idx5']

theorem convBias2 {rs : Arr Int} {N O Ho Wo : Nat} (hrs : rs.shape = [N, O, Ho, Wo]) (hHo : 0 < Ho) (hWo : 0 < Wo) (bias : Option (Arr Int))
    (hb : ∀ b, bias = some b → b.shape = [O]) :
    ∃ ad, convBias 2 rs bias = some ad ∧ ad.shape = [N, O, Ho, Wo] ∧
      ∀ n o i j, n < N → o < O → i < Ho → j < Wo → ad.get [n, o, i, j] = rs.get [n, o, i, j] + biasVal bias o := by
  cases bias with
  | none => exact ⟨rs, rfl, hrs, fun n o i j _ _ _ _ => by simp [biasVal]⟩
  | some b =>
    have hbs := hb b rfl
    have hbsh : bshape [N, O, Ho, Wo] [O, 1, 1] = some [N, O, Ho, Wo] := by
      show (bshapeRev [Wo, Ho, O, N] [1, 1, O]).map List.reverse = _
      rw [bshapeRev_eq, bcLoop_cons (bc1_one_right hWo), bcLoop_cons (bc1_one_right hHo), bcLoop_cons (bc1_self _)]; rfl
    unfold convBias
    simp only [hbs, crb2]
    rw [reshapeV_some (by simp) (by rw [hbs]; simp only [prod])]
    simp only [Option.bind_some, binop, hrs, reshaped, hbsh, Option.map_some]
    refine ⟨_, rfl, rfl, ?_⟩
    intro n o i j hn ho hi hj
    simp only [biasVal, hbs, bIdx, List.length_cons, List.length_nil, Nat.reduceAdd, Nat.zero_add, Nat.sub_self, List.drop_zero,
      Nat.reduceSub, List.drop_succ_cons, List.zipWith_cons_cons, List.zipWith_nil_right, if_true, bsel hn, bsel ho, bsel hi, bsel hj,
      show reshapeIdx [O] [O, 1, 1] [o, 0, 0] = [o] from reshapeIdx_bias ho 2]

theorem slice2 (ad : Arr Int) (N O Ho Wo sH sW : Nat) (had : ad.shape = [N, O, Ho, Wo]) :
    (sliceStepV ad [sH, sW]).shape = [N, O, (Ho + sH - 1) / sH, (Wo + sW - 1) / sW] ∧
      ∀ n o i j, (sliceStepV ad [sH, sW]).get [n, o, i, j] = ad.get [n, o, i * sH, j * sW] :=
  ⟨by show sliceStepShape ad.shape _ = _; rw [had]; rfl, fun n o i j => by
    show ad.get (sliceStepIdx ad.shape.length _ _) = _; rw [had]; rfl⟩

theorem convStride2 {ad : Arr Int} {N O Ho Wo : Nat} (had : ad.shape = [N, O, Ho, Wo]) {stride : PArg} (hs : PosForm2 stride) :
    (convStride 2 ad stride).shape
        = [N, O, (Ho + (vals2 1 stride).1 - 1) / (vals2 1 stride).1, (Wo + (vals2 1 stride).2 - 1) / (vals2 1 stride).2] ∧
      ∀ n o i j, (convStride 2 ad stride).get [n, o, i, j] = ad.get [n, o, i * (vals2 1 stride).1, j * (vals2 1 stride).2] := by
  rcases hs with rfl | ⟨s, _, rfl⟩ | ⟨sH, sW, _, _, rfl⟩
  · exact ⟨by simp [convStride, vals2, had], fun n o i j => by simp [convStride, vals2]⟩
  -- a given stride: by definition `sliceStepV ad [sH, sW]`
  · exact slice2 ad N O Ho Wo s s had
  · exact slice2 ad N O Ho Wo sH sW had

/-- everything before the strided slice: for every `stride` the pipeline is defined and is the slice of `ad`, the stride-1
    convolution at every position `(i', j')` -/
theorem conv2d_unstrided {x w : Arr Int} {bias : Option (Arr Int)} {N Og g Cg H W KH KW : Nat} {pad dil : PArg}
    (hx : x.shape = [N, g * Cg, H, W]) (hw : w.shape = [Og * g, Cg, KH, KW]) (hb : ∀ b, bias = some b → b.shape = [Og * g])
    (hOg : 0 < Og) (hg : 0 < g) (hKH : 0 < KH) (hKW : 0 < KW) (hp : Form2 pad) (hd : PosForm2 dil)
    (hfH : (KH - 1) * (vals2 1 dil).1 + 1 ≤ H + 2 * (vals2 0 pad).1) (hfW : (KW - 1) * (vals2 1 dil).2 + 1 ≤ W + 2 * (vals2 0 pad).2) :
    ∃ ad, (∀ stride, convnd 2 x w bias stride pad dil g = .ok (convStride 2 ad stride)) ∧
      ad.shape = [N, Og * g, H + 2 * (vals2 0 pad).1 - ((KH - 1) * (vals2 1 dil).1 + 1 - 1),
        W + 2 * (vals2 0 pad).2 - ((KW - 1) * (vals2 1 dil).2 + 1 - 1)] ∧
      ∀ n o i' j', n < N → o < Og * g → i' < H + 2 * (vals2 0 pad).1 - ((KH - 1) * (vals2 1 dil).1 + 1 - 1) →
        j' < W + 2 * (vals2 0 pad).2 - ((KW - 1) * (vals2 1 dil).2 + 1 - 1) →
        ad.get [n, o, i', j'] = sumTo Cg (fun c => sumTo KH (fun kh => sumTo KW (fun kw =>
          padRead2 x H W (vals2 0 pad).1 (vals2 0 pad).2 n (o / Og * Cg + c) (i' + kh * (vals2 1 dil).1) (j' + kw * (vals2 1 dil).2)
            * w.get [o, c, kh, kw]))) + biasVal bias o := by
  obtain ⟨ain, hain, hains, hainget⟩ := convInput2_spec hx hg hp
  obtain ⟨aw, haw, haws, hawget⟩ := convWeight2_spec hw hg hKH hKW hd
  obtain ⟨hdH, hdW⟩ := vals2_pos hd
  generalize (vals2 0 pad).1 = pH, (vals2 0 pad).2 = pW, (vals2 1 dil).1 = dH, (vals2 1 dil).2 = dW at *
  obtain ⟨rs, hrs, hrss, hrsg⟩ := convCore2 hains haws hOg (Nat.succ_pos _) (Nat.succ_pos _) hfH hfW
  obtain ⟨ad, had, hads, hadg⟩ := convBias2 hrss (pos_out hfH) (pos_out hfW) bias hb
  refine ⟨ad, fun stride => by unfold convnd; rw [haw, hain]; simp only [hrs, Option.bind_some, had], hads,
    fun n o i' j' hn ho hi hj => ?_⟩
  rw [hadg n o _ _ hn ho hi hj, hrsg n o _ _ hn ho hi hj]
  congr 1
  apply sumTo_congr; intro c hc
  have hb' : o / Og < g := Nat.div_lt_of_lt_mul ho
  have ha' : o % Og < Og := Nat.mod_lt _ hOg
  have hog : o / Og * Og + o % Og = o := by rw [Nat.mul_comm]; exact Nat.div_add_mod o Og
  -- the pipeline sums `kw` outside `kh` (order of `conv_window_axis`) over the DILATED taps: collapse the inner `kh` sum to the
  -- `KH` taps for each dilated `kw`, then the `kw` sum to the `KW` taps, and swap the two sums into the reference's order
  have inner : ∀ kw, kw < (KW - 1) * dW + 1 →
      sumTo ((KH - 1) * dH + 1) (fun kh => ain.get [n, o / Og, 0, c, i' + kh, j' + kw] * aw.get [o / Og, o % Og, c, kh, kw])
      = if kw % dW = 0 then
          sumTo KH (fun kh => padRead2 x H W pH pW n (o / Og * Cg + c) (i' + kh * dH) (j' + kw) * w.get [o, c, kh, kw / dW])
        else 0 := by
    intro kw hkw
    by_cases hm : kw % dW = 0
    · rw [if_pos hm, ← sumTo_dilate KH dH hKH hdH (fun k k' =>
        padRead2 x H W pH pW n (o / Og * Cg + c) (i' + k') (j' + kw) * w.get [o, c, k, kw / dW])]
      apply sumTo_congr; intro kh hkh
      rw [hainget hn hb' hc (tap_lt hi hkh) (tap_lt hj hkw), hawget ha' hb' hc hkh hkw, hog, if_pos hm, mul_if_zero]
    · rw [if_neg hm]
      apply sumTo_zero; intro kh hkh
      rw [hawget ha' hb' hc hkh hkw, if_neg hm, Int.mul_zero]
  rw [sumTo_congr inner]
  rw [sumTo_dilate KW dW hKW hdW (fun k k' =>
    sumTo KH (fun kh => padRead2 x H W pH pW n (o / Og * Cg + c) (i' + kh * dH) (j' + k') * w.get [o, c, kh, k]))]
  exact sumTo_comm KW KH _

end NmVerif.NN
