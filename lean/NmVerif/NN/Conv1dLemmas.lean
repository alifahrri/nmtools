import NmVerif.NN.ConvLemmas
/-
  NN/Conv1dLemmas — the conv1d instance (n_planes = 1) of the convnd pipeline, for stride / padding / dilation given as
  None, one integer, or a one-element index array `[v]`.
-/
namespace NmVerif.NN

theorem crw1 (O Cg K g : Nat) : convReshapeWeight [O, Cg, K] g 1 = [g, O / g, Cg, K] := by
  simp only [convReshapeWeight, setI, List.range, List.range.loop, List.foldl, List.length_cons, List.length_nil, List.length_set]
  rfl

theorem cri1 (N C L g : Nat) : convReshapeInput [N, C, L] g 1 = [N, g, 1, C / g, L] := by
  simp only [convReshapeInput, setI, List.range, List.range.loop, List.foldl, List.length_cons, List.length_nil, List.length_set]
  rfl

theorem crr1 (a b c d : Nat) : convReshapeReduce [a, b, c, d] 1 = [a, b * c, d] := by
  simp only [convReshapeReduce, setI, List.range, List.range.loop, List.foldl, List.length_cons, List.length_nil, List.length_set]
  rfl

theorem crb1 (O : Nat) : convReshapeBias [O] 1 = [O, 1] := rfl

theorem cwa1 : convWindowAxis 1 = [-1] := rfl

/-- value of an optional argument form at `n_planes = 1`: `None` ↦ 1, `d` ↦ `d`, the one-element index array `[d]` ↦ `d` -/
def dilV : PArg → Nat | .none => 1 | .int d => d | .arr [d] => d | .arr _ => 0

/-- accepted forms: None, a positive integer, or a one-element index array with a positive entry -/
def PosForm (a : PArg) : Prop := a = .none ∨ (∃ d, 0 < d ∧ a = .int d) ∨ (∃ d, 0 < d ∧ a = .arr [d])

def padVal : PArg → Nat | .none => 0 | .int p => p | .arr [p] => p | .arr _ => 0

/-- accepted forms: None, an integer, or a one-element index array -/
def IntForm (a : PArg) : Prop := a = .none ∨ (∃ p, a = .int p) ∨ (∃ p, a = .arr [p])

def strideVal : PArg → Nat | .none => 1 | .int s => s | .arr [s] => s | .arr _ => 0

theorem dilV_pos {a : PArg} (h : PosForm a) : 0 < dilV a := by
  rcases h with rfl | ⟨d, hd, rfl⟩ | ⟨d, hd, rfl⟩
  · exact Nat.one_pos
  · exact hd
  · exact hd

/-- `strideVal` and `dilV` are the same function under two names -/
theorem strideVal_pos {a : PArg} (h : PosForm a) : 0 < strideVal a := dilV_pos h

theorem cpad1 {pad : PArg} (h : IntForm pad) : convPad 5 pad 1 = [0, 0, 0, 0, padVal pad, 0, 0, 0, 0, padVal pad] := by
  rcases h with rfl | ⟨p, rfl⟩ | ⟨p, rfl⟩ <;> rfl

theorem expand1 (a : Arr Int) (s0 s1 s2 K sp : Nat) (ha : a.shape = [s0, s1, s2, K]) :
    (expandV a [-1] [sp]).shape = [s0, s1, s2, K + (K - 1) * sp] ∧
      ∀ i0 i1 i2 k', (expandV a [-1] [sp]).get [i0, i1, i2, k']
        = if k' % (sp + 1) = 0 then a.get [i0, i1, i2, k' / (sp + 1)] else 0 := by
  have p3 : posI 4 (-1) = 3 := by decide
  refine ⟨by show expandShape a.shape _ _ = _; rw [ha]; rfl, fun i0 i1 i2 k' => ?_⟩
  simp only [expandV, expandGet, ha, List.length_cons, List.length_nil, List.zip_cons_cons, List.zip_nil_right, expandIdx, p3,
    List.getD_cons_succ, List.getD_cons_zero, List.set_cons_succ, List.set_cons_zero, ne_eq]
  by_cases h1 : k' % (sp + 1) = 0
  · rw [if_neg (not_not_intro h1), if_pos h1]
  · rw [if_pos h1, if_neg h1]

theorem convWeight1_spec {w : Arr Int} {Og g Cg K : Nat} (hw : w.shape = [Og * g, Cg, K]) (hg : 0 < g) (hK : 0 < K) {dil : PArg}
    (hdil : PosForm dil) :
    ∃ aw, convWeight 1 w dil g = some aw ∧ aw.shape = [g, Og, Cg, (K - 1) * dilV dil + 1] ∧
      ∀ {a b c k' : Nat}, a < Og → b < g → c < Cg → k' < (K - 1) * dilV dil + 1 →
        aw.get [b, a, c, k'] = if k' % dilV dil = 0 then w.get [b * Og + a, c, k' / dilV dil] else 0 := by
  refine ⟨awArr 1 w [g, Og, Cg, K] dil,
    convWeight_eq (by rw [hw, crw1, Nat.mul_div_cancel _ hg]) (by simp) (by rw [hw]; simp only [prod]; ring) dil, ?_⟩
  have hd := dilV_pos hdil
  have hget : ∀ {a b c k : Nat}, a < Og → b < g → c < Cg → k < K →
      (reshaped w [g, Og, Cg, K]).get [b, a, c, k] = w.get [b * Og + a, c, k] :=
    fun ha hb hc hk => reshaped_weight (ks := [K]) (k := [_]) hw ha hb hc ⟨hk, trivial⟩
  have hsucc : dilV dil - 1 + 1 = dilV dil := Nat.sub_add_cancel hd
  rcases hdil with rfl | ⟨d, _, hdd⟩ | ⟨d, _, hdd⟩
  · refine ⟨by show _ = [g, Og, Cg, (K - 1) * 1 + 1]; rw [dil_one hK]; rfl, fun ha hb hc hk => ?_⟩
    simp only [dilV, dil_one hK, Nat.mod_one, if_true, Nat.div_one] at hk ⊢
    exact hget ha hb hc hk
  all_goals
    -- a given dilation: by definition the reshaped weight expanded on the window axis
    have expanded : awArr 1 w [g, Og, Cg, K] dil = expandV (reshaped w [g, Og, Cg, K]) [-1] [dilV dil - 1] := by subst hdd; rfl
    obtain ⟨hs, hg'⟩ := expand1 (reshaped w [g, Og, Cg, K]) g Og Cg K (dilV dil - 1) rfl
    rw [expanded]
    refine ⟨by rw [hs, Nat.add_pred_mul_pred K _ hK hd], fun ha hb hc hk => ?_⟩
    rw [hg', hsucc, hget ha hb hc (Nat.div_lt_of_lt_pred_mul_add_one hK hk)]

theorem padRead_nopad {x : Arr Int} {L n ch j : Nat} (hj : j < L) : padRead x L 0 n ch j = x.get [n, ch, j] := by
  simp [padRead, hj]

theorem convInput1_spec {x : Arr Int} {N g Cg L : Nat} (hx : x.shape = [N, g * Cg, L]) (hg : 0 < g) {pad : PArg} (hpad : IntForm pad) :
    ∃ ain, convInput 1 x pad g = .ok ain ∧ ain.shape = [N, g, 1, Cg, L + 2 * padVal pad] ∧
      ∀ {n b c j : Nat}, n < N → b < g → c < Cg → j < L + 2 * padVal pad →
        ain.get [n, b, 0, c, j] = padRead x L (padVal pad) n (b * Cg + c) j := by
  refine ⟨ainArr x [N, g, 1, Cg, L] pad [0, 0, 0, 0, padVal pad] [0, 0, 0, 0, padVal pad],
    convInput_eq (by rw [hx, cri1, Nat.mul_div_cancel_left _ hg]) (by simp) (by rw [hx]; simp only [prod]; ring) (cpad1 hpad) rfl rfl, ?_⟩
  have hget : ∀ {n b c j : Nat}, n < N → b < g → c < Cg → j < L →
      (reshaped x [N, g, 1, Cg, L]).get [n, b, 0, c, j] = x.get [n, b * Cg + c, j] :=
    fun hn hb hc hj => reshaped_input (sp := [L]) (j := [_]) hx hn hb hc ⟨hj, trivial⟩
  have hpadded : ∀ p, (∀ {n b c j : Nat}, n < N → b < g → c < Cg →
      padGet (reshaped x [N, g, 1, Cg, L]) [0, 0, 0, 0, p] [n, b, 0, c, j] = padRead x L p n (b * Cg + c) j) := fun p n b c j hn hb hc => by
    have h := padIdx_prefix (p := [n, b, 0, c]) (s := [N, g, 1, Cg]) ⟨hn, hb, Nat.one_pos, hc, trivial⟩ [j] [L] [p]
    unfold padGet padRead
    rw [show padIdx [n, b, 0, c, j] (reshaped x [N, g, 1, Cg, L]).shape [0, 0, 0, 0, p] = _ from h]
    simp only [padIdx, pad_out_iff]
    by_cases hr : p ≤ j ∧ j < L + p
    · rw [if_neg (not_not_intro hr), if_pos hr]
      exact hget hn hb hc (sub_lt_of_pad hr)
    · rw [if_pos hr, if_neg hr]; rfl
  rcases hpad with rfl | ⟨p, rfl⟩ | ⟨p, rfl⟩
  · exact ⟨rfl, fun hn hb hc hj => (hget hn hb hc hj).trans (padRead_nopad hj).symm⟩
  -- a given padding: by definition the padded view, of extents `N + 0 + 0, …, L + p + p`
  all_goals exact ⟨by show [N, g, 1, Cg, _] = _; rw [add_pad_pad], fun hn hb hc _ => hpadded _ hn hb hc⟩

theorem sw_idx5 (n0 n1 b c l k : Nat) : slidingWindowIdx 5 [-1] [n0, n1, b, c, l, k] = [n0, n1, b, c, l + k] := rfl

theorem sw_idx4 (a b c z k : Nat) : slidingWindowIdx 4 [-1] [a, b, c, z, k] = [a, b, c, z + k] := rfl

theorem merge6 (n a b l c k : Nat) : mergeIdx [5, 3] 6 0 [n, a, b, l] [c, k] = [n, a, b, c, l, k] := rfl

theorem convCore1 {ain aw : Arr Int} {N Og g Cg Lp Kp : Nat} (hain : ain.shape = [N, g, 1, Cg, Lp]) (haw : aw.shape = [g, Og, Cg, Kp])
    (hOg : 0 < Og) (hKp : 0 < Kp) (hfit : Kp ≤ Lp) :
    ∃ rs, convCore 1 ain aw = some rs ∧ rs.shape = [N, Og * g, Lp - (Kp - 1)] ∧
      ∀ n o l, n < N → o < Og * g → l < Lp - (Kp - 1) →
        rs.get [n, o, l] = sumTo Cg (fun c => sumTo Kp (fun k =>
          ain.get [n, o / Og, 0, c, l + k] * aw.get [o / Og, o % Og, c, k])) := by
  have e1 : Kp - (Kp - 1) = 1 := Nat.sub_sub_self hKp
  have hLo : 0 < Lp - (Kp - 1) := Nat.sub_pos_of_lt (Nat.lt_of_lt_of_le (Nat.sub_lt hKp Nat.one_pos) hfit)
  have hbs : bshape [N, g, 1, Cg, Lp - (Kp - 1), Kp] [g, Og, Cg, 1, Kp] = some [N, g, Og, Cg, Lp - (Kp - 1), Kp] := by
    show (bshapeRev [Kp, Lp - (Kp - 1), Cg, 1, g, N] [Kp, 1, Cg, Og, g]).map List.reverse = _
    rw [bshapeRev_eq, bcLoop_cons (bc1_self _), bcLoop_cons (bc1_one_right hLo), bcLoop_cons (bc1_self _),
      bcLoop_cons (bc1_one_left hOg), bcLoop_cons (bc1_self _)]
    rfl
  have hcore := convCore_some (n := 1) (ain := ain) (aw := aw) (sIn := [N, g, 1, Cg, Lp - (Kp - 1), Kp]) (sW := [g, Og, Cg, 1, Kp])
    (by rw [hain, haw]; rfl) (by rw [haw]; show [g, Og, Cg, Kp - (Kp - 1), Kp] = _; rw [e1]) hbs
    (axn := [5, 3]) rfl (rdst := [N, Og * g, Lp - (Kp - 1)]) (by rw [Nat.mul_comm Og g]; exact crr1 ..) (by simp)
    (by show prod [N, g, Og, Lp - (Kp - 1)] = _; simp only [prod]; ring)
  refine ⟨_, hcore, rfl, ?_⟩
  intro n o l hn ho hl
  show listSum ((allIdx [Cg, Kp]).map _) = _
  simp only [listSum_allIdx_cons, listSum_allIdx_nil]
  apply sumTo_congr; intro c hc
  apply sumTo_congr; intro k hk
  have ha : o % Og < Og := Nat.mod_lt _ hOg
  have hb : o / Og < g := Nat.div_lt_of_lt_mul ho
  rw [show reshapeIdx (removeAxes [5, 3] 0 [N, g, Og, Cg, Lp - (Kp - 1), Kp]) [N, Og * g, Lp - (Kp - 1)] [n, o, l]
    = [n, o / Og, o % Og, l] from reshapeIdx_reduce (out := [_]) (l := [l]) hOg hn ho ⟨hl, trivial⟩, hain, haw]
  simp only [List.length_cons, List.length_nil, Nat.reduceAdd, Nat.zero_add, merge6, bIdx, Nat.sub_self, List.drop_zero,
    List.drop_succ_cons, List.zipWith_cons_cons, List.zipWith_nil_right, if_true, bsel hn, bsel hb, bsel hc, bsel hl, bsel hk,
    bsel ha, cwa1, sw_idx5, sw_idx4]

theorem convBias1 {rs : Arr Int} {N O Lo : Nat} (hrs : rs.shape = [N, O, Lo]) (hLo : 0 < Lo) (bias : Option (Arr Int))
    (hb : ∀ b, bias = some b → b.shape = [O]) :
    ∃ ad, convBias 1 rs bias = some ad ∧ ad.shape = [N, O, Lo] ∧
      ∀ n o l, n < N → o < O → l < Lo → ad.get [n, o, l] = rs.get [n, o, l] + biasVal bias o := by
  cases bias with
  | none => exact ⟨rs, rfl, hrs, fun n o l _ _ _ => by simp [biasVal]⟩
  | some b =>
    have hbs := hb b rfl
    have hbsh : bshape [N, O, Lo] [O, 1] = some [N, O, Lo] := by
      show (bshapeRev [Lo, O, N] [1, O]).map List.reverse = _
      rw [bshapeRev_eq, bcLoop_cons (bc1_one_right hLo), bcLoop_cons (bc1_self _)]; rfl
    unfold convBias
    simp only [hbs, crb1]
    rw [reshapeV_some (by simp) (by rw [hbs]; simp only [prod])]
    simp only [Option.bind_some, binop, hrs, reshaped, hbsh, Option.map_some]
    refine ⟨_, rfl, rfl, ?_⟩
    intro n o l hn ho hl
    simp only [biasVal, hbs, bIdx, List.length_cons, List.length_nil, Nat.reduceAdd, Nat.zero_add, Nat.sub_self, List.drop_zero,
      Nat.reduceSub, List.drop_succ_cons, List.zipWith_cons_cons, List.zipWith_nil_right, if_true, bsel hn, bsel ho, bsel hl,
      show reshapeIdx [O] [O, 1] [o, 0] = [o] from reshapeIdx_bias ho 1]

theorem slice1 (ad : Arr Int) (N O Lo s : Nat) (had : ad.shape = [N, O, Lo]) :
    (sliceStepV ad [s]).shape = [N, O, (Lo + s - 1) / s] ∧ ∀ n o l, (sliceStepV ad [s]).get [n, o, l] = ad.get [n, o, l * s] :=
  ⟨by show sliceStepShape ad.shape _ = _; rw [had]; rfl, fun n o l => by
    show ad.get (sliceStepIdx ad.shape.length _ _) = _; rw [had]; rfl⟩

theorem convStride1 {ad : Arr Int} {N O Lo : Nat} (had : ad.shape = [N, O, Lo]) {stride : PArg} (hs : PosForm stride) :
    (convStride 1 ad stride).shape = [N, O, (Lo + strideVal stride - 1) / strideVal stride] ∧
      ∀ n o l, (convStride 1 ad stride).get [n, o, l] = ad.get [n, o, l * strideVal stride] := by
  rcases hs with rfl | ⟨s, _, rfl⟩ | ⟨s, _, rfl⟩
  · exact ⟨by simp [convStride, strideVal, had], fun n o l => by simp [convStride, strideVal]⟩
  -- a given stride: by definition `sliceStepV ad [s]`
  all_goals exact slice1 ad N O Lo s had

/-- everything before the strided slice: for every `stride` the pipeline is defined and is the slice of `ad`, the stride-1
    convolution at every position `l'` -/
theorem conv1d_unstrided {x w : Arr Int} {bias : Option (Arr Int)} {N Og g Cg L K : Nat} {pad dil : PArg}
    (hx : x.shape = [N, g * Cg, L]) (hw : w.shape = [Og * g, Cg, K]) (hb : ∀ b, bias = some b → b.shape = [Og * g])
    (hOg : 0 < Og) (hg : 0 < g) (hK : 0 < K) (hp : IntForm pad) (hd : PosForm dil)
    (hfit : (K - 1) * dilV dil + 1 ≤ L + 2 * padVal pad) :
    ∃ ad, (∀ stride, convnd 1 x w bias stride pad dil g = .ok (convStride 1 ad stride)) ∧
      ad.shape = [N, Og * g, L + 2 * padVal pad - ((K - 1) * dilV dil + 1 - 1)] ∧
      ∀ n o l', n < N → o < Og * g → l' < L + 2 * padVal pad - ((K - 1) * dilV dil + 1 - 1) →
        ad.get [n, o, l'] = sumTo Cg (fun c => sumTo K (fun k =>
          padRead x L (padVal pad) n (o / Og * Cg + c) (l' + k * dilV dil) * w.get [o, c, k])) + biasVal bias o := by
  obtain ⟨ain, hain, hains, hainget⟩ := convInput1_spec hx hg hp
  obtain ⟨aw, haw, haws, hawget⟩ := convWeight1_spec hw hg hK hd
  obtain ⟨rs, hrs, hrss, hrsg⟩ := convCore1 hains haws hOg (Nat.succ_pos _) hfit
  obtain ⟨ad, had, hads, hadg⟩ := convBias1 hrss (pos_out hfit) bias hb
  refine ⟨ad, fun stride => by unfold convnd; rw [haw, hain]; simp only [hrs, Option.bind_some, had], hads,
    fun n o l' hn ho hl => ?_⟩
  rw [hadg n o _ hn ho hl, hrsg n o _ hn ho hl]
  congr 1
  apply sumTo_congr; intro c hc
  have hb' : o / Og < g := Nat.div_lt_of_lt_mul ho
  have ha' : o % Og < Og := Nat.mod_lt _ hOg
  have hog : o / Og * Og + o % Og = o := by rw [Nat.mul_comm]; exact Nat.div_add_mod o Og
  rw [← sumTo_dilate K _ hK (dilV_pos hd) (fun k k' => padRead x L (padVal pad) n (o / Og * Cg + c) (l' + k') * w.get [o, c, k])]
  apply sumTo_congr; intro k' hk'
  rw [hainget hn hb' hc (tap_lt hl hk'), hawget ha' hb' hc hk', hog, mul_if_zero]

end NmVerif.NN
