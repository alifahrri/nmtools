import Mathlib.Tactic.Ring
import NmVerif.Lemmas.Addressing
import NmVerif.Lemmas.ListBasics
import NmVerif.Lemmas.MatmulBroadcast
import NmVerif.NN.Conv
import NmVerif.NN.Spec
/-
  NN/ConvLemmas — the `convnd` pipeline stage by stage for symbolic extents: what does not depend on the number of
  planes.  The index helpers of NN/Conv are loops over the planes and are evaluated per instance, `n_planes = 1` in
  NN/Conv1dLemmas and `n_planes = 2` in NN/Conv2dLemmas (loops and lengths unfolded by `simp only`, then `rfl` on the closed
  positions `posI 4 (-(0 + 1))`: `simp` with `posI` normalises each as integer arithmetic, `rfl` alone recomputes the lengths).
  Names there, with `n_planes` as the suffix (`1` shown): `crw1` / `cri1` / `crr1` / `crb1` = `conv_reshape_weight` /
  `conv_reshape_input` / `conv_reshape_reduce` / `conv_reshape_bias`, `cwa1` = `conv_window_axis`, `cpad1` = `conv_pad`;
  `sw_idx5` = `slidingWindowIdx` and `merge6` = `mergeIdx` at that rank (`sw_idx5'` in Conv2dLemmas: both files share the
  namespace).  Window coordinates come in the order of `conv_window_axis`, last plane first (at `n_planes = 2`: `kw` before `kh`).
  NN/Views mirrors the headers `view::convnd` composes loop for loop and is a model of its own: reshape is read through the C01 round
  trip (`Shape.ndindex_tail`), and `bshapeRev` is the shared loop `bcLoop` with the step `MB.bc1` of C16 (`bshapeRev_eq`),
  so a broadcast shape is computed pair by pair with the `bc1_…` equations of Lemmas/MatmulBroadcast.
-/
namespace NmVerif.NN

theorem sumTo_congr {n : Nat} {f g : Nat → Int} (h : ∀ i, i < n → f i = g i) : sumTo n f = sumTo n g := by
  induction n with
  | zero => rfl
  | succ n ih =>
    simp only [sumTo]
    rw [ih (fun i hi => h i (Nat.lt_succ_of_lt hi)), h n (Nat.lt_succ_self n)]

theorem sumTo_const_zero (n : Nat) : sumTo n (fun _ => 0) = 0 := by
  induction n with
  | zero => rfl
  | succ n ih => simp only [sumTo, ih]; rfl

theorem sumTo_zero {n : Nat} {f : Nat → Int} (h : ∀ i, i < n → f i = 0) : sumTo n f = 0 :=
  (sumTo_congr h).trans (sumTo_const_zero n)

theorem sumTo_add (n m : Nat) (f : Nat → Int) : sumTo (n + m) f = sumTo n f + sumTo m (fun i => f (n + i)) := by
  induction m with
  | zero => simp [sumTo]
  | succ m ih =>
    rw [← Nat.add_assoc]
    simp only [sumTo, ih]
    omega

theorem sumTo_add_fn (n : Nat) (f g : Nat → Int) : sumTo n (fun i => f i + g i) = sumTo n f + sumTo n g := by
  induction n with
  | zero => rfl
  | succ n ih => simp only [sumTo, ih]; omega

theorem sumTo_comm (n m : Nat) (f : Nat → Nat → Int) :
    sumTo n (fun i => sumTo m (fun j => f i j)) = sumTo m (fun j => sumTo n (fun i => f i j)) := by
  induction n with
  | zero => simp [sumTo, sumTo_const_zero]
  | succ n ih =>
    simp only [sumTo, ih]
    rw [← sumTo_add_fn]

theorem listSum_append (a b : List Int) : listSum (a ++ b) = listSum a + listSum b := by
  induction a with
  | nil => simp [listSum]
  | cons x xs ih => simp only [List.cons_append, listSum, ih]; omega

theorem listSum_map_range (n : Nat) (f : Nat → Int) : listSum ((List.range n).map f) = sumTo n f := by
  induction n with
  | zero => rfl
  | succ n ih =>
    rw [List.range_succ, List.map_append, listSum_append, ih]
    simp [listSum, sumTo]

theorem listSum_flatMap_range (n : Nat) (f : Nat → List Int) :
    listSum ((List.range n).flatMap f) = sumTo n (fun i => listSum (f i)) := by
  induction n with
  | zero => rfl
  | succ n ih =>
    rw [List.range_succ, List.flatMap_append, listSum_append, ih]
    simp [sumTo]

theorem listSum_allIdx_cons (A : Nat) (t : Shape) (f : Idx → Int) :
    listSum ((allIdx (A :: t)).map f) = sumTo A (fun i => listSum ((allIdx t).map fun r => f (i :: r))) := by
  have h : allIdx (A :: t) = (List.range A).flatMap (fun i => (allIdx t).map (i :: ·)) := rfl
  rw [h, List.map_flatMap, listSum_flatMap_range]
  apply sumTo_congr; intro i _
  rw [List.map_map]; rfl

theorem listSum_allIdx_nil (f : Idx → Int) : listSum ((allIdx []).map f) = f [] := by
  show f [] + 0 = f []
  omega

/-- a kernel of `K` taps dilated by `d`: only the multiples of `d` carry weight -/
theorem sumTo_dilate (K d : Nat) (hK : 0 < K) (hd : 0 < d) (F : Nat → Nat → Int) :
    sumTo ((K - 1) * d + 1) (fun k' => if k' % d = 0 then F (k' / d) k' else 0) = sumTo K (fun k => F k (k * d)) := by
  obtain ⟨K, rfl⟩ : ∃ K', K = K' + 1 := ⟨K - 1, by omega⟩
  rw [Nat.add_sub_cancel]
  clear hK
  induction K with
  | zero => simp [sumTo]
  | succ K ih =>
    have e : (K + 1) * d + 1 = (K * d + 1) + d := by ring
    rw [e, sumTo_add, ih]
    conv => rhs; rw [sumTo]
    congr 1
    -- the block K*d+1 .. K*d+d : only the last index is a multiple of d
    obtain ⟨d', rfl⟩ : ∃ d', d = d' + 1 := ⟨d - 1, by omega⟩
    rw [sumTo]
    rw [sumTo_zero]
    · have h1 : (K * (d' + 1) + 1 + d') = (K + 1) * (d' + 1) := by ring
      simp only [h1, Nat.mul_mod_left, if_true, Int.zero_add]
      rw [Nat.mul_div_cancel _ (Nat.succ_pos d')]
    · intro i hi
      have h1 : K * (d' + 1) + 1 + i = (i + 1) + (d' + 1) * K := by ring
      rw [h1, Nat.add_mul_mod_self_left, Nat.mod_eq_of_lt (by omega)]
      simp

@[simp] theorem posI_neg (n k : Nat) : posI n (-(k : Int) - 1) = n - (k + 1) := by
  unfold posI
  have h : (-(k : Int) - 1) < 0 := by omega
  rw [if_pos h]
  omega

theorem reshapeIdx_eq {src dst : Shape} {d i : Idx} (hi : InShape i src)
    (h : computeOffset d (strides dst) = computeOffset i (strides src)) : reshapeIdx src dst d = i :=
  ndindex_of_offset_eq hi h.symm

theorem reshapeIdx_tail {s s' t : Shape} {p p' q : Idx} (hp : InShape p s) (hp' : p'.length = s'.length) (hq : InShape q t)
    (h : computeOffset p' (strides s') = computeOffset p (strides s)) :
    reshapeIdx (s ++ t) (s' ++ t) (p' ++ q) = p ++ q :=
  Shape.ndindex_tail hp hp' hq h

/-- what `reshapeV a dst` returns when it accepts (`reshapeV_some`) -/
def reshaped (a : Arr Int) (dst : Shape) : Arr Int := ⟨dst, fun d => a.get (reshapeIdx a.shape dst d)⟩

theorem reshapeV_some {a : Arr Int} {dst : Shape} (hne : dst ≠ []) (h : prod a.shape = prod dst) :
    reshapeV a dst = some (reshaped a dst) := by
  unfold reshapeV
  have : dst.isEmpty = false := by cases dst <;> simp_all
  simp [this, h, reshaped]

/-- one coordinate of `bIdx`: an in-range coordinate is kept (on an extent-1 axis it is 0 already) -/
theorem bsel {s i : Nat} (h : i < s) : (if s = 1 then 0 else i) = i := by
  split <;> omega

/-- weight `(Og·g, Cg) ++ ks` seen as `(g, Og, Cg) ++ ks`: output channel `b·Og + a` (group `b`, `a`-th channel of the group) -/
theorem reshaped_weight {w : Arr Int} {Og g Cg a b c : Nat} {ks : Shape} {k : Idx} (hw : w.shape = [Og * g, Cg] ++ ks)
    (ha : a < Og) (hb : b < g) (hc : c < Cg) (hk : InShape k ks) :
    (reshaped w ([g, Og, Cg] ++ ks)).get ([b, a, c] ++ k) = w.get ([b * Og + a, c] ++ k) := by
  show w.get (reshapeIdx w.shape _ _) = _
  rw [hw, reshapeIdx_tail (s := [Og * g, Cg]) (s' := [g, Og, Cg]) (p := [b * Og + a, c]) (p' := [b, a, c]) ⟨by rw [Nat.mul_comm Og g]; exact Nat.mul_add_lt_mul hb ha, hc, trivial⟩
    rfl hk (by simp only [computeOffset, strides, prod]; ring)]

theorem reshaped_input {x : Arr Int} {N g Cg n b c : Nat} {sp : Shape} {j : Idx} (hx : x.shape = [N, g * Cg] ++ sp)
    (hn : n < N) (hb : b < g) (hc : c < Cg) (hj : InShape j sp) :
    (reshaped x ([N, g, 1, Cg] ++ sp)).get ([n, b, 0, c] ++ j) = x.get ([n, b * Cg + c] ++ j) := by
  show x.get (reshapeIdx x.shape _ _) = _
  rw [hx, reshapeIdx_tail (s := [N, g * Cg]) (s' := [N, g, 1, Cg]) (p := [n, b * Cg + c]) (p' := [n, b, 0, c]) ⟨hn, Nat.mul_add_lt_mul hb hc, trivial⟩ rfl hj
    (by simp only [computeOffset, strides, prod]; ring)]

theorem reshapeIdx_reduce {N Og g n o : Nat} {out : Shape} {l : Idx} (hOg : 0 < Og) (hn : n < N) (ho : o < Og * g) (hl : InShape l out) :
    reshapeIdx ([N, g, Og] ++ out) ([N, Og * g] ++ out) ([n, o] ++ l) = [n, o / Og, o % Og] ++ l :=
  reshapeIdx_tail (s := [N, g, Og]) (s' := [N, Og * g]) ⟨hn, Nat.div_lt_of_lt_mul ho, Nat.mod_lt _ hOg, trivial⟩ rfl hl
    (by
      simp only [computeOffset, strides, prod]
      have := Nat.div_add_mod o Og
      calc Og * g * 1 * n + (1 * o + 0) = Og * g * n + (Og * (o / Og) + o % Og) := by rw [this]; ring
        _ = _ := by ring)

theorem reshapeIdx_bias {O o : Nat} (ho : o < O) (n : Nat) :
    reshapeIdx [O] (O :: List.replicate n 1) (o :: List.replicate n 0) = [o] := by
  apply reshapeIdx_eq (show InShape [o] [O] from ⟨ho, trivial⟩)
  exact Shape.offset_append_ones [o] [O] n rfl

theorem bshapeRev_eq : bshapeRev = bcLoop MB.bc1 :=
  eq_bcLoop (fun _ => rfl) (fun _ _ => rfl) fun a as b bs => by rw [bshapeRev, MB.bc1]; split <;> rfl

theorem padIdx_prefix {p : Idx} {s : Shape} (hp : InShape p s) (i : Idx) (t : Shape) (ps : List Nat) :
    padIdx (p ++ i) (s ++ t) (List.replicate s.length 0 ++ ps) = (padIdx i t ps).map (p ++ ·) := by
  induction p, s, hp using inShape_ind with
  | nil => simp
  | cons p0 p a s h0 _ ih =>
    have h0' : ¬ (p0 < 0 ∨ p0 ≥ a + 0) := by omega
    simp only [List.cons_append, List.length_cons, List.replicate_succ, padIdx, h0', if_false, ih, Option.map_map, Nat.sub_zero]
    rfl

theorem pad_out_iff {i p s : Nat} : (i < p ∨ i ≥ s + p) ↔ ¬ (p ≤ i ∧ i < s + p) := by omega

theorem sub_lt_of_pad {i p s : Nat} (h : p ≤ i ∧ i < s + p) : i - p < s := by omega

theorem add_pad_pad (a p : Nat) : a + p + p = a + 2 * p := by omega

theorem dil_one {K : Nat} (hK : 0 < K) : (K - 1) * 1 + 1 = K := by rw [Nat.mul_one, Nat.sub_add_cancel hK]

/-- `⌈Lo/s⌉ = ⌊(L + 2p − d(K−1) − 1)/s⌋ + 1` where `Lo = L + 2p − ((K−1)d + 1 − 1)` is the stride-1 extent -/
theorem out_arith {L K s p d : Nat} (hs : 0 < s) (hfit : (K - 1) * d + 1 ≤ L + 2 * p) :
    (L + 2 * p - ((K - 1) * d + 1 - 1) + s - 1) / s = outSize L K s p d := by
  unfold outSize
  rw [Nat.mul_comm d (K - 1)]
  generalize (K - 1) * d = m at hfit ⊢
  generalize L + 2 * p = M at hfit ⊢
  rw [show M - (m + 1 - 1) + s - 1 = (M - m - 1) + s by omega, Nat.add_div_right _ hs]

theorem mul_if_zero (c : Prop) [Decidable c] (a b : Int) : a * (if c then b else 0) = if c then a * b else 0 := by
  split <;> simp

/-- `A - (B + 1 - 1)`: the form in which `slidingWindowShape` leaves the stride-1 extent for a window of `B + 1` taps -/
theorem pos_out {A B : Nat} (h : B + 1 ≤ A) : 0 < A - (B + 1 - 1) := by omega

theorem tap_lt {i k A B : Nat} (hi : i < A - (B + 1 - 1)) (hk : k < B + 1) : i + k < A := by omega

/-- `a_weight` for a weight whose `conv_reshape_weight` is `dst` -/
def awArr (n : Nat) (w : Arr Int) (dst : Shape) (dil : PArg) : Arr Int :=
  match dil with
  | .none => reshaped w dst
  | _ => expandV (reshaped w dst) (convWindowAxis n) (convExpandSpacing dil n)

theorem convWeight_eq {n g : Nat} {w : Arr Int} {dst : Shape} (hdst : convReshapeWeight w.shape g n = dst) (hne : dst ≠ [])
    (hprod : prod w.shape = prod dst) (dil : PArg) : convWeight n w dil g = some (awArr n w dst dil) := by
  unfold convWeight
  rw [hdst, reshapeV_some hne hprod]
  cases dil <;> rfl

theorem convPad_length (srcDim : Nat) (pad : PArg) (n : Nat) : (convPad srcDim pad n).length = 2 * srcDim := by
  cases pad with
  | none => simp [convPad]
  | int p => simp [convPad, List.length_foldl_of_forall]
  | arr ps => simp [convPad, List.length_foldl_of_forall]

theorem padV_some {a : Arr Int} {bef aft : List Nat} (hb : bef.length = a.shape.length) (ha : aft.length = a.shape.length) :
    padV a (bef ++ aft) = some ⟨padShape a.shape bef aft, padGet a bef⟩ := by
  unfold padV
  rw [if_neg (by rw [List.length_append, hb, ha]; omega), ← hb, List.take_left, List.drop_left]

/-- `a_input` for an input whose `conv_reshape_input` is `dst` and whose `conv_pad` is `bef ++ aft` -/
def ainArr (x : Arr Int) (dst : Shape) (pad : PArg) (bef aft : List Nat) : Arr Int :=
  match pad with
  | .none => reshaped x dst
  | _ => ⟨padShape dst bef aft, padGet (reshaped x dst) bef⟩

theorem convInput_eq {n g : Nat} {x : Arr Int} {dst : Shape} (hdst : convReshapeInput x.shape g n = dst) (hne : dst ≠ [])
    (hprod : prod x.shape = prod dst) {pad : PArg} {bef aft : List Nat} (hw : convPad dst.length pad n = bef ++ aft)
    (hb : bef.length = dst.length) (ha : aft.length = dst.length) : convInput n x pad g = .ok (ainArr x dst pad bef aft) := by
  unfold convInput
  rw [hdst, reshapeV_some hne hprod]
  cases pad with
  | none => rfl
  | _ =>
    show (match padV (reshaped x dst) (convPad dst.length _ n) with
      | some p => Res.ok p | none => Res.nothing) = _
    rw [hw, padV_some (a := reshaped x dst) hb ha]
    rfl

/-- `convCore` once the caller has evaluated the shape helpers at its `n`: `hsIn`, `hsW`, `hax`, `hrd` are closed by `rfl` or
    `crr…` per instance, `hbs` pair by pair -/
theorem convCore_some {n : Nat} {ain aw : Arr Int} {sIn sW s rdst : Shape} {axn : List Nat}
    (hsIn : slidingWindowShape ain.shape (convKernelSize aw.shape n) (convWindowAxis n) = sIn)
    (hsW : slidingWindowShape aw.shape (convKernelSize aw.shape n) (convWindowAxis n) = sW)
    (hbs : bshape sIn sW = some s) (hax : (convSumAxes n).map (posI s.length) = axn)
    (hrd : convReshapeReduce (removeAxes axn 0 s) n = rdst) (hne : rdst ≠ []) (hprod : prod (removeAxes axn 0 s) = prod rdst) :
    convCore n ain aw = some ⟨rdst, fun d => listSum ((allIdx (pickAxes axn 0 s)).map fun r =>
      ain.get (slidingWindowIdx ain.shape.length (convWindowAxis n)
          (bIdx sIn (mergeIdx axn s.length 0 (reshapeIdx (removeAxes axn 0 s) rdst d) r)))
        * aw.get (slidingWindowIdx aw.shape.length (convWindowAxis n)
          (bIdx sW (mergeIdx axn s.length 0 (reshapeIdx (removeAxes axn 0 s) rdst d) r))))⟩ := by
  subst hsIn hsW hax hrd
  unfold convCore
  simp only [slidingWindowV, binop, hbs, Option.map_some, Option.bind_some, sumAxes]
  rw [reshapeV_some hne hprod]
  rfl

def biasVal (bias : Option (Arr Int)) (o : Nat) : Int := match bias with | none => 0 | some b => b.get [o]

/-- the code's group assignment `o / Og` is PyTorch's `o / (O/g)` for every `groups`: `O = Og·g`, so `O / g = Og` -/
theorem grpCode_eq_grpSpec {Og g : Nat} (hg : 0 < g) : grpCode Og = grpSpec (Og * g) g := by
  funext o
  unfold grpCode grpSpec
  rw [Nat.mul_div_cancel _ hg]

/-- where the assignment `o % g` of the code before fixes/C17-conv-groups-interleaved coincided with PyTorch's: one
    group, or one output channel per group -/
theorem grpInterleaved_eq_grpSpec {Og g o : Nat} (hdom : g = 1 ∨ Og = 1) (ho : o < Og * g) : grpInterleaved g o = grpSpec (Og * g) g o := by
  unfold grpInterleaved grpSpec
  rcases hdom with rfl | rfl
  · simp only [Nat.mul_one, Nat.mod_one, Nat.div_one] at ho ⊢
    exact (Nat.div_eq_of_lt ho).symm
  · simp only [Nat.one_mul] at ho ⊢
    have hg : 0 < g := by omega
    rw [Nat.mod_eq_of_lt ho, Nat.div_self hg, Nat.div_one]

/-- is the evaluation defined (not Nothing, not UB) -/
def Res.isOk {α : Type} : Res α → Bool
  | .ok _ => true
  | _ => false

end NmVerif.NN
