import NmVerif.NN.ComposeLemmas
import NmVerif.Lemmas.ListBasics
import NmVerif.Lemmas.LinalgTensordot
/-
  NN/ChanLemmas — per-channel parameters: `moveaxis(atleast_nd(p, n), −1, −n)` for any `n ≥ 1` is the parameter reshaped
  to `(C, 1, …, 1)` (batch_norm, instance_norm); broadcasting such a view, or group_norm's `(1, C, 1, …, 1)`, against
  `(N, C) ++ spatial`.
-/
namespace NmVerif.NN
open NmVerif.Reduce NmVerif.Linalg

variable {α : Type}

theorem moveLastOrder_full (k : Nat) : moveLastOrder (k + 1) (k + 1) = some (List.range' k 1 ++ List.range k) := by
  simp [moveLastOrder, List.range']

/-- for a rank-1 parameter `moveaxis(·, −1, 0)` (batch_norm) and `moveaxis(·, −1, −(k+1))` (instance_norm) give the same view:
    `atleast_nd` gives exactly `k + 1` axes -/
theorem chanParam_spec (p : Arr α) (C k : Nat) (hp : p.shape = [C]) :
    ∃ q, chanParam p (k + 1) = some q ∧ chanParamFront p (k + 1) = some q ∧ q.shape = C :: List.replicate k 1 ∧
      ∀ c, c < C → q.get (c :: List.replicate k 0) = some (p.get [c]) := by
  -- `atleast_nd` is the reshape to `ones k ++ [C]`; `moveaxis` then rotates the last axis to the front (`scatter_rotate`)
  obtain ⟨b, hb1, hb2, hb3⟩ := reshape_insert_ones (lift p) [] [C] k (by simp [lift, hp])
  simp only [List.nil_append] at hb1 hb2 hb3
  have hal : atleastNd (lift p) (k + 1) = some b := by
    have hsh : (lift p).shape = [C] := hp
    simp only [atleastNd, hsh, List.length_singleton, Nat.add_sub_cancel]
    exact hb1
  have hlen : b.shape.length = k + 1 := by rw [hb2]; simp
  have hm : (List.range' k 1 ++ List.range k).mapM (fun i => b.shape[i]?) = some (C :: List.replicate k 1) := by
    have := moveToEnd_prefix_mapM (List.replicate k 1) [C]
    rwa [List.length_append, List.length_replicate, List.length_singleton, moveToEnd_prefix, ← hb2] at this
  refine ⟨⟨C :: List.replicate k 1, fun d => b.get (scatter d (List.range' k 1 ++ List.range k))⟩, ?_, ?_, rfl, ?_⟩
  · simp only [chanParam, hal, Option.bind_some, moveLast, hlen, moveLastOrder_full, transpose, hm]
  · simp only [chanParamFront, hal, Option.bind_some, moveLast, hlen, moveLastOrder_full, transpose, hm]
  · intro c hc
    refine (congrArg b.get (scatter_rotate (q := [c]) List.length_singleton List.length_replicate)).trans ?_
    have h3 := hb3 [] [c] trivial ⟨hc, trivial⟩
    simp only [List.nil_append] at h3
    rw [h3]
    rfl

theorem batchNormNd_eq (k : Nat) : batchNormNd (k + 2) = k + 1 := if_pos (by omega)

/-- `lead1`: the parameter has the shape `(1, C, 1, …, 1)` (group_norm's reshape) instead of `(C, 1, …, 1)` (batch_norm,
    instance_norm) -/
theorem bshape_chanE (N C : Nat) (sp : Shape) (lead1 : Bool) (hp : Pos ([N, C] ++ sp)) :
    broadcastShape2 ([N, C] ++ sp) (List.replicate lead1.toNat 1 ++ C :: List.replicate sp.length 1) = some ([N, C] ++ sp) := by
  unfold broadcastShape2
  rw [bcRev_dom_le]
  · simp
  · cases lead1 <;> simp
  · intro ⟨x, y⟩ hxy
    refine ⟨hp x (List.mem_reverse.1 (List.of_mem_zip hxy).1), ?_⟩
    -- reversed: `sp` against ones, then `C` against `C`, then `N` against at most one 1
    simp only [List.reverse_append, List.reverse_cons, List.nil_append, List.reverse_replicate,
      List.append_assoc, List.cons_append] at hxy
    rw [List.zip_append (by simp), List.mem_append, List.zip_cons_cons, List.mem_cons] at hxy
    rcases hxy with h | h | h
    · exact Or.inr (List.eq_of_mem_replicate (List.of_mem_zip h).2)
    · cases h; exact Or.inl rfl
    · exact Or.inr (List.eq_of_mem_replicate (List.of_mem_zip h).2)

theorem sbi_chanE (C n c : Nat) (r : Idx) (lead1 : Bool) (hc : c < C) :
    specBroadcastIdx (List.replicate lead1.toNat 1 ++ C :: List.replicate r.length 1) ([n, c] ++ r)
      = List.replicate lead1.toNat 0 ++ c :: List.replicate r.length 0 := by
  -- the aligned part of the index is `c :: r`, or all of it when a unit axis leads
  have h : specAligned (C :: List.replicate r.length 1) (c :: r) = c :: List.replicate r.length 0 :=
    (specAligned_cons_of_lt hc _ _).trans
      (congrArg (c :: ·) ((List.zipWith_replicate_left ..).trans (List.map_const' ..)))
  cases lead1
  · exact (specBroadcastIdx_append (dpre := [n]) (d' := c :: r) (by simp)).trans h
  · exact (specBroadcastIdx_append (dpre := []) (d' := n :: c :: r) (by simp)).trans (congrArg (0 :: ·) h)

theorem bin_chanE (f : α → α → α) {a q : OArr α} {g : Nat → α} {N C : Nat} {sp : Shape} (lead1 : Bool)
    (hp : Pos ([N, C] ++ sp)) (ha : a.shape = [N, C] ++ sp)
    (hq : q.shape = List.replicate lead1.toNat 1 ++ C :: List.replicate sp.length 1)
    (hg : ∀ c, c < C → q.get (List.replicate lead1.toNat 0 ++ c :: List.replicate sp.length 0) = some (g c)) :
    ∃ u, bin f a q = some u ∧ u.shape = [N, C] ++ sp ∧ ∀ n c r, n < N → c < C → InShape r sp →
      u.get ([n, c] ++ r) = (a.get ([n, c] ++ r)).map (f · (g c)) := by
  have hpq : Pos (List.replicate lead1.toNat 1 ++ C :: List.replicate sp.length 1) :=
    Shape.pos_append.2 ⟨pos_ones _, Pos.cons (hp C (by simp)) (pos_ones _)⟩
  obtain ⟨u, h1, h2, h3⟩ := bin_spec f ha hq hp hpq (bshape_chanE N C sp lead1 hp)
  refine ⟨u, h1, h2, fun n c r hn hc hr => ?_⟩
  have hin : InShape ([n, c] ++ r) ([N, C] ++ sp) := Shape.inShape_append ⟨hn, hc, trivial⟩ hr
  rw [h3 _ hin, specBroadcastIdx_self _ _ hin, ← hr.length_eq, sbi_chanE C n c r lead1 hc, hr.length_eq, hg c hc, optOp_some_right]

/-- `chanParam_spec` and `bin_chanE` at rank 4, `(N, C, H, W)` against `[C, 1, 1]` (`atleast_nd(·, 3)` + `moveaxis(·, −1, −3)`): the form
    `view::batch_norm` had before it accepted every rank (`batchNormOld`) -/
theorem chanParam3 (p : Arr α) (C : Nat) (hp : p.shape = [C]) :
    ∃ q, chanParam p 3 = some q ∧ q.shape = [C, 1, 1] ∧ ∀ c, c < C → q.get [c, 0, 0] = some (p.get [c]) :=
  let ⟨q, h, _, hq⟩ := chanParam_spec p C 2 hp
  ⟨q, h, hq⟩

theorem bin_chan (f : α → α → α) (a q : OArr α) (g : Nat → α) (N C H W : Nat)
    (hN : 0 < N) (hC : 0 < C) (hH : 0 < H) (hW : 0 < W) (ha : a.shape = [N, C, H, W]) (hq : q.shape = [C, 1, 1])
    (hg : ∀ c, c < C → q.get [c, 0, 0] = some (g c)) :
    ∃ u, bin f a q = some u ∧ u.shape = [N, C, H, W] ∧ ∀ n c h w, n < N → c < C → h < H → w < W →
      u.get [n, c, h, w] = (a.get [n, c, h, w]).map (f · (g c)) := by
  obtain ⟨u, h1, h2, h3⟩ := bin_chanE f (sp := [H, W]) false
    (Pos.cons hN (Pos.cons hC (Pos.cons hH (Pos.cons hW Shape.pos_nil)))) ha hq hg
  exact ⟨u, h1, h2, fun n c h w hn hc hh hw => h3 n c [h, w] hn hc ⟨hh, hw, trivial⟩⟩

end NmVerif.NN
