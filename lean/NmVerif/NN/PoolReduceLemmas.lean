import NmVerif.NN.PoolReduce
import NmVerif.Lemmas.Addressing
import NmVerif.Lemmas.ReduceFold
/-
  NN/PoolReduceLemmas — the reducers of max_pool2d / avg_pool2d fold exactly the window `poolWindow` enumerates.
-/
namespace NmVerif.NN
open NmVerif.Reduce

variable {α : Type}

/-- stated through its own length, which is the extent `slicedArr` gives the axis: the form `map_sliced_allIdx` rewrites with -/
theorem sliceRange_eq_map (n : Nat) (sl : Nat × Nat × Nat) :
    sliceRange n sl = (List.range (sliceRange n sl).length).map (sl.1 + ·) := by
  unfold sliceRange
  simp

/-- the C-order enumeration of the sliced view's indices, mapped to source indices, is the row-major product of the
    per-axis ranges -/
theorem map_sliced_allIdx (ns : List Nat) (sls : List (Nat × Nat × Nat)) :
    (allIdx ((List.zipWith sliceRange ns sls).map List.length)).map
        (fun d => List.zipWith (fun (sl : Nat × Nat × Nat) k => sl.1 + k) sls d)
      = cartesian (List.zipWith sliceRange ns sls) := by
  fun_induction List.zipWith sliceRange ns sls with
  | case1 n ns sl sls ih =>
    simp only [List.map_cons, allIdx, cartesian]
    rw [List.map_flatMap]
    conv => rhs; rw [sliceRange_eq_map n sl, List.flatMap_map]
    apply List.flatMap_congr_left
    intro i _
    rw [List.map_map, ← ih, List.map_map]
    rfl
  | case2 => simp [allIdx, cartesian]

/-- the elements the reducer sees (flat positions `0 .. size−1` of the sliced view) are the source elements at
    `cartesian (zipWith sliceRange …)`, in that order -/
theorem slicedArr_flat (x : Arr α) (sls : List (Nat × Nat × Nat)) :
    (List.range (prod (slicedArr x sls).shape)).map (fun k => (slicedArr x sls).get (ndindex (slicedArr x sls).shape k))
      = (cartesian (List.zipWith sliceRange x.shape sls)).map x.get := by
  have h := Shape.map_ndindex_range (slicedArr x sls).shape
  have : (fun k => (slicedArr x sls).get (ndindex (slicedArr x sls).shape k))
      = (slicedArr x sls).get ∘ ndindex (slicedArr x sls).shape := rfl
  rw [this, ← List.map_map, h, ← map_sliced_allIdx x.shape sls, List.map_map]
  rfl

theorem removeDims_none_false (s : Shape) : removeDims s none false = some [] := by
  have h : ∀ i, removeDimsLoop (inAxis none) false i s = [] := fun i => by
    induction s generalizing i with
    | nil => rfl
    | cons a t ih => simp [removeDimsLoop, inAxis, ih]
  simp [removeDims, unwrapAxes, h]

theorem maxPoolElem_window [LT α] [DecidableRel (α := α) (· < ·)] (x : Arr α) (kernel stride : List Nat) (idx : Idx) :
    maxPoolElem x kernel stride idx
      = (poolWindow x.shape kernel stride idx).bind fun win => foldFirst maximum none (win.map x.get) := by
  unfold maxPoolElem poolWindow
  cases slicePool2d idx x.shape kernel stride with
  | none => rfl
  | some sls =>
    simp only [Option.bind_some, Option.map_some, reduceElem, reduceElemId, flattenReduce_eq, slicedArr_flat, foldNumpy_none]

theorem avgPoolElem_window (add : α → α → α) (divn : α → Nat → α) (x : Arr α) (kernel stride : List Nat) (idx : Idx) :
    avgPoolElem add divn x kernel stride idx
      = (poolWindow x.shape kernel stride idx).bind fun win =>
          (foldFirst add none (win.map x.get)).map fun S => divn S win.length := by
  unfold avgPoolElem poolWindow
  cases slicePool2d idx x.shape kernel stride with
  | none => rfl
  | some sls =>
    have hlen : prod (slicedArr x sls).shape = (cartesian (List.zipWith sliceRange x.shape sls)).length := by
      simpa using congrArg List.length (slicedArr_flat x sls)
    simp only [Option.bind_some, Option.map_some, mean, unwrapAxes, meanDivisor, reduce, Option.map_none, removeDims_none_false,
      reduceElem, reduceElemId, flattenReduce_eq, slicedArr_flat, foldNumpy_none, hlen]

/-- on `Int`, `maximum` (`t > u ? t : u`) is `max`, so the fold from the first element is `List.max?` -/
theorem foldFirst_maximum_int {l : List Int} {m : Int} (h : foldFirst maximum none l = some m) : m ∈ l ∧ ∀ y ∈ l, y ≤ m := by
  have e : (maximum : Int → Int → Int) = max := by
    funext a b; simp only [maximum, Int.max_def]; split <;> split <;> omega
  refine List.max?_eq_some_iff.1 ?_
  cases l with
  | nil => cases h
  | cons a t => rw [← h, e]; rfl

theorem torchCount_nopad {n k s i : Nat} (h : s * i < n) :
    torchCountIncl n k s 0 i = ((min (s * i + k) n - s * i : Nat) : Int) ∧
    torchCountExcl n k s 0 i = ((min (s * i + k) n - s * i : Nat) : Int) := by
  unfold torchCountIncl torchCountExcl
  generalize s * i = m at h ⊢
  have e1 : ((m : Nat) : Int) - ((0 : Nat) : Int) + (k : Int) = ((m + k : Nat) : Int) := by omega
  have e2 : (n : Int) + ((0 : Nat) : Int) = (n : Int) := by omega
  have e3 : ((m : Nat) : Int) - ((0 : Nat) : Int) = (m : Int) := by omega
  rw [e1, e2, e3, Int.min_eq_left (Int.min_le_right _ _), Int.max_eq_left (Int.natCast_nonneg m)]
  have : min ((m + k : Nat) : Int) n - m = ((min (m + k) n - m : Nat) : Int) := by omega
  exact ⟨this, this⟩

end NmVerif.NN
