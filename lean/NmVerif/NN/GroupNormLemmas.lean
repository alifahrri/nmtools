import Mathlib.Tactic.Ring
import NmVerif.NN.NormLemmas
import NmVerif.Lemmas.LinalgViews
/-
  NN/GroupNormLemmas — `view::group_norm`: the reshape `(N, G·cg) ++ sp  ↔  (N, G, cg) ++ sp` splits the channel axis
  into (group, channel-in-group) without moving any element, so the statistics of output element `[n, c] ++ q` are
  taken over the channels `(c / cg)·cg + j`, `j < cg`, of sample `n` and all spatial positions.
-/
namespace NmVerif.NN
open NmVerif.Reduce NmVerif.Linalg

variable {α : Type}

theorem prod_split (N G cg : Nat) (sp : Shape) : prod ([N, G * cg] ++ sp) = prod ([N, G, cg] ++ sp) := by
  simp only [List.cons_append, List.nil_append, prod]; ring

/-- where `group_norm`'s reshape to `(N, G, cg) ++ sp` finds its elements in the input: `[n, g, j] ++ r ↦ [n, g·cg + j] ++ r` -/
def mergeChan (cg : Nat) : Idx → Idx
  | n :: g :: j :: r => [n, g * cg + j] ++ r
  | d => d

theorem reshape_split (x : Arr α) (N G cg : Nat) (sp : Shape) (hx : x.shape = [N, G * cg] ++ sp) :
    ∃ xg, reshape x ([N, G, cg] ++ sp) = some xg ∧ xg.shape = [N, G, cg] ++ sp ∧
      ∀ n g j r, n < N → g < G → j < cg → InShape r sp →
        xg.get ([n, g, j] ++ r) = x.get ([n, g * cg + j] ++ r) := by
  rw [reshape_some x _ (by rw [hx]; exact prod_split N G cg sp)]
  refine ⟨_, rfl, rfl, fun n g j r hn hg hj hr => ?_⟩
  show x.get (ndindex x.shape _) = _
  rw [hx, Shape.ndindex_tail (s := [N, G * cg]) (s' := [N, G, cg]) (p := [n, g * cg + j]) (p' := [n, g, j])
    ⟨hn, Nat.mul_add_lt_mul hg hj, trivial⟩ rfl hr (by simp only [computeOffset, strides, prod]; ring)]

theorem reshape_merge (v : Arr α) (N G cg : Nat) (sp : Shape) (hv : v.shape = [N, G, cg] ++ sp) :
    ∃ u, reshape v ([N, G * cg] ++ sp) = some u ∧ u.shape = [N, G * cg] ++ sp ∧
      ∀ n g j r, n < N → g < G → j < cg → InShape r sp →
        u.get ([n, g * cg + j] ++ r) = v.get ([n, g, j] ++ r) := by
  rw [reshape_some v _ (by rw [hv]; exact (prod_split N G cg sp).symm)]
  refine ⟨_, rfl, rfl, fun n g j r hn hg hj hr => ?_⟩
  show v.get (ndindex v.shape _) = _
  rw [hv, Shape.ndindex_tail (s := [N, G, cg]) (s' := [N, G * cg]) (p := [n, g, j]) (p' := [n, g * cg + j])
    ⟨hn, hg, hj, trivial⟩ rfl hr (by simp only [computeOffset, strides, prod]; ring)]

theorem reshape_1C (p : Arr α) (C k : Nat) (hp : p.shape = [C]) :
    ∃ q, reshape (lift p) ([1, C] ++ List.replicate k 1) = some q ∧
      q.shape = [1, C] ++ List.replicate k 1 ∧
      ∀ c, c < C → q.get ([0, c] ++ List.replicate k 0) = some (p.get [c]) := by
  rw [reshape_some (lift p) _ (by show prod p.shape = _; rw [hp]; simp [prod, Shape.prod_replicate_one])]
  refine ⟨_, rfl, rfl, fun c hc => ?_⟩
  show some (p.get (ndindex p.shape _)) = _
  congr 2
  rw [hp]
  apply ndindex_of_offset_eq (by simp [InShape]; exact hc)
  rw [Shape.offset_append_ones [0, c] [1, C] k rfl]
  simp [computeOffset, strides, prod]

theorem groupNormReshape_eq {src : Shape} {N G cg : Nat} {sp : Shape} (h : src = [N, G * cg] ++ sp) (hG : 0 < G) :
    groupNormReshape src G = some ([N, G, cg] ++ sp) := by
  subst h
  simp only [List.cons_append, List.nil_append, groupNormReshape, if_neg (Nat.pos_iff_ne_zero.1 hG), Nat.mul_div_cancel_left cg hG]

theorem groupNormArgsReshape_eq {src wb sp : Shape} {N C' C : Nat} (h : src = [N, C'] ++ sp) (hwb : wb = [C]) :
    groupNormArgsReshape src wb = some ([1, C] ++ List.replicate sp.length 1) := by
  subst h hwb
  simp [groupNormArgsReshape, List.replicate_succ, prod]

theorem groupNormAxis_valid (N C G cg : Nat) (sp : Shape) :
    ValidAxes ([N, G] ++ cg :: sp).length (some (groupNormAxis ([N, C] ++ sp))) ∧
    axisSet ([N, G] ++ cg :: sp).length (some (groupNormAxis ([N, C] ++ sp))) = List.range' [N, G].length (cg :: sp).length :=
  axes_block (sp.length + 3) 2 (sp.length + 1) _ (fun i hi => by unfold ValidAxis; omega)
    (fun i hi => (normAxis_ofNat (n := sp.length + 3) (k := i + 2) (by omega)).trans (Nat.add_comm i 2))

theorem normAt_reindex {add sub div : α → α → α} {sqabs sqrt : α → α} {divn : α → Nat → α} {eps : α} {f : Idx → α} (f' : Idx → α)
    (τ : Idx → Idx) {G : List Idx} {i : Idx} (hG : ∀ k ∈ G, f k = f' (τ k)) (hi : f i = f' (τ i)) :
    normAt add sub div sqabs sqrt divn eps f G i = normAt add sub div sqabs sqrt divn eps f' (G.map τ) (τ i) := by
  have h1 : G.map f = (G.map τ).map f' := by rw [List.map_map]; exact List.map_congr_left hG
  unfold normAt
  rw [h1, hi, List.length_map]
  congr 1
  funext S
  have h2 : (G.map fun k => sqabs (sub (f k) (divn S G.length))) = ((G.map τ).map fun k => sqabs (sub (f' k) (divn S G.length))) := by
    rw [List.map_map]; apply List.map_congr_left; intro k hk; simp only [Function.comp, hG k hk]
  rw [h2]

end NmVerif.NN
