import NmVerif.NN.ComposeLemmas
/-
  NN/CosineLemmas — the two steps of `view::cosine_similarity` that the other routines do not have: `broadcast_arrays`
  keeping both operands, and a keepdims vector norm clamped by eps.
-/
namespace NmVerif.NN
open NmVerif.Reduce

variable {α : Type}

theorem broadcast2_spec (x y : Arr α) (r : Shape) (hx : Pos x.shape) (hy : Pos y.shape)
    (hr : broadcastShape2 x.shape y.shape = some r) :
    ∃ a b, broadcast2 (lift x) (lift y) = some (a, b) ∧
      a.shape = r ∧ b.shape = r ∧ (∀ d, InShape d r → a.get d = some (x.get (specBroadcastIdx x.shape d))) ∧
      ∀ d, InShape d r → b.get d = some (y.get (specBroadcastIdx y.shape d)) := by
  obtain ⟨u, h, hsh, h2⟩ := ufunc2_defined (fun (p q : Option α) => (p, q)) (lift x) (lift y) r hx hy hr
  refine ⟨⟨u.shape, fun d => ((u.get d).map Prod.fst).join⟩, ⟨u.shape, fun d => ((u.get d).map Prod.snd).join⟩,
    by simp only [broadcast2, h, Option.map_some], hsh, hsh, fun d hd => ?_, fun d hd => ?_⟩
  · show ((u.get d).map Prod.fst).join = _
    rw [h2 d hd]; rfl
  · show ((u.get d).map Prod.snd).join = _
    rw [h2 d hd]; rfl

theorem clampNorm_back (add mx : α → α → α) (pre post : α → α) (eps : α) {a : OArr α} {s : Shape} {g : Idx → α}
    (ha : a.shape = s) (hg : ∀ i, InShape i s → a.get i = some (g i)) (axis : Int) (hv : ValidAxis s.length axis) :
    ∃ v, vectorNormO add pre post a (some [axis]) true = some v ∧ v.shape = specShape s [normAxis s.length axis] true ∧
      ∀ d, InShape d s → (un (fun t => mx t eps) v).get (proj [normAxis s.length axis] true d) =
        (foldFirst add none ((grp s [normAxis s.length axis] d).map fun i => pre (g i))).map fun S => mx (post S) eps := by
  obtain ⟨v, h1, hsh, h4⟩ := red_keep_back add (a := un pre a) ha axis hv
  refine ⟨un post v, by simp only [vectorNormO, h1, Option.map_some], hsh, fun d hd => ?_⟩
  show ((v.get (proj [normAxis s.length axis] true d)).map post).map _ = _
  rw [h4 d hd _ fun k hk => congrArg (Option.map pre) (hg k (grp_inShape hk)), Option.map_map]
  rfl

theorem optOp_some_some (f : α → α → α) (x y : α) : optOp f (some x) (some y) = some (f x y) := rfl

end NmVerif.NN
