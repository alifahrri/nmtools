import NmVerif.NN.ComposeLemmas
import NmVerif.Lemmas.ReduceAxis
/-
  NN/AxisLemmas — reduction over a single axis (which elements are folded for a result index), as instances of
  `Reduce.specShape_axis` / `Reduce.addressed_axis` / `Reduce.reduceId_last`, and the special case of the last axis
  (vector_norm in pairwise_distance, the sum of bilinear).
-/
namespace NmVerif.NN
open NmVerif.Reduce
variable {α : Type}

theorem addressed_false_single (s : Shape) (ax n : Nat) (hn : s[ax]? = some n) (j : Idx)
    (hj : InShape j (specShape s [ax] false)) :
    addressed s [ax] false j = (List.range n).map (fun k => insAt j ax k) := by
  obtain ⟨hax, he⟩ := List.getElem?_eq_some_iff.1 hn
  obtain ⟨pre, post, rfl, rfl⟩ : ∃ pre post, s = pre ++ n :: post ∧ pre.length = ax :=
    ⟨s.take ax, s.drop (ax + 1), by rw [← he, List.getElem_cons_drop, List.take_append_drop],
      by rw [List.length_take, Nat.min_eq_left (Nat.le_of_lt hax)]⟩
  rw [specShape_axis] at hj
  obtain ⟨jp, jq, rfl, hp, hq⟩ := Shape.inShape_append_split.1 hj
  refine (addressed_axis pre post n false jp jq hp hq).trans (List.map_congr_left fun k _ => ?_)
  rw [← hp.length_eq, insAt, List.take_left' rfl, List.drop_left' rfl]

theorem red_last (op : α → α → α) {a : OArr α} {lead : Shape} {D : Nat} (ha : a.shape = lead ++ [D]) (keep : Bool) :
    ∃ v, red op a (some [-1]) keep = some v ∧ v.shape = (if keep then lead ++ [1] else lead) ∧
      ∀ p, InShape p lead → v.get (if keep then p ++ [0] else p) =
        (foldFirst (optOp op) none ((List.range D).map fun k => a.get (p ++ [k]))).join := by
  obtain ⟨v, h1, h2, h3⟩ := reduceId_last none (optOp op) none a lead D ha keep
  refine ⟨joinA v, by rw [red, reduce_eq_reduceId, h1]; rfl, h2, fun p hp => ?_⟩
  show (v.get _).join = _
  rw [h3 p hp, foldNumpy_none]

end NmVerif.NN
