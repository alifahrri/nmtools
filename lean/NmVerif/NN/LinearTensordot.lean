import NmVerif.Lemmas.LinalgTensordot
import NmVerif.Lemmas.ListBasics
/-
  NN/LinearTensordot — the term structure of `tensordot(input, weight, ((-1),(-1)))` (what `view::linear` contracts),
  derived from the C16 lemmas (`tensordotAxes_elem_scatter`).
-/
namespace NmVerif.NN
open NmVerif.Linalg

theorem moveToEnd_last (n : Nat) : moveToEnd (n + 1) [n] = List.range (n + 1) := by
  simpa [moveToEnd, List.range_succ, List.filter_append] using fun a (h : a < n) => Nat.ne_of_lt h

theorem tensordot_last_terms (lead : Shape) (I O : Nat) (hO : 0 < O) :
    ∃ r, tensordotAxes (lead ++ [I]) [O, I] [-1] [-1] = some r ∧ r.shape = lead ++ [O] ∧
      ∀ p o, InShape p lead → o < O →
        r.get (p ++ [o]) = (List.range I).map (fun i => (p ++ [i], [o, i])) := by
  -- both contracted axes are last already: `moveToEnd` is the identity on either side, so the two scatters of
  -- `tensordotAxes_elem_scatter` drop out (`e1`, `e2`)
  have hlen : (lead ++ [I]).length = lead.length + 1 := by simp
  have hla : [(-1 : Int)].mapM (Linalg.normAxis · (lead ++ [I]).length) = some [lead.length] := by
    rw [hlen]
    have : Linalg.normAxis (-1) (lead.length + 1) = some lead.length := by
      unfold Linalg.normAxis
      rw [if_pos (by omega)]
      simp
      omega
    simp [this]
  have hra : [(-1 : Int)].mapM (Linalg.normAxis · [O, I].length) = some [1] := by
    show [(-1 : Int)].mapM (Linalg.normAxis · 2) = some [1]
    decide
  have hta : (moveToEnd (lead ++ [I]).length [lead.length]).mapM (fun k => (lead ++ [I])[k]?) = some (lead ++ [I]) := by
    rw [hlen, moveToEnd_last, ← hlen]
    exact List.mapM_getElem?_range _
  have hmv : moveToEnd [O, I].length [1] = [0, 1] := by
    show moveToEnd 2 [1] = [0, 1]
    decide
  have htb : (moveToEnd [O, I].length [1]).mapM (fun k => [O, I][k]?) = some ([O] ++ [I]) := by rw [hmv]; rfl
  obtain ⟨r, h1, h2, h3⟩ := tensordotAxes_elem_scatter (lead ++ [I]) [O, I] [-1] [-1] [lead.length] [1] lead [O] [I]
    hla hra hta htb rfl rfl (by intro x hx; simp at hx; omega)
  refine ⟨r, h1, h2, fun p o hp ho => ?_⟩
  rw [h3 p [o] hp ⟨ho, trivial⟩, allIdx_one, List.map_map]
  apply List.map_congr_left
  intro i _
  have hpl : (p ++ [i]).length = lead.length + 1 := by simp [hp.length_eq]
  have e1 : scatter (p ++ [i]) (moveToEnd (lead ++ [I]).length [lead.length]) = p ++ [i] := by
    rw [hlen, moveToEnd_last, ← hpl]; exact scatter_range _
  have e2 : scatter ([o] ++ [i]) (moveToEnd [O, I].length [1]) = [o, i] := by rw [hmv]; rfl
  simp only [Function.comp, e1, e2]

end NmVerif.NN
