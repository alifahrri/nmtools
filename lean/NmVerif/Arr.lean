import NmVerif.Basic
import NmVerif.NDA
/-
  L2 — denotation of arrays and views (shared by C02–C10, C16, C17).

  `Arr α`     what any array or view *is* to its consumer: a shape and an element function
              (`nmtools::shape(v)`, `apply_at(v, idx)`; everything except the SIMD evaluators goes through these).
  `IxView`    an indexing view (`view::indexing_t`, view/indexing.hpp): result shape + map from a destination
              multi-index to a source multi-index (`none` = the view answers with its fill value, e.g. pad/expand).
-/
namespace NmVerif

structure Arr (α : Type) where
  shape : Shape
  get : Idx → α

namespace Arr
variable {α β : Type}

/-- same shape, same element at every in-shape index -/
def Equiv (a b : Arr α) : Prop := a.shape = b.shape ∧ ∀ i, InShape i a.shape → a.get i = b.get i

theorem Equiv.refl (a : Arr α) : a.Equiv a := ⟨rfl, fun _ _ => rfl⟩
theorem Equiv.symm {a b : Arr α} (h : a.Equiv b) : b.Equiv a :=
  ⟨h.1.symm, fun i hi => (h.2 i (h.1 ▸ hi)).symm⟩
theorem Equiv.trans {a b c : Arr α} (h1 : a.Equiv b) (h2 : b.Equiv c) : a.Equiv c :=
  ⟨h1.1.trans h2.1, fun i hi => (h1.2 i hi).trans (h2.2 i (h1.1 ▸ hi))⟩

/-- elements in C (row-major) order -/
def flat (a : Arr α) : List α := (allIdx a.shape).map a.get

def map (f : α → β) (a : Arr α) : Arr β := ⟨a.shape, fun i => f (a.get i)⟩

theorem Equiv.map (f : α → β) {a b : Arr α} (h : a.Equiv b) : (a.map f).Equiv (b.map f) :=
  ⟨h.1, fun i hi => congrArg f (h.2 i hi)⟩

/-- the array `data[k] = k` of a given shape, row-major: element at `i` is its flat id (provenance data) -/
def iota (s : Shape) : Arr Nat := ⟨s, fun i => computeOffset i (strides s)⟩

end Arr

/-- concrete buffer → denotation (element `none`-free only under `WF` and in-shape: `Shape.layoutOffset_lt`) -/
def NDA.toArr {α : Type} [Inhabited α] (a : NDA α) : Arr α := ⟨a.shape, fun i => (a.get? i).getD default⟩

structure IxView where
  src : Shape
  dst : Shape
  map : Idx → Option Idx

namespace IxView

/-- apply an indexing view to an operand -/
def apply {α : Type} (v : IxView) (a : Arr α) (fill : α) : Arr α :=
  ⟨v.dst, fun d => match v.map d with | some i => a.get i | none => fill⟩

/-- every non-fill access stays inside the source shape (the C02 obligation of this view kind) -/
def InBounds (v : IxView) : Prop := ∀ d, InShape d v.dst → ∀ i, v.map d = some i → InShape i v.src

theorem inBounds_of_total {src dst : Shape} {f : Idx → Idx} (h : ∀ d, InShape d dst → InShape (f d) src) :
    (⟨src, dst, fun d => some (f d)⟩ : IxView).InBounds :=
  fun d hd _ hi => Option.some.inj hi ▸ h d hd

/-- a view known through its `X_shape` theorem (`∃ w, XView … = some w ∧ w.src = s ∧ w.dst = t`): what is left of
    `X_inBounds` is the bound, between `t` and `s` -/
theorem inBounds_of_shape {o : Option IxView} {s t : Shape} (hs : ∃ w, o = some w ∧ w.src = s ∧ w.dst = t)
    {v : IxView} (hv : o = some v) (h : ∀ d, InShape d t → ∀ i, v.map d = some i → InShape i s) : v.InBounds := by
  obtain ⟨w, hw, rfl, rfl⟩ := hs
  cases hv.symm.trans hw
  exact h

/-- what the harness prints for a view over provenance data: flat source id per destination index, -1 = fill -/
def provenance (v : IxView) : List Int :=
  (allIdx v.dst).map (fun d => match v.map d with
    | some i => (computeOffset i (strides v.src) : Int)
    | none => -1)

/-- composition: `outer` reads from the result of `inner` -/
def comp (outer inner : IxView) : IxView :=
  ⟨inner.src, outer.dst, fun d => (outer.map d).bind inner.map⟩

end IxView
end NmVerif
