/-
  Property C09 — results are independent of container kind and of compile- vs run-time knowledge.

  The index functions of the model take `List Nat`: one semantic function per operation.  The part of
  C09 that is a theorem is the container layer (NmVerif.Containers.Kinds): a bounded vector refines a
  list as long as no capacity event occurs and no resize shrinks, a clipped integer is the identity inside its
  range, a bounded result container whose capacity bounds the rank of the argument(s) — the capacity the C++ metafunctions
  pick for strides / transpose / broadcast; that choice is read off the headers and enters as the hypothesis `… ≤ cap` — is
  large enough, and the clipped result of `compute_strides` never clamps.  Where a clipped result does clamp
  (the known findings, open or since repaired in /repo) a `…_counterexample` states the instance.  That each kind-specific C++ branch computes
  the one reference function is validated by the generated kind matrix (lib/props/c09.py), not proved.
-/
import NmVerif.Basic
import NmVerif.Containers.Kinds
import NmVerif.Containers.KindRefs
import NmVerif.Lemmas.Kinds
import NmVerif.Lemmas.KindRefusals
namespace NmVerif.Props.C09
open NmVerif NmVerif.Kinds NmVerif.KindRefs

/-! ### clipped integers -/

/-- inside `[lo,hi]` a clipped integer holds exactly the value it was given -/
theorem clipped_eq_of_inRange (lo hi v : Int) (h1 : lo ≤ v) (h2 : v ≤ hi) :
    (Clipped.mk' lo hi v).val = v := by
  rw [Clipped.mk', if_neg (Int.not_lt.mpr h2), if_neg (Int.not_lt.mpr h1)]

/-- whatever it is given, a clipped integer lies in `[lo,hi]`; above the range it holds `hi`, below `lo` -/
theorem clipped_clamps (lo hi v : Int) (h : lo ≤ hi) :
    lo ≤ (Clipped.mk' lo hi v).val ∧ (Clipped.mk' lo hi v).val ≤ hi ∧
    (hi < v → (Clipped.mk' lo hi v).val = hi) ∧ (v < lo → (Clipped.mk' lo hi v).val = lo) := by
  unfold Clipped.mk'
  by_cases h1 : v > hi
  · rw [if_pos h1]
    exact ⟨h, Int.le_refl _, fun _ => rfl, fun h' => absurd (Int.lt_of_lt_of_le h' h) (Int.lt_asymm h1)⟩
  · rw [if_neg h1]
    by_cases h2 : v < lo
    · rw [if_pos h2]
      exact ⟨Int.le_refl _, h, fun h' => absurd h' h1, fun _ => rfl⟩
    · rw [if_neg h2]
      exact ⟨Int.not_lt.mp h2, Int.not_lt.mp h1, fun h' => absurd h' h1, fun h' => absurd h' h2⟩

/-- assignment behaves as construction -/
theorem clipped_assign_eq_of_inRange (lo hi v : Int) (c : Clipped lo hi) (h1 : lo ≤ v) (h2 : v ≤ hi) :
    (c.assign v).val = v := clipped_eq_of_inRange lo hi v h1 h2

example : (Clipped.mk' 0 6 4).val = 4 := by decide
example : (Clipped.mk' 0 6 9).val = 6 := by decide
example : (Clipped.mk' (-2) 3 (-7)).val = -2 := by decide

/-- outside the range the clipped kind silently disagrees with the plain integer: the boundary of the refinement -/
theorem clipped_outOfRange_counterexample : (Clipped.mk' 0 6 9).val ≠ 9 := by decide

/-! ### bounded vector (`utl::static_vector`) refines the list -/

/-- ANY sequence of `resize` / element assignment / `push_back` that never exceeds the capacity and never
    shrinks behaves on a bounded vector exactly as on the dynamic list (`std::vector` semantics) -/
theorem bvec_refines_list (cap : Nat) (ops : List VOp) (h : Fits cap ops 0) :
    (runBVec ops (BVec.empty cap)).toList = runList ops [] := by
  rw [empty_eq_embed, run_embed ops [] h, embed_toList]

/-- the same from any state reached so far -/
theorem bvec_refines_list_from (cap : Nat) (pre ops : List VOp) (h1 : Fits cap pre 0)
    (h2 : Fits cap ops (runList pre []).length) :
    (runBVec ops (runBVec pre (BVec.empty cap))).toList = runList ops (runList pre []) := by
  rw [empty_eq_embed, run_embed pre [] h1, run_embed ops _ h2, embed_toList]

example : (runBVec [.resize 3, .set 0 12, .set 1 4, .set 2 1, .push 7] (BVec.empty 8)).toList
    = runList [.resize 3, .set 0 12, .set 1 4, .set 2 1, .push 7] [] := by decide

/-- filling a bounded result container the way the index functions do (`resize(len)`, then element
    assignment) reproduces the list-level result whenever it fits -/
theorem bvec_ofList (cap : Nat) (l : List Nat) (h : l.length ≤ cap) : (BVec.ofList cap l).toList = l := by
  unfold BVec.ofList
  rw [bvec_refines_list cap (fillOps l) (fits_fillOps cap l h), runList_fillOps]

example : (BVec.ofList 8 [12, 4, 1]).toList = [12, 4, 1] := by decide

/-- above the capacity the request is silently ignored and the two kinds differ: the boundary of the refinement -/
theorem bvec_overflow_counterexample :
    (runBVec [.resize 3] (BVec.empty 2)).toList ≠ runList [.resize 3] [] := by decide

/-- a shrink followed by a growth exposes stale cells (std::vector zero-fills): the other boundary -/
theorem bvec_shrink_grow_counterexample :
    (runBVec [.resize 2, .set 1 7, .resize 1, .resize 2] (BVec.empty 4)).toList
      ≠ runList [.resize 2, .set 1 7, .resize 1, .resize 2] [] := by decide

/-! ### the result containers picked by the metafunctions are large enough -/

/-- `compute_strides`: the bounded result (`utl::static_vector<index_t,B_DIM>`, `B_DIM` = bound of the
    argument) holds exactly the strides of the list-level function -/
theorem strides_result_fits (cap : Nat) (s : List Nat) (h : s.length ≤ cap) :
    (BVec.ofList cap (strides s)).toList = strides s :=
  bvec_ofList cap _ (by rw [strides_length]; exact h)

example : (BVec.ofList 8 (strides [2, 3, 4])).toList = [12, 4, 1] := by decide

/-- strides are monotone in the shape … -/
theorem strides_mono {s m : List Nat} (h : LeList s m) : LeList (strides s) (strides m) := by
  fun_induction LeList s m with
  | case1 => trivial
  | case2 _ _ _ _ ih => exact ⟨leList_prod_le h.2, ih h.2⟩
  | case3 => exact h.elim

/-- under its bounds a clipped index tuple holds the values it was given -/
theorem clipList_of_le {maxs vals : List Nat} (h : LeList vals maxs) : clipList maxs vals = vals := by
  fun_induction LeList vals maxs with
  | case1 => rfl
  | case2 v vs m ms ih =>
    show ((Clipped.mk' 0 (m : Int) (v : Int)).val).toNat :: clipList ms vs = v :: vs
    rw [clipped_eq_of_inRange 0 m v (Int.natCast_nonneg v) (Int.ofNat_le.mpr h.1), ih h.2, Int.toNat_natCast]
  | case3 => exact h.elim

/-- … hence the clipped result of `compute_strides` on a clipped shape (result bounds = strides of the
    bounds, compute_strides.hpp:121-141) never clamps: it holds the strides of the values -/
theorem clipped_strides_no_clamp (s m : List Nat) (h : LeList s m) :
    clipList (strides m) (strides s) = strides s :=
  clipList_of_le (strides_mono h)

example : clipList (strides [3, 3, 6]) (strides [2, 3, 4]) = [12, 4, 1] := by decide

/-- `shape_transpose` keeps the rank, so the bounded result of the bound of the shape is large enough -/
theorem transpose_result_fits (cap : Nat) (s : List Nat) (axes : Option (List Nat)) (r : List Nat)
    (h : transpose s axes = some r) (hc : s.length ≤ cap) :
    r.length = s.length ∧ (BVec.ofList cap r).toList = r := by
  have hl : r.length = s.length := by
    revert h
    fun_cases transpose s axes with
    | case1 => rintro ⟨⟩; exact List.length_reverse
    | case2 ax hp => rintro ⟨⟩; rw [List.length_map]; exact eq_of_beq (Bool.and_eq_true_iff.mp hp).1
    | case3 => exact nofun
  exact ⟨hl, bvec_ofList cap r (hl.symm ▸ hc)⟩

example : transpose [2, 3, 4] (some [2, 0, 1]) = some [4, 2, 3] := by decide

/-- `broadcast_shape` of two shapes has the rank of the longer one: the bound `max(B_a, B_b)` suffices -/
theorem broadcast_result_fits (capa capb : Nat) (a b r : List Nat) (h : broadcastShape a b = some r)
    (ha : a.length ≤ capa) (hb : b.length ≤ capb) :
    r.length = max a.length b.length ∧ (BVec.ofList (max capa capb) r).toList = r := by
  have hl : r.length = max a.length b.length := bcShape_length (broadcastShape_eq ▸ h)
  exact ⟨hl, bvec_ofList _ r (hl.symm ▸ Nat.max_le.mpr
    ⟨Nat.le_trans ha (Nat.le_max_left ..), Nat.le_trans hb (Nat.le_max_right ..)⟩)⟩

example : broadcastShape [2, 1, 4] [3, 1] = some [2, 3, 4] := by decide

/-- former known finding C09.broadcast-clipped-one-with-slack (repaired in /repo by 90a319c, kept as a regression instance of
    the matrix): the C++ took the result bounds from the clipped operand
    alone (`"2:[2]","1:[2]","4:[6]"` against the run-time shape (3,1)); the true result does not fit them -/
theorem broadcast_bound_from_one_operand_counterexample :
    broadcastShape [2, 1, 4] [3, 1] = some [2, 3, 4] ∧ clipList [2, 2, 6] [2, 3, 4] ≠ [2, 3, 4] := by decide

/-- known finding C09.reshape-clipped-bounds: the `-1` slot of a clipped target keeps its own bound -/
theorem reshape_minus_one_bound_counterexample :
    reshape [2, 3, 4] [4, -1] = some [4, 6] ∧ clipList [4, 4] [4, 6] ≠ [4, 6] := by decide

/-- known finding C09.repeat-clipped-repeats: the constant branch of `shape_repeat` repeats by the BOUNDS
    `(3,2)` of the clipped repeats `(2,1)` -/
theorem repeat_bounds_counterexample :
    repeatList [2, 2] [2, 1] (some 0) = some [3, 2] ∧ repeatList [2, 2] [3, 2] (some 0) ≠ some [3, 2] := by decide

/-- known finding C09.reshape-clipped-bounds, second face: a clipped target extent whose RANGE reaches below 0
    (`clipped_integer_t<int,-1,12>{12}`) is read as the `-1` placeholder by the result-type resolver; the result slot
    gets the bound 1 (the element count of the remaining slots) and the extent 12 is clamped to it -/
theorem reshape_negative_min_bound_counterexample :
    reshape [2, 3, 2] [12] = some [12] ∧ clipList [1] [12] ≠ [12] := by decide

/-- former known finding C09.take-clipped-indices (repaired in /repo by 69c1ed2; the instance stays as a theorem about the reference):
    `take` typed its result shape by the index ENTRIES; with the clipped
    entries `(2 ≤ 3, 0 ≤ 1)` every extent of the true result `(2,2)` was clamped to the bound `1` of the last entry -/
theorem take_index_bound_counterexample :
    vTake [2, 3] [2, 0] 1 = some ([2, 2], [2, 0, 5, 3]) ∧ clipList [1, 1] [2, 2] ≠ [2, 2] := by decide

/-- known finding C09.repeat-constant-axis-unchecked: with the axis `2_ct` the code returns the source shape `(2,3)`
    unchanged (and `(2,3)` again for two counts on the extent 3); the reference, and the code with a run-time axis, refuse -/
theorem repeat_constant_axis_counterexample :
    some [2, 3] ≠ repeatScalar [2, 3] 2 (some 2) ∧ some [2, 3] ≠ repeatList [2, 3] [1, 2] (some 1) := by decide

/-- former known finding C09.concatenate-clipped-operand (repaired in /repo by ff4c2ea; the instance stays as a theorem about
    the reference): `tuple_at` read the extent 3 of the joining axis of a clipped shape
    `(3,2)` through the type of the LAST entry (bound 2): the first operand was taken to have 2 rows, and row 2 of the
    result `(5,2)` came from the wrong operand -/
theorem concatenate_clipped_extent_counterexample :
    vConcatenate [3, 2] [2, 2] (some 0) = some ([5, 2], [0, 1, 2, 3, 4, 5, 1000, 1001, 1002, 1003]) ∧
    (Clipped.mk' 0 2 3).val ≠ 3 := by decide

/-! ### the reference refuses every member of the refusal classes of the kind matrix -/

/-- all-positive target: accepted exactly when the element counts agree, and then the answer is the target itself.
    In particular a target whose count is a proper divisor / a multiple of / coprime to the source count is
    refused, whatever the kinds of the two arguments. -/
theorem reshape_allpos_iff (src : List Nat) (dst : List Int) (r : List Nat) (h : ∀ d ∈ dst, 0 < d) :
    reshape src dst = some r ↔ (prod (dst.map Int.toNat) = prod src ∧ r = dst.map Int.toNat) := by
  rw [reshape_eq_some_iff, (filter_sign_of_pos dst h).1, (filter_sign_of_pos dst h).2]
  constructor
  · rintro ⟨-, ⟨-, hk⟩ | ⟨h1, -⟩⟩
    · exact hk
    · cases h1
  · exact fun hk => ⟨rfl, .inl ⟨rfl, hk⟩⟩

theorem reshape_refuses_count_mismatch (src : List Nat) (dst : List Int) (h : ∀ d ∈ dst, 0 < d)
    (hc : prod (dst.map Int.toNat) ≠ prod src) : reshape src dst = none :=
  Option.eq_none_iff_forall_ne_some.mpr fun r hr => hc ((reshape_allpos_iff src dst r h).mp hr).1

example : reshape [12] [2, 3] = none := by decide
example : reshape [6] [3, 4] = none := by decide
example : reshape [6] [5] = none := by decide
example : reshape [2, 3, 2] [12] = some [12] := by decide

theorem reshape_refuses_two_unknown (src : List Nat) (dst : List Int)
    (h : 2 ≤ (dst.filter (· < 0)).length) : reshape src dst = none := by
  refine Option.eq_none_iff_forall_ne_some.mpr fun r hr => ?_
  obtain ⟨-, ⟨h0, -⟩ | ⟨h1, -⟩⟩ := (reshape_eq_some_iff src dst r).mp hr
  · rw [h0] at h; cases h
  · rw [h1] at h; exact absurd h (by decide)

/-- `Pos src` is needed for the extent `0` only -/
theorem reshape_refuses_bad_extent (src : List Nat) (dst : List Int) (hs : Pos src) (d : Int) (hd : d ∈ dst)
    (hbad : d = 0 ∨ d < -1) : reshape src dst = none := by
  refine Option.eq_none_iff_forall_ne_some.mpr fun r hr => ?_
  obtain ⟨hany, hcount⟩ := (reshape_eq_some_iff src dst r).mp hr
  rcases hbad with rfl | hneg
  · -- a zero extent makes the count of the known extents zero, the source count is positive
    have hk : prod ((dst.filter (· ≥ 0)).map Int.toNat) = 0 :=
      Shape.prod_eq_zero_iff.mpr (List.mem_map.mpr ⟨0, List.mem_filter.mpr ⟨hd, rfl⟩, rfl⟩)
    rcases hcount with ⟨-, hc, -⟩ | ⟨-, hc, -⟩
    · exact absurd (hk ▸ hc) (Nat.ne_of_lt (prod_pos hs))
    · exact hc hk
  · have := List.any_eq_false.mp hany d (List.mem_filter.mpr ⟨hd, decide_eq_true (by omega)⟩)
    exact this (decide_eq_true (by omega))

example : reshape [6] [-1, -1] = none := by decide
example : reshape [6] [0, -1] = none := by decide
example : reshape [6] [-2, 3] = none := by decide

/-- operand order does not matter (the kind matrix runs every request of a binary operation in both orders) -/
theorem broadcastShape_comm (a b : List Nat) : broadcastShape a b = broadcastShape b a := by
  rw [broadcastShape_eq, bcShape_comm bdim_comm]

example : broadcastShape [2, 1, 4] [3, 1] = some [2, 3, 4] ∧ broadcastShape [3, 1] [2, 1, 4] = some [2, 3, 4] := by decide

/-- two extents that meet on the `k`-th axis counted from the last, differ and are both not 1: refused -/
theorem broadcastShape_refuses_mismatch (a b : List Nat) (k x y : Nat)
    (ha : a.reverse[k]? = some x) (hb : b.reverse[k]? = some y) (hxy : x ≠ y) (hx : x ≠ 1) (hy : y ≠ 1) :
    broadcastShape a b = none := by
  rw [broadcastShape, bshapeRev_none_of_mismatch k ha hb (bdim_none hxy hx hy)]
  rfl

example : broadcastShape [2, 3, 4] [2, 1] = none := by decide
example : [2, 3, 4].reverse[1]? = some 3 ∧ [2, 1].reverse[1]? = some 2 := by decide

/-- `broadcast_to`: a source of higher rank than the target is refused -/
theorem broadcastTo_refuses_longer (a b : List Nat) (h : b.length < a.length) : broadcastTo a b = none :=
  if_neg fun hc => Nat.not_le.mpr h hc.1

/-- `broadcast_to`: an extent mismatch is refused -/
theorem broadcastTo_refuses_mismatch (a b : List Nat) (k x y : Nat)
    (ha : a.reverse[k]? = some x) (hb : b.reverse[k]? = some y) (hxy : x ≠ y) (hx : x ≠ 1) (hy : y ≠ 1) :
    broadcastTo a b = none :=
  if_neg fun hc => nomatch (broadcastShape_refuses_mismatch a b k x y ha hb hxy hx hy) ▸ hc.2

example : broadcastTo [2, 3] [3] = none := by decide
example : broadcastTo [3, 2] [2, 3, 4] = none := by decide
example : broadcastTo [3, 1] [2, 3, 4] = some [2, 3, 4] := by decide

theorem matmulShape_refuses_contraction (a b : List Nat) (x y : Nat)
    (ha : a.reverse[0]? = some x) (hb : b.reverse[1]? = some y) (hxy : x ≠ y) : matmulShape a b = none := by
  refine Option.eq_none_iff_forall_ne_some.mpr fun r hr => ?_
  -- an accepted answer has passed both guards of `matmulShape`: ranks ≥ 2 (`hl`), contracted extents equal (`hc`)
  obtain ⟨hl, hr⟩ := Option.ite_none_left_eq_some.mp hr
  obtain ⟨hc, -⟩ := Option.ite_none_left_eq_some.mp hr
  obtain ⟨n, hn⟩ := Nat.exists_eq_add_of_le' (Nat.le_of_not_lt fun h => hl (.inl h))
  obtain ⟨m, hm⟩ := Nat.exists_eq_add_of_le' (Nat.le_of_not_lt fun h => hl (.inr h))
  rw [hn, hm, Nat.add_sub_cancel, Nat.add_sub_cancel] at hc
  exact hc (getD_drop_of_reverse (k := 0) hn ha ▸ getD_drop_of_reverse (k := 1) hm hb ▸ hxy)

example : matmulShape [2, 3] [2, 2] = none := by decide
example : matmulShape [2, 1, 3, 4] [5, 4, 2] = some [2, 5, 3, 2] := by decide

/-! ### views: refused exactly when the shape function refuses; accepted answers are well-formed arrays -/

theorem vReshape_none_iff (s : List Nat) (d : List Int) : vReshape s d = none ↔ reshape s d = none :=
  Option.map_eq_none_iff

theorem vBroadcastTo_none_iff (s t : List Nat) : vBroadcastTo s t = none ↔ broadcastTo s t = none :=
  Option.map_eq_none_iff

theorem vAdd_none_iff (a b : List Nat) : vAdd a b = none ↔ broadcastShape a b = none :=
  Option.map_eq_none_iff

theorem vBroadcastArrays_none_iff (a b : List Nat) : vBroadcastArrays a b = none ↔ broadcastShape a b = none :=
  Option.map_eq_none_iff

theorem vWhere_none_iff (c x y : List Nat) : vWhere c x y = none ↔ broadcastShapes [c, x, y] = none :=
  Option.map_eq_none_iff

theorem vPad_none_iff (s pw : List Nat) : vPad s pw = none ↔ pw.length ≠ 2 * s.length := by
  rw [vPad, Option.map_eq_none_iff, pad, ite_eq_right_iff]
  exact Iff.intro (fun h hc => nomatch h hc) (fun h hc => absurd hc h)

theorem vMatmul_none_iff (a b : List Nat) : vMatmul a b = none ↔ matmulShape a b = none :=
  Option.map_eq_none_iff

theorem vAdd_shape (a b : List Nat) : (vAdd a b).map (·.1) = broadcastShape a b := by
  rw [vAdd, Option.map_map]
  exact Option.map_id'

/-- operand order: `x + y` and `y + x` are refused together and have the same shape -/
theorem vAdd_shape_comm (a b : List Nat) : (vAdd a b).map (·.1) = (vAdd b a).map (·.1) := by
  rw [vAdd_shape, vAdd_shape, broadcastShape_comm]

example : (vAdd [2, 1] [1, 3]).map (·.1) = some [2, 3] ∧ (vAdd [1, 3] [2, 1]).map (·.1) = some [2, 3] := by decide
example : vAdd [2, 3] [2] = none ∧ vAdd [2] [2, 3] = none := by decide

/-- every accepted reference answer of these eight tabulated views is a well-formed array (`vReshape`: `vReshape_wf`; the
    other reference views of `KindRefs` have no such theorem) -/
theorem vrefs_wf (v : ArrV) :
    (∀ s t, vBroadcastTo s t = some v → WF v) ∧ (∀ a b, vAdd a b = some v → WF v) ∧
    (∀ s pw, vPad s pw = some v → WF v) ∧ (∀ s ax, vFlip s ax = some v → WF v) ∧
    (∀ c x y, vWhere c x y = some v → WF v) ∧ (∀ a b, vMatmul a b = some v → WF v) ∧
    (∀ s ind ax, vTake s ind ax = some v → WF v) ∧ (∀ s r, vTile s r = v → WF v) := by
  refine ⟨fun _ _ => wf_of_map_tabulate, fun _ _ => wf_of_map_tabulate, fun _ _ => wf_of_map_tabulate,
    fun _ _ => wf_of_map_tabulate, fun _ _ _ => wf_of_map_tabulate, fun _ _ => wf_of_map_tabulate, ?_,
    fun _ _ h => h ▸ tabulate_wf _ _⟩
  intro s ind ax h
  obtain ⟨k, -, h⟩ := Option.bind_eq_some_iff.mp h
  obtain ⟨-, ⟨⟩⟩ := Option.ite_none_left_eq_some.mp h
  exact tabulate_wf _ _

example : vPad [2, 3] [0, 2, 1, 0] = some ([3, 5], [9999, 9999, 0, 1, 2, 9999, 9999, 3, 4, 5, 9999, 9999, 9999, 9999, 9999]) := by decide

/-- every accepted reshape (with or without an inferred `-1` extent) keeps the element count … -/
theorem reshape_keeps_count (src : List Nat) (dst : List Int) (r : List Nat) (h : reshape src dst = some r) :
    prod r = prod src := by
  obtain ⟨-, ⟨h0, hk, rfl⟩ | ⟨h1, -, hm, rfl⟩⟩ := (reshape_eq_some_iff src dst r).mp h
  · rw [← fillUnknown_zero dst, prod_fillUnknown, h0, Nat.pow_zero, Nat.one_mul, hk]
  · rw [prod_fillUnknown, h1, Nat.pow_one, Nat.div_mul_cancel (Nat.dvd_of_mod_eq_zero hm)]

/-- … so the reshaped reference array is well formed for EVERY accepted target, an inferred `-1` extent included -/
theorem vReshape_wf (s : List Nat) (d : List Int) (v : ArrV) (hv : vReshape s d = some v) : WF v := by
  obtain ⟨r, hr, rfl⟩ := Option.map_eq_some_iff.mp hv
  exact List.length_range.trans (reshape_keeps_count s d r hr).symm

example : vReshape [2, 3, 2] [4, -1] = some ([4, 3], [0, 1, 2, 3, 4, 5, 6, 7, 8, 9, 10, 11]) := by decide

/-- in particular for an all-positive target, where the element counts agree -/
theorem vReshape_wf_allpos (s : List Nat) (d : List Int) (v : ArrV) (h : ∀ x ∈ d, 0 < x) (hv : vReshape s d = some v) :
    WF v := vReshape_wf s d v hv

example : vReshape [2, 3] [3, 2] = some ([3, 2], [0, 1, 2, 3, 4, 5]) := by decide

/-- an axis outside `[-ndim, ndim)` is refused -/
theorem normAxis_refuses (ndim : Nat) (a : Int) (h : a < -(ndim : Int) ∨ (ndim : Int) ≤ a) : normAxis ndim a = none := by
  rw [normAxis, if_neg (by omega), if_neg (by omega)]

example : normAxis 3 3 = none ∧ normAxis 3 (-4) = none ∧ normAxis 3 (-1) = some 2 := by decide

/-- `repeat` (scalar count) along an axis out of range is refused, at shape level and as a view -/
theorem repeat_refuses_axis (s : List Nat) (r : Nat) (a : Int) (h : a < -(s.length : Int) ∨ (s.length : Int) ≤ a) :
    repeatScalar s r (some a) = none ∧ vRepeat s r (some a) = none := by
  rw [repeatScalar, vRepeat, normAxis_refuses s.length a h]
  exact ⟨rfl, rfl⟩

/-- `repeat` with one count per element: an axis out of range, or a number of counts different from the extent of the
    axis, is refused -/
theorem repeatList_refuses (s r : List Nat) (a : Int) :
    ((a < -(s.length : Int) ∨ (s.length : Int) ≤ a) → repeatList s r (some a) = none) ∧
    (∀ k e, normAxis s.length a = some k → s[k]? = some e → r.length ≠ e → repeatList s r (some a) = none) := by
  constructor
  · intro h; rw [repeatList, normAxis_refuses s.length a h]; rfl
  · intro k e hk he hne
    have hg : s.getD k 0 = e := by rw [List.getD_eq_getElem?_getD, he]; rfl
    rw [repeatList, hk, Option.bind_some, hg, if_neg hne]

example : repeatList [2, 3] [1, 2] (some 1) = none ∧ repeatList [2, 3] [1, 2, 3] (some 2) = none ∧
    repeatList [2, 3] [1, 2, 3] (some 1) = some [2, 6] := by decide

/-- `expand_dims` with an axis outside the result rank is refused -/
theorem expandDims_refuses_axis (s : List Nat) (axes : List Int) (a : Int) (ha : a ∈ axes)
    (h : a < -((s.length + axes.length : Nat) : Int) ∨ ((s.length + axes.length : Nat) : Int) ≤ a) :
    vExpandDims s axes = none := by
  have : normAxes (s.length + axes.length) axes = none :=
    List.mapM_eq_none_of_mem ha (normAxis_refuses _ a h)
  rw [vExpandDims, this]
  rfl

example : vExpandDims [2, 3] [3] = none ∧ vExpandDims [2, 3] [0, 0] = none := by decide

end NmVerif.Props.C09
