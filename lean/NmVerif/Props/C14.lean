import NmVerif.Functional
import NmVerif.Lemmas.Functional
import NmVerif.Lemmas.Graph
import NmVerif.Lemmas.FunctionalMaybe
/-
  C14 — Functors, currying, composition and extraction are equivalent to direct views.

  `V` (operand values) and `A` (attributes) are arbitrary types and the functors arbitrary functions: every theorem
  holds for every functor of array/functional, present or future.
-/
namespace NmVerif.Props.C14
open NmVerif.Functional

variable {A V : Type}

/-- fewer operands than the remaining arity: the functor keeps them and stays a functor -/
theorem curry_partial (g : Fn A V) (xs : List V) (h : xs.length < g.arity) : applyFn g xs = .curried (g.bind xs) :=
  applyFn_lt g xs h

/-- exactly the remaining arity: the fmap is called with the attributes and all operands, in order -/
theorem curry_saturate (g : Fn A V) (xs : List V) (h : xs.length = g.arity) :
    applyFn g xs = .values (g.f.fmap g.attrs (g.held ++ xs)) := applyFn_eq g xs h

/-- more operands than the arity: applied to the first `arity`, the others are passed on behind the result -/
theorem curry_pass_rest (g : Fn A V) (xs : List V) (h : g.arity < xs.length) :
    applyFn g xs = .values (g.f.fmap g.attrs (g.held ++ xs.take g.arity) ++ xs.drop g.arity) :=
  applyFn_ge g xs (Nat.le_of_lt h)

/-- giving `xs` (fewer than the arity) first and `ys` later is giving `xs ++ ys` at once — whatever `ys` brings -/
theorem curry_any_split (g : Fn A V) (xs ys : List V) (h : xs.length < g.arity) :
    applyFn (g.bind xs) ys = applyFn g (xs ++ ys) := by
  have har := Fn.arity_bind g xs
  by_cases h1 : ys.length < g.arity - xs.length
  · rw [applyFn_lt _ ys (har ▸ h1), applyFn_lt g (xs ++ ys) (by rw [List.length_append]; omega), Fn.bind_bind]
  · rw [applyFn_ge _ ys (by omega), applyFn_ge g (xs ++ ys) (by rw [List.length_append]; omega), Fn.call_bind, har,
      List.take_append, List.drop_append, List.take_of_length_le (Nat.le_of_lt h), List.drop_of_length_le (Nat.le_of_lt h),
      List.nil_append]

/-- exactly `arity` operands handed over in ANY sequence of non-empty chunks (`f (a) (b, c) (d)`) = all at once -/
theorem curry_chunks : ∀ (chunks : List (List V)) (g : Fn A V), (∀ c ∈ chunks, c ≠ []) → chunks ≠ [] →
    chunks.flatten.length = g.arity →
    applyChunks g chunks = some (.values (g.f.fmap g.attrs (g.held ++ chunks.flatten))) := by
  intro chunks
  induction chunks with
  | nil => exact fun _ _ hne _ => absurd rfl hne
  | cons c cs ih =>
    intro g hall _ hlen
    cases cs with
    | nil =>
      rw [List.flatten_cons, List.flatten_nil, List.append_nil] at hlen ⊢
      simp [applyChunks, applyFn_eq g c hlen, Fn.call]
    | cons d ds =>
      have hd : 0 < d.length := List.length_pos_iff.mpr (hall d (by simp))
      simp only [List.flatten_cons, List.length_append] at hlen
      rw [applyChunks, applyFn_lt g c (by omega)]
      show applyChunks (g.bind c) (d :: ds) = _
      rw [ih (g.bind c) (fun e he => hall e (List.mem_cons_of_mem _ he)) (List.cons_ne_nil _ _)
        (by rw [Fn.arity_bind, List.flatten_cons, List.length_append]; omega)]
      simp [Fn.bind, List.append_assoc]

/-- attributes (`operator[]`) and operands may be bound in either order -/
theorem attr_bind_comm (g : Fn A V) (a : A) (xs : List V) :
    (g.withAttr a).bind xs = (g.bind xs).withAttr a ∧ (g.withAttr a).arity = g.arity := ⟨rfl, rfl⟩

/-- every `operator*` overload concatenates the functor lists -/
theorem mul_toList (a b : FC A V) : (a.mul b).toList = a.toList ++ b.toList := by
  cases a <;> cases b <;> simp [FC.mul, FC.toList]

/-- hence a chain is independent of how it is parenthesised -/
theorem comp_assoc (a b c : FC A V) : ((a.mul b).mul c).toList = (a.mul (b.mul c)).toList := by
  simp [mul_toList, List.append_assoc]

theorem comp_assoc_apply (a b c : FC A V) (ops : List V) :
    applyComp ⟨((a.mul b).mul c).toList, []⟩ ops = applyComp ⟨(a.mul (b.mul c)).toList, []⟩ ops := by
  rw [comp_assoc]

/-- `(… * g)(operands)`: `g` gets the first `arity g` operands, its result(s) go in front of the remaining operands,
    and the rest of the chain is applied to that -/
theorem comp_apply (fs : List (Fn A V)) (g : Fn A V) (ops : List V) (h : g.arity ≤ ops.length) :
    applyComp ⟨fs ++ [g], []⟩ ops = applyComp ⟨fs, []⟩ (g.f.fmap g.attrs (g.held ++ ops.take g.arity) ++ ops.drop g.arity) := by
  simp only [applyComp, List.reverse_append, List.reverse_cons, List.reverse_nil, List.nil_append, List.singleton_append]
  exact run_step g fs.reverse ops h

/-- `f * g` applied to operands equals `f` applied to the result of `g`, remaining operands passed on -/
theorem comp_two (f g : Fn A V) (ops : List V) (hg : g.arity ≤ ops.length)
    (hf : f.arity ≤ (g.call (ops.take g.arity) ++ ops.drop g.arity).length) :
    applyComp ⟨[f, g], []⟩ ops =
      some (.values (f.call ((g.call (ops.take g.arity) ++ ops.drop g.arity).take f.arity)
        ++ (g.call (ops.take g.arity) ++ ops.drop g.arity).drop f.arity)) := by
  show run [g, f] ops = _
  rw [run_step g [f] ops hg, run_step f [] _ hf]
  rfl

/-- too few operands for the right-most functor: the composition keeps them (currying) as long as arity remains -/
theorem comp_curry (fs : List (Fn A V)) (g : Fn A V) (ops : List V) (h : ops.length < g.arity)
    (har : 0 < (Comp.arity ⟨fs ++ [g], ops⟩) - ops.length) :
    applyComp ⟨fs ++ [g], []⟩ ops = some (.curried ⟨fs ++ [g], ops⟩) := by
  have hn : ¬ g.arity ≤ ops.length := by omega
  simp only [applyComp, List.reverse_append, List.reverse_cons, List.reverse_nil, List.nil_append, List.singleton_append,
    run, hn, if_false]
  simp only [List.reverse_reverse] at har ⊢
  have : (ops.length : Int) < (Comp.arity ⟨fs ++ [g], ops⟩) := by omega
  simp [this]

theorem swap_spec (a b : V) (ats : List A) : (swapF (A := A)).fmap ats [a, b] = [b, a] := rfl
theorem dup_spec (n : Nat) (a : V) (ats : List A) : (dupF (A := A) n).fmap ats [a] = List.replicate n a := rfl
/-- dig n: operand n comes to the front, the others keep their order -/
theorem dig_spec (n : Nat) (xs : List V) (x : V) (ys : List V) (ats : List A) (h : xs.length = n) :
    (digF (A := A) n).fmap ats (xs ++ x :: ys) = x :: (xs ++ ys) := by
  subst h; simp [digF]
/-- bury n: the front operand goes behind the next n -/
theorem bury_spec (n : Nat) (x : V) (xs ys : List V) (ats : List A) (h : xs.length = n) :
    (buryF (A := A) n).fmap ats (x :: (xs ++ ys)) = xs ++ x :: ys := by
  subst h; simp [buryF]
theorem bury_dig_of_lt (n : Nat) (xs : List V) (ats : List A) (h : n < xs.length) :
    (buryF (A := A) n).fmap ats ((digF (A := A) n).fmap ats xs) = xs := by
  obtain ⟨l, x, r, rfl, hl⟩ : ∃ l x r, xs = l ++ x :: r ∧ l.length = n :=
    ⟨xs.take n, xs[n], xs.drop (n + 1), by simp [List.take_append_drop], by simp; omega⟩
  rw [dig_spec n l x r ats hl, bury_spec n x l r ats hl]

/-- bury undoes dig -/
theorem bury_dig (n : Nat) (xs : List V) (ats : List A) (h : xs.length = n + 1) :
    (buryF (A := A) n).fmap ats ((digF (A := A) n).fmap ats xs) = xs :=
  bury_dig_of_lt n xs ats (by omega)

/-- compiler correctness: on a view tree in which every node has as many operands as its arity and only FIRST operands are
    themselves views, the extracted composition applied to the extracted operands reproduces the view (host evaluation).
    The tree may contain every operand kind the extraction code distinguishes: host arrays, aliased arrays, number
    literals, array-valued views and NUMBER-valued views (`View.snode`: a reduction over all axes, a 0-d result that
    broadcasts like a scalar). -/
theorem compile_correct (env : Nat → V) (v : View A V) (h : v.leftLinear = true) :
    applyComp ⟨v.compile, []⟩ (v.operandsOf.map env) = some (.values [v.denote env]) := by
  have := View.run_compile env v [] [] h
  simpa [applyComp, run] using this

/-- … also in front of further operands and further code (what makes extraction compositional) -/
theorem compile_frame (env : Nat → V) (v : View A V) (K : List (Fn A V)) (rest : List V) (h : v.leftLinear = true) :
    run (v.compile.reverse ++ K) (v.operandsOf.map env ++ rest) = run K (v.denote env :: rest) :=
  View.run_compile env v K rest h

/-- `fn::apply(function, operands)` compiles (`static_assert(arity == n_operands)`, functor.hpp:833-835): the static arity of
    the extracted composition is the number of extracted operands — for EVERY view tree whose nodes have as many operands
    as their arity, sub-views in any position -/
theorem compile_arity (v : View A V) (h : v.wellFormed = true) :
    Comp.arity ⟨v.compile, []⟩ = (v.operandsOf.length : Int) := by
  rw [Comp.arity_eq]
  have := View.sumArity_compile v h
  omega

/-- the trees of `compile_correct` are among them -/
theorem leftLinear_wellFormed (v : View A V) (h : v.leftLinear = true) : v.wellFormed = true :=
  View.leftLinear_wellFormed v h

/-- the extracted operands are the leaf arrays in reading order, one entry per occurrence -/
theorem operandsOf_are_leaves (v : View A V) : v.operandsOf = v.leavesAcc [] := by
  rw [View.leavesAcc_eq]; simp

/-- the `if constexpr` chain every operand goes through (alias → finish; view → its composition; number or array that
    is not a view → nothing) never drops the composition of a view — in particular not that of a NUMBER-valued view, which
    satisfies `is_num_v` as well as `is_view_v`: whatever the operand kind, the chain yields the operand's own composition -/
theorem operand_dispatch (v : View A V) : v.operandKindOk = true ∧ v.dispatch v.compile = v.compile :=
  ⟨by cases v <;> rfl, View.dispatch_compile v⟩

/-- a number-valued view operand contributes its whole composition, a literal / host array / alias none -/
theorem operand_dispatch_kinds (f : VFun A V) (ats : List A) (args : Args A V) (i : Nat) (sub : List (Fn A V)) :
    (View.snode f ats args).dispatch sub = sub ∧ (View.node f ats args).dispatch sub = sub ∧
    (View.lit i : View A V).dispatch sub = [] ∧ (View.leaf i : View A V).dispatch sub = [] ∧ (View.alias i : View A V).dispatch sub = [] :=
  ⟨rfl, rfl, rfl, rfl, rfl⟩

/-- the extracted composition has exactly one functor per operation of the view tree (array- and number-valued views
    alike, sub-views in any position), none for host arrays, aliases and literals -/
theorem compile_one_functor_per_op (v : View A V) : v.compile.length = v.nOps := View.compile_length v

/-- extraction preserves the parameters: the extracted composition, read in execution order, consists of exactly the operations
    of the view tree in post-order, each functor carrying the attribute list of ITS view (`functor[view.attributes()]`: the
    run-time parameters of a ufunc's op — leaky_relu slope, elu / celu alpha, hardtanh bounds, softplus beta / threshold,
    hardshrink / softshrink lambda, prelu alpha — travel in there) and no operands.  Any view tree, sub-views in any position. -/
theorem compile_preserves_params (v : View A V) :
    v.compile.reverse = v.opsPost.map VFun.bindAttrs ∧
    v.compile.reverse.map (·.attrs) = v.opsPost.map (·.2) := by
  have h := View.compile_reverse v
  refine ⟨h, ?_⟩
  rw [h, List.map_map]
  rfl

/-! ### operands that are `nmtools_maybe<view>` (the result of a functor whose view validates its arguments at run time) -/

/-- the maybe branch of a view function applied to operands that all have a value is the view function applied to the unwrapped
    operands WITH THE SAME ATTRIBUTES, wrapped again (what seeded change C14-4 breaks for view::unary_ufunc) -/
theorem maybe_view_forwards_attrs (f : Functor A V) (ats : List A) (xs : List V) :
    f.liftMaybe.fmap ats (xs.map some) = (f.fmap ats xs).map some := by
  simp [Functor.liftMaybe, allSome_map_some]

/-- a Nothing operand makes the result Nothing -/
theorem maybe_nothing_propagates (f : Functor A V) (ats : List A) (xs : List (Option V)) (h : none ∈ xs) :
    f.liftMaybe.fmap ats xs = [none] := by
  simp [Functor.liftMaybe, allSome_none xs h]

/-- applying a composition to maybe operands commutes with unwrapping: whenever the composition over plain operands yields
    values, the same composition of the maybe-lifted functors (same attributes, same held operands) over the wrapped operands
    yields exactly those values, wrapped — any number of functors, any arities, results of inner functors being maybes -/
theorem maybe_comp_unwrap (fs : List (Fn A V)) (ops vs : List V) (h : applyComp ⟨fs, []⟩ ops = some (.values vs)) :
    applyComp ⟨fs.map Fn.liftMaybe, []⟩ (ops.map some) = some (.values (vs.map some)) := by
  simp only [applyComp, List.nil_append] at h ⊢
  rw [← List.map_reverse]
  exact run_liftMaybe fs.reverse ops vs h

private def addV : VFun Unit Nat := ⟨2, fun _ xs => match xs with | [a, b] => a + b | _ => 0⟩
private def mulV : VFun Unit Nat := ⟨2, fun _ xs => match xs with | [a, b] => a * b | _ => 0⟩
private def negV : VFun Unit Nat := ⟨1, fun _ xs => match xs with | [a] => 1000 - a | _ => 0⟩
private def envE : Nat → Nat := fun i => [2, 3, 5].getD i 0
private def valuesOf : Option (CRes Unit Nat) → List Nat
  | some (.values vs) => vs
  | _ => []

/-- KNOWN FINDING extract.nonfirst-view-operand: `add(a, multiply(b, c))` — a view operand that is not the first
    operand.  Host: 2 + 3*5 = 17; extracted composition on extracted operands: (2*3) + 5 = 11. -/
theorem compile_nonfirst_counterexample :
    let v : View Unit Nat := .node addV [] (.cons (.leaf 0) (.cons (.node mulV [] (.cons (.leaf 1) (.cons (.leaf 2) .nil))) .nil))
    v.denote envE = 17 ∧ valuesOf (applyComp ⟨v.compile, []⟩ (v.operandsOf.map envE)) = [11] ∧ v.leftLinear = false := by
  decide

private def sumAllV : VFun Unit Nat := ⟨1, fun _ xs => match xs with | [a] => 7 * a + 1 | _ => 0⟩
private def subV : VFun Unit Nat := ⟨2, fun _ xs => match xs with | [a, b] => 100 + a - b | _ => 0⟩

/-- KNOWN FINDING extract.nonfirst-view-operand with a NUMBER-valued view: `subtract(b, reduce_add(a, None))` — the 0-d
    reduction is not the first operand.  Host: 100 + 3 - (7*2+1) = 88; extraction computes `subtract(reduce_add(b, None), a)`:
    100 + (7*3+1) - 2 = 120 (in the C++ the result then has the shape of `a`, not of `b`). -/
theorem compile_nonfirst_scalar_counterexample :
    let v : View Unit Nat := .node subV [] (.cons (.leaf 1) (.cons (.snode sumAllV [] (.cons (.leaf 0) .nil)) .nil))
    v.denote envE = 88 ∧ valuesOf (applyComp ⟨v.compile, []⟩ (v.operandsOf.map envE)) = [120] ∧ v.leftLinear = false
      ∧ v.wellFormed = true := by
  decide

/-! ### compute graph (under the hypothesis that node ids are pairwise distinct — NOT a theorem of the code: ids are
    `generate_alias` hashes mod 1033 and per-sub-graph counters; checked per explored program by the correspondence run) -/

/-- one uniquely identified node per operand occurrence and per operation, in reading order, leaves labelled with their
    host array and operations with their inputs -/
theorem graph_nodes (t : IView) (h : t.allIds.Nodup) :
    ∃ g, t.graph = some g ∧ g.keys = t.allIds ∧ g.nodes = t.specNodes := by
  obtain ⟨g, h1, e⟩ := IView.graph_spec t h
  exact ⟨g, h1, e.of_empty.1, e.of_empty.2.1⟩

/-- edges exactly from each operation's inputs -/
theorem graph_edges (t : IView) (h : t.allIds.Nodup) :
    ∃ g, t.graph = some g ∧ ∀ e, e ∈ g.edges ↔ e ∈ t.specEdges := by
  obtain ⟨g, h1, e⟩ := IView.graph_spec t h
  exact ⟨g, h1, e.of_empty.2.2⟩

/-- KNOWN FINDING graph.sibling-subviews-unaliased: add(multiply(x0,x1), multiply(x2,x3)) with the ids the C++ assigns
    (un-aliased leaves numbered 0,1 in every sub-graph; both multiply views hash to the same id 203, root 593):
    4 nodes instead of 7 — leaves x2, x3 and the second multiply are lost -/
theorem graph_collision_counterexample :
    let t : IView := .node 593 (.cons (.node 203 (.cons (.leaf 0 0) (.cons (.leaf 1 1) .nil)))
                               (.cons (.node 203 (.cons (.leaf 0 2) (.cons (.leaf 1 3) .nil))) .nil))
    (t.graph.map (·.keys)) = some [0, 1, 203, 593] ∧ t.specNodes.length = 7 ∧ ¬ t.allIds.Nodup := by
  decide

/-- the hash behind the ids is not injective: two different id sequences with the same alias -/
theorem generate_alias_collision : generateAlias [0, 0, 0] = generateAlias [0, 2, 9] ∧ ([0, 0, 0] : List Nat) ≠ [0, 2, 9] := by
  decide

-- add(multiply(a,b), subtract(c, negative(d))): sub-views in both positions, 4 functors, static arity 4 = 4 leaves
example :
    let v : View Unit Nat := .node addV [] (.cons (.node mulV [] (.cons (.leaf 0) (.cons (.leaf 1) .nil)))
      (.cons (.node mulV [] (.cons (.leaf 2) (.cons (.node negV [] (.cons (.leaf 0) .nil)) .nil))) .nil))
    v.wellFormed = true ∧ v.leftLinear = false ∧ Comp.arity ⟨v.compile, []⟩ = 4 ∧ v.operandsOf = [0, 1, 2, 0] := by decide

-- a depth-3 left-linear view: neg(add(mul(a,b), c))
example :
    let v : View Unit Nat := .node negV [] (.cons (.node addV [] (.cons (.node mulV [] (.cons (.leaf 0) (.cons (.leaf 1) .nil))) (.cons (.leaf 2) .nil))) .nil)
    v.leftLinear = true ∧ v.denote envE = 989 ∧ valuesOf (applyComp ⟨v.compile, []⟩ (v.operandsOf.map envE)) = [989]
      ∧ v.operandsOf = [0, 1, 2] := by decide
-- number-valued sub-views (0-d reductions) as FIRST operand of a binary ufunc: multiply(reduce_add_all(a), b), nested
-- negative(multiply(reduce_add_all(multiply(a,b)), c)) and with a repeated leaf subtract(reduce_add_all(a), a)
example :
    let v : View Unit Nat := .node mulV [] (.cons (.snode sumAllV [] (.cons (.leaf 0) .nil)) (.cons (.leaf 1) .nil))
    v.leftLinear = true ∧ v.denote envE = 45 ∧ valuesOf (applyComp ⟨v.compile, []⟩ (v.operandsOf.map envE)) = [45]
      ∧ v.operandsOf = [0, 1] ∧ v.compile.length = 2 ∧ v.nOps = 2 ∧ Comp.arity ⟨v.compile, []⟩ = 2 := by decide
example :
    let v : View Unit Nat := .node negV [] (.cons (.node mulV [] (.cons (.snode sumAllV []
      (.cons (.node mulV [] (.cons (.leaf 0) (.cons (.leaf 1) .nil))) .nil)) (.cons (.leaf 2) .nil))) .nil)
    v.leftLinear = true ∧ v.denote envE = 785 ∧ valuesOf (applyComp ⟨v.compile, []⟩ (v.operandsOf.map envE)) = [785]
      ∧ v.operandsOf = [0, 1, 2] ∧ v.compile.length = 4 := by decide
example :
    let v : View Unit Nat := .node subV [] (.cons (.snode sumAllV [] (.cons (.leaf 0) .nil)) (.cons (.leaf 0) .nil))
    v.leftLinear = true ∧ v.denote envE = 113 ∧ valuesOf (applyComp ⟨v.compile, []⟩ (v.operandsOf.map envE)) = [113]
      ∧ v.operandsOf = [0, 0] := by decide
-- literal operands in either position and an aliased leaf: add(a, 5), multiply(3, alias b): one functor, two operands
example :
    let v : View Unit Nat := .node addV [] (.cons (.leaf 0) (.cons (.lit 2) .nil))
    let w : View Unit Nat := .node mulV [] (.cons (.lit 1) (.cons (.alias 2) .nil))
    v.leftLinear = true ∧ valuesOf (applyComp ⟨v.compile, []⟩ (v.operandsOf.map envE)) = [7] ∧ v.denote envE = 7 ∧ v.compile.length = 1 ∧
    w.leftLinear = true ∧ valuesOf (applyComp ⟨w.compile, []⟩ (w.operandsOf.map envE)) = [15] ∧ w.operandsOf = [1, 2] := by decide
-- the operand dispatch on a number-valued view: its composition is kept (two functors would be one if it were dropped)
example :
    let s : View Unit Nat := .snode sumAllV [] (.cons (.leaf 0) .nil)
    s.isNum = true ∧ s.isView = true ∧ s.isAlias = false ∧ (s.dispatch s.compile).length = 1 := by decide
-- a parametrised unary op (value = slope * operand, the slope is an attribute; without one: the default slope 1) as outer
-- node, as inner node and twice with different parameters: the extracted functors carry 3 resp. 7, and re-application
-- computes with them — with the default it would give 30 / 1005 / 5 instead
example :
    let act : VFun Nat Nat := ⟨1, fun ats xs => match ats, xs with | [s], [a] => s * a | _, [a] => a | _, _ => 0⟩
    let add2 : VFun Nat Nat := ⟨2, fun _ xs => match xs with | [a, b] => a + b | _ => 0⟩
    let env : Nat → Nat := fun i => [2, 3, 5].getD i 0
    let v : View Nat Nat := .node act [3] (.cons (.node add2 [] (.cons (.leaf 0) (.cons (.leaf 1) .nil))) .nil)
    let w : View Nat Nat := .node add2 [] (.cons (.node act [7] (.cons (.leaf 0) .nil)) (.cons (.leaf 1) .nil))
    let u : View Nat Nat := .node act [3] (.cons (.node act [7] (.cons (.leaf 2) .nil)) .nil)
    let vals : Option (CRes Nat Nat) → List Nat := fun r => match r with | some (.values vs) => vs | _ => []
    v.denote env = 15 ∧ vals (applyComp ⟨v.compile, []⟩ (v.operandsOf.map env)) = [15] ∧ v.compile.reverse.map (·.attrs) = [[], [3]] ∧
    w.denote env = 17 ∧ vals (applyComp ⟨w.compile, []⟩ (w.operandsOf.map env)) = [17] ∧ w.compile.reverse.map (·.attrs) = [[7], []] ∧
    u.denote env = 105 ∧ vals (applyComp ⟨u.compile, []⟩ (u.operandsOf.map env)) = [105] ∧ u.opsPost.map (·.2) = [[7], [3]] := by decide
-- a parametrised unary functor (slope attribute) to the left of a shape-changing functor, over a maybe operand: the attribute
-- arrives (3 * (2 + 100) = 306, with the default slope 1 it would be 102); a Nothing operand gives Nothing
example :
    let act : Functor Nat Nat := ⟨1, fun ats xs => match ats, xs with | [s], [a] => [s * a] | _, [a] => [a] | _, _ => []⟩
    let rs : Functor Nat Nat := ⟨1, fun _ xs => xs.map (· + 100)⟩
    let f : Fn Nat Nat := (Fn.ofFunctor act).withAttr 3
    let g : Fn Nat Nat := .ofFunctor rs
    (match applyComp ⟨[f, g], []⟩ [2] with | some (.values vs) => vs | _ => []) = [306] ∧
    (match applyComp ⟨[f, g].map Fn.liftMaybe, []⟩ [some 2] with | some (.values vs) => vs | _ => []) = [some 306] ∧
    (match applyComp ⟨[f, g].map Fn.liftMaybe, []⟩ [none] with | some (.values vs) => vs | _ => []) = [none] ∧
    act.liftMaybe.fmap [3] [some 5] = [some 15] ∧ act.liftMaybe.fmap [3] [none] = [none] := by decide
-- a left-linear depth-2 tree, add(multiply(a,b), c), is well formed (`leftLinear_wellFormed`)
example :
    let v : View Unit Nat := .node addV [] (.cons (.node mulV [] (.cons (.leaf 0) (.cons (.leaf 1) .nil))) (.cons (.leaf 2) .nil))
    v.leftLinear = true ∧ v.wellFormed = true := by decide
-- currying a ternary functor in the splits 1+2 and 2+1
example :
    let f : Fn Unit Nat := .ofFunctor ⟨3, fun _ xs => [xs.foldl (fun a b => 10 * a + b) 0]⟩
    (applyChunks f [[1], [2, 3]]).map (fun r => match r with | .values v => v | _ => []) = some [123] ∧
    (applyChunks f [[1, 2], [3]]).map (fun r => match r with | .values v => v | _ => []) = some [123] := by decide
example : (digF (A := Unit) 2).fmap [] [1, 2, 3] = [3, 1, 2] ∧ (buryF (A := Unit) 2).fmap [] [3, 1, 2] = [1, 2, 3] := by decide
-- tanh(add(multiply(x0,x1),x1)) with the ids the C++ assigns: distinct, 6 nodes, 5 edges
example :
    let t : IView := .node 830 (.cons (.node 782 (.cons (.node 203 (.cons (.leaf 0 0) (.cons (.leaf 1 1) .nil))) (.cons (.leaf 205 1) .nil))) .nil)
    t.allIds.Nodup ∧ (t.graph.map (·.edges)) = some [(0, 203), (1, 203), (203, 782), (205, 782), (782, 830)] := by decide

end NmVerif.Props.C14
