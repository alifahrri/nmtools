import NmVerif.Lemmas.SliceDyn
/-
  C05 — Slicing follows Python/NumPy basic-indexing semantics.

  MODEL  NmVerif.Slice (Index/Slice.lean): slice_indices / compute_range / compute_step / compute_index, the integer
         ceiling length, the packed (shape_slice / slice) and dynamic (shape_dynamic_slice / dynamic_slice) loops with
         the trailing-axes copy, view::slice — the headers after the `fix:` commits fixes/C05-*.diff.
  SPEC   Python `slice.indices` (pyIndices/pyLen, transcribed from PySlice_AdjustIndices) per axis; NumPy basic indexing
         (specSlice: integers drop their axis, one ellipsis = the missing full slices, unaddressed trailing axes kept
         whole, element j ↦ start' + j*step).
  Dom    `domEntries` (Lemmas/SliceND.lean) = every valid basic index: at most one ellipsis, no more entries than axes,
         integers in [-n, n), step ≠ 0, extents below 2^62.
  The theorems restate, in the terms of the property, what Lemmas/Slice*.lean prove.
-/
namespace NmVerif.Props.C05
open NmVerif NmVerif.Slice

/-! ## SPEC sanity (all inputs): Python's own rule never leaves the axis -/

/-- for every extent, every start/stop/step (step ≠ 0): the `j`-th selected element `start' + j*step`, `j < len`, lies in `[0, n)` -/
theorem python_range_inBounds (n : Nat) (a b c : Option Int) (l : Nat) (f k : Int)
    (h : pyAxis n a b c = some (l, f, k)) (j : Nat) (hj : j < l) : 0 ≤ f + j * k ∧ f + j * k < n := by
  obtain ⟨hk, rfl, rfl, rfl⟩ := pyAxis_some h
  obtain ⟨h0, h1, _⟩ := pyAxis_inBounds n a b c hk j hj
  exact ⟨h0, h1⟩

example : pyAxis 5 (some (-2)) none (some (-2)) = some (2, 3, -2) := by decide

/-! ## one range entry -/

/-- for every extent (a `size_t`) and every start/stop/step with step ≠ 0 — omitted, negative, out of range, empty
    included — the implementation's extent and every element equal Python's `slice.indices` rule, and elements stay
    inside the axis.  (Of the MODEL, which computes in unbounded `Int`; the C++ computes in signed 64 bit and is the model
    for extents below 2^62: Index/Slice.lean, "Machine arithmetic".) -/
theorem range_eq_python (n : Nat) (a b c : Option Int) (hn : n < 18446744073709551616) (hk : stepVal c ≠ 0) :
    ∃ l f k, pyAxis n a b c = some (l, f, k) ∧ sliceLen n a b c = some (l : Int) ∧
      ∀ j : Nat, j < l → computeIndex n a b c j = f + j * k ∧ 0 ≤ f + j * k ∧ f + j * k < n :=
  ⟨_, _, _, range_eq_pyAxis n a b c hn hk⟩

/-- the normalisation itself: `slice_indices` = `PySlice_AdjustIndices`, for all inputs -/
theorem slice_indices_eq_python (n : Nat) (a b c : Option Int) :
    sliceIndices n a b c = (pyStart n a c, pyStop n b c, stepVal c) :=
  sliceIndices_eq_python n a b c

-- the classes repaired by fixes/C05-*.diff: a[2:1] (empty), a[-6:2] (clamped), a[-1:], a[-2:1], a[3:1:-1], a[:] on 2^24+1
example : sliceLen 4 (some 2) (some 1) (some 1) = some 0 := by decide
example : sliceLen 4 (some (-6)) (some 2) (some 1) = some 2 ∧ computeIndex 4 (some (-6)) (some 2) (some 1) 1 = 1 := by decide
example : sliceLen 5 (some (-1)) none none = some 1 ∧ computeIndex 5 (some (-1)) none none 0 = 4 := by decide
example : computeIndex 2 (some (-2)) (some 1) (some 1) 0 = 0 := by decide
example : sliceLen 4 (some 3) (some 1) (some (-1)) = some 2 ∧ computeIndex 4 (some 3) (some 1) (some (-1)) 1 = 2 := by decide
example : sliceLen 16777217 none none none = some 16777217 := by decide

/-! ## a whole index: any rank, integers and one ellipsis in any position -/

/-- packed encoding (`shape_slice` / `slice`), every valid basic index: the shape is the reference shape (integers drop
    their axis, the ellipsis expands to the missing full slices, unaddressed trailing axes are kept) and every
    destination index maps to the reference source index, which lies inside the source shape -/
theorem slice_eq_python (shape : List Nat) (es : List Entry) (h : domEntries shape es = true) :
    ∃ sels, specSlice shape es = some sels ∧ shapeSlice shape es = some (specShape sels) ∧
      ∀ d, InShape d (specShape sels) →
        ∃ i, specIdx sels d = some i ∧ sliceIdx shape es d = some i ∧ InShape i shape :=
  (slice_dom shape es h).spec

-- non-vacuity: a[1, ..., ::-1] on (2,3,4);  a[-1, 0:2] on (3,4);  a[..., 1:3, -2] on (2,5,4,3);  a[1:4:2] on (5,2);
-- a[0, ...] on (2,);  a[7:-9:-2, -1:] on (5,3)
example : domEntries [2, 3, 4] [.int 1, .ellipsis, .range none none (some (-1))] = true := by decide
example : domEntries [3, 4] [.int (-1), .range2 (some 0) (some 2)] = true := by decide
example : domEntries [2, 5, 4, 3] [.ellipsis, .range (some 1) (some 3) none, .int (-2)] = true := by decide
example : domEntries [5, 2] [.range (some 1) (some 4) (some 2)] = true := by decide
example : domEntries [2] [.int 0, .ellipsis] = true := by decide
example : domEntries [5, 3] [.range (some 7) (some (-9)) (some (-2)), .range2 (some (-1)) none] = true := by decide
example : shapeSlice [5, 2] [.range (some 1) (some 4) (some 2)] = some [2, 2] := by decide
example : shapeSlice [2, 3, 4] [.int 1, .ellipsis, .range none none (some (-1))] = some [3, 4] := by decide
example : sliceIdx [2, 3, 4] [.int 1, .ellipsis, .range none none (some (-1))] [2, 0] = some [1, 2, 3] := by decide

/-- the two encodings agree: wherever the compile-time (packed) shape function has a value, the run-time (list of
    either) one returns the same -/
theorem packed_eq_dynamic_shape (shape : List Nat) (es : List Entry) (r : List Nat)
    (h : shapeSlice shape es = some r) : shapeDynamicSlice shape es = some r :=
  shape_packed_eq_dynamic shape es r h

/-- … and so does the index function, for every destination index -/
theorem packed_eq_dynamic_index (shape : List Nat) (es : List Entry) (d r : List Nat)
    (h : sliceIdx shape es d = some r) : dynamicSlice shape es d = some r :=
  idx_packed_eq_dynamic shape es d r h

example : shapeDynamicSlice [2, 3, 4] [.int 1, .ellipsis, .range none none (some (-1))] = some [3, 4] := by decide

/-- dynamic encoding: same statement as `slice_eq_python` -/
theorem dynamic_slice_eq_python (shape : List Nat) (es : List Entry) (h : domEntries shape es = true) :
    ∃ sels, specSlice shape es = some sels ∧ shapeDynamicSlice shape es = some (specShape sels) ∧
      ∀ d, InShape d (specShape sels) →
        ∃ i, specIdx sels d = some i ∧ dynamicSlice shape es d = some i ∧ InShape i shape :=
  (dynamicSlice_dom shape es h).spec

/-! ## the reference itself: `pyLen` counts Python's `range`, a range never outgrows its axis -/

/-- the reference length is characterised, not only transcribed: position `j` is selected exactly when
    `start' + j*step` has not reached `stop'` in the direction of the step — the elements of `range(start', stop', step')` -/
theorem python_len_is_range_len (n : Nat) (a b c : Option Int) (st sp k : Int)
    (h : pyIndices n a b c = some (st, sp, k)) (j : Nat) :
    j < (pyLen st sp k).toNat ↔ (if 0 < k then st + j * k < sp else sp < st + j * k) := by
  obtain ⟨hk, ⟨⟩⟩ := Option.ite_none_left_eq_some.1 (pyIndices_eq .. ▸ h)
  exact Int.lt_toNat.trans (lt_pyLen_iff _ _ _ hk j)

example : pyIndices 5 (some (-2)) none (some (-2)) = some (3, -1, -2) := by decide

/-- a range selects at most as many elements as the axis has (so the sliced extent fits whatever held the source extent) -/
theorem range_len_le_extent (n : Nat) (a b c : Option Int) (l : Nat) (f k : Int)
    (h : pyAxis n a b c = some (l, f, k)) : l ≤ n := by
  obtain ⟨hk, rfl, _, _⟩ := pyAxis_some h
  -- were there an element of position `n`, `pyAxis_inBounds` would give `n < n`
  exact Nat.le_of_not_lt fun h => Nat.lt_irrefl n (pyAxis_inBounds n a b c hk n h).2.2

/-! ## one-axis algebra of the implementation's functions -/

/-- `a[:]` is the identity on an axis -/
theorem full_slice_identity (n : Nat) (hn : n < 18446744073709551616) :
    sliceLen n none none none = some (n : Int) ∧ ∀ j : Nat, j < n → computeIndex n none none none j = j := by
  obtain ⟨-, h2, h3⟩ := range_eq_pyAxis n none none none hn (by decide)
  have e : pyLen (pyStart n none none) (pyStop n none none) (stepVal none) = n := by
    show pyLen 0 n 1 = n; rw [pyLen, if_neg (by decide)]; split <;> omega
  rw [e] at h2 h3
  exact ⟨h2, fun j hj => (h3 j hj).1.trans (by show (0 : Int) + j * 1 = j; rw [Int.zero_add, Int.mul_one])⟩

/-- `a[::-1]` reverses an axis: same extent, element `j` is source element `n-1-j` -/
theorem reverse_slice (n : Nat) (hn : n < 18446744073709551616) :
    sliceLen n none none (some (-1)) = some (n : Int) ∧
      ∀ j : Nat, j < n → computeIndex n none none (some (-1)) j = (n : Int) - 1 - j := by
  obtain ⟨-, h2, h3⟩ := range_eq_pyAxis n none none (some (-1)) hn (by decide)
  have e : pyLen (pyStart n none (some (-1))) (pyStop n none (some (-1))) (stepVal (some (-1))) = n := by
    show pyLen (n - 1) (-1) (-1) = n; rw [pyLen, if_pos (by decide), Int.neg_neg]; split <;> omega
  rw [e] at h2 h3
  exact ⟨h2, fun j hj => (h3 j hj).1.trans
    (by show (n : Int) - 1 + j * (-1) = _; rw [Int.mul_neg, Int.mul_one, ← Int.sub_eq_add_neg])⟩

/-- slice of a slice on one axis (`a[r1][r2]`): for every pair of ranges the implementation's composed element is the
    single walk with first element `f1 + f2*k1` and step `k1*k2`, and it stays inside the source axis — Python's
    `range(...)[r2]` law, for every extent (a `size_t`) and every start/stop/step with non-zero steps -/
theorem slice_of_slice (n : Nat) (a1 b1 c1 a2 b2 c2 : Option Int) (hn : n < 18446744073709551616)
    (hk1 : stepVal c1 ≠ 0) (hk2 : stepVal c2 ≠ 0) :
    ∃ l1 f1 k1 l2 f2 k2, pyAxis n a1 b1 c1 = some (l1, f1, k1) ∧ pyAxis l1 a2 b2 c2 = some (l2, f2, k2) ∧
      sliceLen n a1 b1 c1 = some (l1 : Int) ∧ sliceLen l1 a2 b2 c2 = some (l2 : Int) ∧ l2 ≤ l1 ∧ l1 ≤ n ∧
      ∀ j : Nat, j < l2 →
        computeIndex n a1 b1 c1 (computeIndex l1 a2 b2 c2 j) = (f1 + f2 * k1) + j * (k1 * k2) ∧
        0 ≤ (f1 + f2 * k1) + j * (k1 * k2) ∧ (f1 + f2 * k1) + j * (k1 * k2) < n := by
  obtain ⟨l1, f1, k1, p1, s1, i1⟩ := range_eq_python n a1 b1 c1 hn hk1
  have hl1 : l1 ≤ n := range_len_le_extent n a1 b1 c1 l1 f1 k1 p1
  obtain ⟨l2, f2, k2, p2, s2, i2⟩ := range_eq_python l1 a2 b2 c2 (Nat.lt_of_le_of_lt hl1 hn) hk2
  have hl2 : l2 ≤ l1 := range_len_le_extent l1 a2 b2 c2 l2 f2 k2 p2
  refine ⟨l1, f1, k1, l2, f2, k2, p1, p2, s1, s2, hl2, hl1, ?_⟩
  intro j hj
  obtain ⟨e2, lo2, hi2⟩ := i2 j hj
  have hm : ((f2 + (j : Int) * k2).toNat : Int) = f2 + j * k2 := Int.toNat_of_nonneg lo2
  have hlt : (f2 + (j : Int) * k2).toNat < l1 := (Int.toNat_lt lo2).2 hi2
  obtain ⟨e1, lo1, hi1⟩ := i1 (f2 + (j : Int) * k2).toNat hlt
  rw [hm] at e1 lo1 hi1
  have er : f1 + (f2 + (j : Int) * k2) * k1 = (f1 + f2 * k1) + j * (k1 * k2) := by
    rw [Int.add_mul, Int.mul_assoc, Int.mul_comm k2 k1, Int.add_assoc]
  exact ⟨by rw [e2, e1, er], er ▸ lo1, er ▸ hi1⟩

-- a[1:9:2][::-1] on extent 10 = a[7::-2] restricted to 4 elements: 7, 5, 3, 1
example : pyAxis 10 (some 1) (some 9) (some 2) = some (4, 1, 2) ∧ pyAxis 4 none none (some (-1)) = some (4, 3, -1) := by decide
example : computeIndex 10 (some 1) (some 9) (some 2) (computeIndex 4 none none (some (-1)) 0) = 7 := by decide

/-- a slice view of a slice view (`a[es1][es2]`, any rank), stated of the run-time shape and index functions that
    `view::apply_slice` calls: for every pair of valid basic indices the inner result exists,
    every element of the outer result reads an element of the inner result that exists, and through it a source element
    inside the source shape, both given by the reference maps -/
theorem slice_of_slice_view (src : List Nat) (es1 es2 : List Entry) (h1 : domEntries src es1 = true)
    (mid : List Nat) (hm : shapeDynamicSlice src es1 = some mid) (h2 : domEntries mid es2 = true) :
    ∃ sels1 sels2, specSlice src es1 = some sels1 ∧ specSlice mid es2 = some sels2 ∧ mid = specShape sels1 ∧
      shapeDynamicSlice mid es2 = some (specShape sels2) ∧
      ∀ d, InShape d (specShape sels2) →
        ∃ m i, specIdx sels2 d = some m ∧ dynamicSlice mid es2 d = some m ∧ InShape m mid ∧
          specIdx sels1 m = some i ∧ dynamicSlice src es1 m = some i ∧ InShape i src := by
  obtain ⟨sels1, a1, a2, a3⟩ := dynamic_slice_eq_python src es1 h1
  obtain ⟨sels2, b1, b2, b3⟩ := dynamic_slice_eq_python mid es2 h2
  rw [a2] at hm
  cases hm
  refine ⟨sels1, sels2, a1, b1, rfl, b2, ?_⟩
  intro d hd
  obtain ⟨m, c1, c2, c3⟩ := b3 d hd
  obtain ⟨i, e1, e2, e3⟩ := a3 m c3
  exact ⟨m, i, c1, c2, c3, e1, e2, e3⟩

example : shapeDynamicSlice [4, 5] [.int 1, .range (some 0) (some 5) (some 2)] = some [3] ∧
    domEntries [3] [.range (some 2) (some 0) (some (-1))] = true := by decide

/-! ## no two result elements alias one source element (mutable_slice writes are independent) -/

/-- packed encoding: the element map of every valid basic index is injective on the result shape -/
theorem slice_injective (shape : List Nat) (es : List Entry) (h : domEntries shape es = true) (r : List Nat)
    (hr : shapeSlice shape es = some r) (d1 d2 : List Nat) (h1 : InShape d1 r) (h2 : InShape d2 r)
    (e : sliceIdx shape es d1 = sliceIdx shape es d2) : d1 = d2 :=
  (slice_dom shape es h).injective hr h1 h2 e

/-- dynamic encoding: the same -/
theorem dynamic_slice_injective (shape : List Nat) (es : List Entry) (h : domEntries shape es = true) (r : List Nat)
    (hr : shapeDynamicSlice shape es = some r) (d1 d2 : List Nat) (h1 : InShape d1 r) (h2 : InShape d2 r)
    (e : dynamicSlice shape es d1 = dynamicSlice shape es d2) : d1 = d2 :=
  (dynamicSlice_dom shape es h).injective hr h1 h2 e

example : shapeSlice [5, 3] [.range (some 7) (some (-9)) (some (-2)), .range2 (some (-1)) none] = some [3, 1] := by decide

/-! ## the slice view (for C02 / C10) -/

/-- for every valid basic index the slice view exists, has the reference shape and the reference element map -/
theorem sliceView_eq_spec (src : Shape) (es : List Entry) (h : domEntries src es = true) :
    ∃ v s, sliceView src es = some v ∧ specView src es = some s ∧ v.src = src ∧ v.dst = s.dst ∧
      ∀ d, InShape d v.dst → v.map d = s.map d := by
  obtain ⟨sels, h1, _, h2, h3⟩ := slice_dom src es h
  exact ⟨⟨src, specShape sels, fun d => sliceIdx src es d⟩, ⟨src, specShape sels, specIdx sels⟩, by simp [sliceView, h2],
    by simp [specView, h1], rfl, rfl, h3⟩

/-- the indices the slice VIEW produces (not the C++ `slice_indices` of `slice_indices_eq_python`): every access of
    `view::slice` stays inside the source shape (feeds C02) -/
theorem slice_indices_inShape (src : Shape) (es : List Entry) (h : domEntries src es = true) (v : IxView)
    (hv : sliceView src es = some v) : v.InBounds :=
  (slice_dom src es h).inBounds hv

/-- the same for the run-time encoding (`view::apply_slice` with a list of either) -/
theorem dynamic_slice_indices_inShape (src : Shape) (es : List Entry) (h : domEntries src es = true) (v : IxView)
    (hv : dynamicSliceView src es = some v) : v.InBounds :=
  (dynamicSlice_dom src es h).inBounds hv

example : (sliceView [3, 4] [.int (-1), .range2 (some 0) (some 2)]).map (·.provenance) = some [8, 9] := by decide

end NmVerif.Props.C05
