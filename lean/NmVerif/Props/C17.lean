import NmVerif.NN.PoolLemmas
import NmVerif.NN.PoolReduceLemmas
import NmVerif.NN.Conv1dLemmas
import NmVerif.NN.Conv2dLemmas
import NmVerif.NN.ComposeLemmas
import NmVerif.NN.LinearTensordot
import NmVerif.NN.NormLemmas
import NmVerif.NN.AxisLemmas
import NmVerif.NN.ChanLemmas
import NmVerif.NN.GroupNormLemmas
import NmVerif.NN.CosineLemmas
import NmVerif.NN.BilinearLemmas
/-
  C17 — neural-network routines equal their reference (PyTorch) definitions.

  MODEL  NmVerif.NN.Conv (view::convnd pipeline), NmVerif.NN.Pool (index::shape_pool2d, slice_pool2d, pool2d window),
         NmVerif.NN.PoolReduce (pooling results), NmVerif.NN.Compose (softmax, linear, distances, norms, bilinear)
         — the code of /repo with the fixes C17-conv-batch, C17-conv2d-dilation-pair, C17-pool-ceil-window,
         C17-max-pool-initial, C17-conv-groups-interleaved, C17-batch-norm-rank and C17-bilinear-lead-axes applied
  SPEC   NmVerif.NN.Spec
  Floating-point tolerance is the harness's business; these theorems are about shapes and about which source
  elements are combined.
-/
namespace NmVerif.Props.C17
open NmVerif NmVerif.NN

/-! ## pooling -/

/-- `index::shape_pool2d` gives the PyTorch extents on both pooled axes, for any number of leading axes, in floor mode
    (`⌊(n−k)/s⌋+1`) and in ceil mode (`⌈(n−k)/s⌉+1`, minus one when that last window would start at or beyond the end
    of the input), for every positive kernel that fits and every positive stride. -/
theorem pool_out_shape_eq_formula (lead : List Nat) (H W kh kw sh sw : Nat) (ceil : Bool)
    (hH : PoolDom H kh sh) (hW : PoolDom W kw sw) :
    shapePool2d (lead ++ [H, W]) [kh, kw] [sh, sw] ceil
      = some (lead ++ [poolOutSpec H kh sh ceil, poolOutSpec W kw sw ceil]) := by
  rw [shapePool2d_append, poolExtent_eq_spec ceil hH, poolExtent_eq_spec ceil hW]

example : shapePool2d [2, 3, 5, 7] [2, 3] [2, 2] true = some [2, 3, 3, 3] := by decide
/-- the last-window rule fires: extent 4, kernel 1, stride 2, ceil mode gives 2 windows (starts 0, 2), not 3 -/
example : shapePool2d [4, 4] [1, 1] [2, 2] true = some [2, 2] ∧ PoolDom 4 1 2 := by decide

/-- floor mode is exactly `⌊(n + 2·0 − 1·(k−1) − 1)/s⌋ + 1` -/
theorem pool_out_shape_floor (n k s : Nat) : poolOutSpec n k s false = outSize n k s 0 1 := rfl

/-- the source elements `pool2d_t::operator()` hands to the reducer for output index `li ++ [i, j]` are exactly the
    reference window (rows `s_h·i ≤ a < min(s_h·i + k_h, H)`, columns likewise — overhang clipped), in row-major order
    (positive kernel that fits, positive stride, either mode: `PoolDom`). -/
theorem pool_elem_eq_window_reduce (lead li : List Nat) (H W kh kw sh sw i j : Nat) (ceil : Bool)
    (hH : PoolDom H kh sh) (hW : PoolDom W kw sw)
    (hidx : InShape (li ++ [i, j]) (lead ++ [poolExtent H kh sh ceil, poolExtent W kw sw ceil]))
    (hli : InShape li lead) :
    poolWindow (lead ++ [H, W]) [kh, kw] [sh, sw] (li ++ [i, j]) = some (specWindow li H W kh kw sh sw i j) :=
  (poolWindow_spec hli hH hW hidx).1

example : poolWindow [2, 5, 5] [2, 2] [2, 2] [1, 2, 1] = some [[1, 4, 2], [1, 4, 3]] := by decide

/-- every index of the window of every output index lies inside the input (the overhang of ceil mode is clipped, nothing
    is read outside) and the window is non-empty (same domain) -/
theorem pool_window_in_bounds (lead li : List Nat) (H W kh kw sh sw i j : Nat) (ceil : Bool)
    (hH : PoolDom H kh sh) (hW : PoolDom W kw sw)
    (hidx : InShape (li ++ [i, j]) (lead ++ [poolExtent H kh sh ceil, poolExtent W kw sw ceil]))
    (hli : InShape li lead) :
    ∃ win, poolWindow (lead ++ [H, W]) [kh, kw] [sh, sw] (li ++ [i, j]) = some win
      ∧ win ≠ [] ∧ ∀ x ∈ win, InShape x (lead ++ [H, W]) :=
  ⟨_, poolWindow_spec hli hH hW hidx⟩

example : PoolDom 5 3 2 ∧ poolExtent 5 3 2 true = 2 := by decide

/-! ## pooling: the result (reducer applied to the window) -/

open NmVerif.Reduce in
/-- **max_pool2d = left fold of `maximum` over exactly the window, first element as the initial value.**
    For an input `lead ++ [H, W]` of ANY element type with a `<`, every positive kernel that fits, every positive stride,
    floor and ceil mode: the view exists, has the PyTorch shape, and the element at `li ++ [i, j]` is
    `foldl maximum w₀ [w₁, …]` over the values at the reference (clipped) window `specWindow` in row-major order
    (`maximum t u = t > u ? t : u`, `foldFirst … none` = start from the first element — no initial value enters, which
    is what fixes/C17-max-pool-initial repaired) — and it is defined (the window is never empty). -/
theorem max_pool_eq_window_fold {α : Type} [LT α] [DecidableRel (α := α) (· < ·)] (x : Arr α) (lead li : List Nat)
    (H W kh kw sh sw i j : Nat) (ceil : Bool) (hx : x.shape = lead ++ [H, W])
    (hH : PoolDom H kh sh) (hW : PoolDom W kw sw)
    (hidx : InShape (li ++ [i, j]) (lead ++ [poolExtent H kh sh ceil, poolExtent W kw sw ceil]))
    (hli : InShape li lead) :
    ∃ v, maxPool2d x [kh, kw] [sh, sw] ceil = some v ∧
      v.shape = lead ++ [poolOutSpec H kh sh ceil, poolOutSpec W kw sw ceil] ∧
      v.get (li ++ [i, j]) = foldFirst maximum none ((specWindow li H W kh kw sh sw i j).map x.get) ∧
      ∃ y, v.get (li ++ [i, j]) = some y := by
  obtain ⟨hwin, hne, _⟩ := poolWindow_spec hli hH hW hidx
  have hel := maxPoolElem_window x [kh, kw] [sh, sw] (li ++ [i, j])
  rw [hx, hwin, Option.bind_some] at hel
  obtain ⟨y, hy⟩ := Reduce.foldFirst_map_defined maximum x.get hne
  rw [maxPool2d, hx, pool_out_shape_eq_formula lead H W kh kw sh sw ceil hH hW]
  exact ⟨_, rfl, rfl, hel, y, hel.trans hy⟩

/-- non-vacuity: 3×3 input `[[-5,-7,-6],[-9,-8,-4],[-3,-2,-1]]` (all negative: an initial value 0 would win), kernel 2,
    stride 2, ceil mode: windows overhang, output 2×2 = `[[-5,-4],[-2,-1]]` -/
example :
    let x : Arr Int := ⟨[3, 3], fun d => match d with | [a, b] => [-5, -7, -6, -9, -8, -4, -3, -2, -1].getD (3 * a + b) 0 | _ => 0⟩
    (maxPool2d x [2, 2] [2, 2] true).map (fun v => (v.shape, (allIdx v.shape).map v.get))
      = some ([2, 2], [some (-5), some (-4), some (-2), some (-1)]) := by decide

open NmVerif.Reduce in
/-- over the integers (and so for integer-valued data) that fold is the greatest element of the window -/
theorem max_pool_int_is_greatest (x : Arr Int) (lead li : List Nat)
    (H W kh kw sh sw i j : Nat) (ceil : Bool) (hx : x.shape = lead ++ [H, W])
    (hH : PoolDom H kh sh) (hW : PoolDom W kw sw)
    (hidx : InShape (li ++ [i, j]) (lead ++ [poolExtent H kh sh ceil, poolExtent W kw sw ceil]))
    (hli : InShape li lead) :
    ∃ v m, maxPool2d x [kh, kw] [sh, sw] ceil = some v ∧ v.get (li ++ [i, j]) = some m ∧
      (∃ p ∈ specWindow li H W kh kw sh sw i j, x.get p = m) ∧
      ∀ p ∈ specWindow li H W kh kw sh sw i j, x.get p ≤ m := by
  obtain ⟨v, hv, _, hel, m, hm⟩ := max_pool_eq_window_fold x lead li H W kh kw sh sw i j ceil hx hH hW hidx hli
  obtain ⟨hmem, hge⟩ := foldFirst_maximum_int (hel.symm.trans hm)
  exact ⟨v, m, hv, hm, List.mem_map.1 hmem, fun p hp => hge _ (List.mem_map_of_mem hp)⟩

example : PoolDom 3 2 2 ∧ InShape ([] ++ [1, 1]) ([] ++ [poolExtent 3 2 2 true, poolExtent 3 2 2 true]) := by decide

open NmVerif.Reduce in
/-- **avg_pool2d = (sum of the window, folded from its first element in row-major order) / (number of window
    elements).**  `add` and `divn` (division by a count) are abstract operations of the promoted element type.  The
    divisor the code uses (`index::product` of the shape of the *clipped* slice) is the number of elements actually
    inside the input: `(min(s_h·i + k_h, H) − s_h·i) · (min(s_w·j + k_w, W) − s_w·j)` — under ceil-mode overhang it is
    smaller than `k_h·k_w`.  Domain and the other conjuncts as in `max_pool_eq_window_fold`. -/
theorem avg_pool_eq_window_mean {α : Type} (add : α → α → α) (divn : α → Nat → α) (x : Arr α) (lead li : List Nat)
    (H W kh kw sh sw i j : Nat) (ceil : Bool) (hx : x.shape = lead ++ [H, W])
    (hH : PoolDom H kh sh) (hW : PoolDom W kw sw)
    (hidx : InShape (li ++ [i, j]) (lead ++ [poolExtent H kh sh ceil, poolExtent W kw sw ceil]))
    (hli : InShape li lead) :
    ∃ v, avgPool2d add divn x [kh, kw] [sh, sw] ceil = some v ∧
      v.shape = lead ++ [poolOutSpec H kh sh ceil, poolOutSpec W kw sw ceil] ∧
      v.get (li ++ [i, j]) = (foldFirst add none ((specWindow li H W kh kw sh sw i j).map x.get)).map
        (fun S => divn S ((min (sh * i + kh) H - sh * i) * (min (sw * j + kw) W - sw * j))) ∧
      (specWindow li H W kh kw sh sw i j).length = (min (sh * i + kh) H - sh * i) * (min (sw * j + kw) W - sw * j) ∧
      ∃ y, v.get (li ++ [i, j]) = some y := by
  obtain ⟨hwin, hne, _⟩ := poolWindow_spec hli hH hW hidx
  have hel := avgPoolElem_window add divn x [kh, kw] [sh, sw] (li ++ [i, j])
  rw [hx, hwin, Option.bind_some, specWindow_length] at hel
  obtain ⟨S, hS⟩ := Reduce.foldFirst_map_defined add x.get hne
  rw [avgPool2d, hx, pool_out_shape_eq_formula lead H W kh kw sh sw ceil hH hW]
  exact ⟨_, rfl, rfl, hel, specWindow_length .., _, hel.trans (by rw [hS]; rfl)⟩

/-- non-vacuity: 3×3 input `1..9`, kernel 2, stride 2, ceil mode, rational pairs `(numerator, denominator)` as the
    promoted type: the overhanging windows are divided by 2, 2 and 1, not by 4 -/
example :
    let x : Arr (Int × Nat) := ⟨[3, 3], fun d => match d with | [a, b] => ((3 * a + b + 1 : Nat), 1) | _ => (0, 1)⟩
    (avgPool2d (fun p q => (p.1 + q.1, 1)) (fun p n => (p.1, n)) x [2, 2] [2, 2] true).map
        (fun v => (v.shape, (allIdx v.shape).map v.get))
      = some ([2, 2], [some (12, 4), some (9, 2), some (15, 2), some (9, 1)]) := by decide

/-- **the divisor agrees with PyTorch's** (`avg_pool2d` without padding — nmtools has no padding argument): ATen divides
    by `pool_size = (min(h₀ + k_h, H + p) − h₀)(min(w₀ + k_w, W + p) − w₀)` when `count_include_pad`, and by the clipped
    window size otherwise; at `p = 0`, for a window that starts inside the input (`s_h·i < H`, `s_w·j < W` — every output
    index: `NN.pool_start_lt`), both are the number of window elements the code divides by. -/
theorem avg_pool_divisor_eq_torch (li : Idx) (H W kh kw sh sw i j : Nat) (hi : sh * i < H) (hj : sw * j < W) :
    ((specWindow li H W kh kw sh sw i j).length : Int) = torchCountIncl H kh sh 0 i * torchCountIncl W kw sw 0 j ∧
    ((specWindow li H W kh kw sh sw i j).length : Int) = torchCountExcl H kh sh 0 i * torchCountExcl W kw sw 0 j := by
  rw [specWindow_length, Int.natCast_mul]
  obtain ⟨a1, b1⟩ := torchCount_nopad (k := kh) hi
  obtain ⟨a2, b2⟩ := torchCount_nopad (k := kw) hj
  exact ⟨by rw [a1, a2], by rw [b1, b2]⟩

example : ((specWindow [] 3 3 2 2 2 2 1 0).length : Int) = 2 ∧ torchCountIncl 3 2 2 0 1 * torchCountIncl 3 2 2 0 0 = 2 := by decide

/-! ## softmax / softmin (plumbing over an abstract element type with opaque `exp`, `max`, `−`, `+`, `/`) -/

open NmVerif.Reduce in
/-- **softmax over any axis** (negative axes count from the end), any rank, any positive extents, ANY element type and
    element operations: the `view::softmax` composition (`reduce_maximum` keepdims → `subtract` → `exp` → `reduce_add`
    keepdims → `divide`, both keepdims results broadcast back over the axis) exists, has the shape of the input, and the
    element at `i` is `exp(x[i] − M) / S` where, with `L = lineOf shape axis i` = the indices sharing every coordinate
    of `i` except the one on the axis (that coordinate running `0 .. n−1`, in this order),
    `M` is the left fold of `max` over `x[L]` and `S` the left fold of `+` over `exp(x[k] − M)`, `k ∈ L` — exactly those
    elements enter the normalising sum, each once.  Every element is defined. -/
theorem softmax_eq_def {α : Type} (mx sub add div : α → α → α) (exp : α → α) (x : Arr α) (axis : Int)
    (hs : Pos x.shape) (hv : ValidAxis x.shape.length axis) :
    ∃ v, softmax mx sub add div exp (lift x) axis = some v ∧ v.shape = x.shape ∧
      ∀ i, InShape i x.shape →
        (v.get i = (foldFirst mx none ((lineOf x.shape (normAxis x.shape.length axis) i).map x.get)).bind fun M =>
          (foldFirst add none ((lineOf x.shape (normAxis x.shape.length axis) i).map fun k => exp (sub (x.get k) M))).map
            fun S => div (exp (sub (x.get i) M)) S) ∧
        ∃ y, v.get i = some y :=
  softmax_line mx sub add div exp rfl (fun _ _ => rfl) hs axis hv

/-- non-vacuity: shape (2,3), axis −1 (= 1), index (1,2): the line is `[(1,0), (1,1), (1,2)]` -/
example : Pos [2, 3] ∧ Reduce.ValidAxis 2 (-1) ∧ Reduce.normAxis 2 (-1) = 1 ∧ InShape [1, 2] [2, 3] ∧
    lineOf [2, 3] 1 [1, 2] = [[1, 0], [1, 1], [1, 2]] ∧ lineOf [2, 3] 0 [1, 2] = [[0, 2], [1, 2]] := by decide

/-- the composition evaluated on integers with `exp = id`, `/ = Int division`: row `[1, 5, 2]`, axis −1 → `M = 5`,
    terms `[-4, 0, -3]`, `S = -7`, quotients `(-4)/(-7), 0/(-7), (-3)/(-7)` -/
example :
    let x : Arr Int := ⟨[1, 3], fun d => match d with | [_, b] => [1, 5, 2].getD b 0 | _ => 0⟩
    (softmax Reduce.maximum (· - ·) (· + ·) (· / ·) id (lift x) (-1)).map (fun v => (v.shape, (allIdx v.shape).map v.get))
      = some ([1, 3], [some ((-4) / (-7)), some (0 / (-7)), some ((-3) / (-7))]) := by decide +kernel

open NmVerif.Reduce in
/-- **softmin over any axis** = `softmax(negative(x))`: the same statement with every `x[k]` replaced by `neg x[k]` -/
theorem softmin_eq_def {α : Type} (mx sub add div : α → α → α) (exp neg : α → α) (x : Arr α) (axis : Int)
    (hs : Pos x.shape) (hv : ValidAxis x.shape.length axis) :
    ∃ v, softmin mx sub add div exp neg (lift x) axis = some v ∧ v.shape = x.shape ∧
      ∀ i, InShape i x.shape →
        (v.get i = (foldFirst mx none ((lineOf x.shape (normAxis x.shape.length axis) i).map fun k => neg (x.get k))).bind fun M =>
          (foldFirst add none ((lineOf x.shape (normAxis x.shape.length axis) i).map fun k => exp (sub (neg (x.get k)) M))).map
            fun S => div (exp (sub (neg (x.get i)) M)) S) ∧
        ∃ y, v.get i = some y :=
  softmax_line mx sub add div exp rfl (fun _ _ => rfl) hs axis hv

example : Pos [2, 2, 2] ∧ Reduce.ValidAxis 3 (-3) ∧ Reduce.normAxis 3 (-3) = 0 ∧
    lineOf [2, 2, 2] 0 [1, 0, 1] = [[0, 0, 1], [1, 0, 1]] := by decide

open NmVerif.Reduce in
/-- **the stabilised form is the textbook formula** `exp(x[i]) / Σ_{k ∈ L} exp(x[k])` for any element operations that
    satisfy three laws of real arithmetic: `exp(a − m) = exp(a)/exp(m)`, `a/c + b/c = (a+b)/c`,
    `(a/c)/(b/c) = a/b` — the last asked for EVERY `c`, which a total division with `x/0 = 0` (Lean's rationals, Mathlib's reals) does not
    satisfy at `c = 0`, although the proof uses it at `c = exp M` only.  (Floating-point arithmetic satisfies them only
    approximately: that is the harness's tolerance.) -/
theorem softmax_eq_textbook {α : Type} (mx sub add div : α → α → α) (exp : α → α) (x : Arr α) (axis : Int)
    (hs : Pos x.shape) (hv : ValidAxis x.shape.length axis)
    (hexp : ∀ a m, exp (sub a m) = div (exp a) (exp m))
    (hadd : ∀ a b c, add (div a c) (div b c) = div (add a b) c)
    (hdiv : ∀ a b c, div (div a c) (div b c) = div a b) :
    ∃ v, softmax mx sub add div exp (lift x) axis = some v ∧ v.shape = x.shape ∧
      ∀ i, InShape i x.shape →
        v.get i = (foldFirst add none ((lineOf x.shape (normAxis x.shape.length axis) i).map fun k => exp (x.get k))).map
          fun S => div (exp (x.get i)) S := by
  obtain ⟨v, h1, h2, h3⟩ := softmax_eq_def mx sub add div exp x axis hs hv
  refine ⟨v, h1, h2, fun i hi => ?_⟩
  obtain ⟨he, y, hy⟩ := h3 i hi
  -- the element is defined, so the maximum `M` of its line is
  obtain ⟨M, hM, -⟩ := Option.bind_eq_some_iff.1 (he ▸ hy)
  rw [he, hM, Option.bind_some]
  have hmap : (lineOf x.shape (normAxis x.shape.length axis) i).map (fun k => exp (sub (x.get k) M))
      = ((lineOf x.shape (normAxis x.shape.length axis) i).map (fun k => exp (x.get k))).map (div · (exp M)) := by
    rw [List.map_map]; apply List.map_congr_left; intro k _; exact hexp _ _
  rw [hmap, foldFirst_div_distrib add div (exp M) (fun a b => hadd a b (exp M)), Option.map_map]
  congr 1
  funext S
  simp only [Function.comp, hexp, hdiv]

/-! ## linear -/

/-- **linear: `y[p, o] = Σ_i x[p, i] · w[o, i] (+ b[o])`** for an input `lead ++ [I]` of any rank, a weight `[O, I]` and an
    optional bias `[O]`, any positive extents, abstract `add` / `mul`: `view::linear` = `tensordot(input, weight,
    ((-1),(-1)))` (C16 model: transpose, reshape, broadcast multiply, `sum` over the last axis) `+ bias` (C06/C07
    broadcast) exists, has the shape `lead ++ [O]`, and the element at `p ++ [o]` is the left fold of `add`, from the
    first product, over exactly the products `x[p, i] · w[o, i]`, `i = 0 .. I−1` in this order, with `b[o]` added to the
    finished sum. -/
theorem linear_eq_def {α : Type} (add mul : α → α → α) (x w : Arr α) (bias : Option (Arr α)) (lead : Shape)
    (I O : Nat) (hx : x.shape = lead ++ [I]) (hw : w.shape = [O, I]) (hb : ∀ b, bias = some b → b.shape = [O])
    (hp : Pos (lead ++ [O])) :
    ∃ v, linear add mul x w bias = some v ∧ v.shape = lead ++ [O] ∧ ∀ p o, InShape p lead → o < O →
      v.get (p ++ [o]) = match bias with
        | none => Reduce.foldFirst add none ((List.range I).map fun i => mul (x.get (p ++ [i])) (w.get [o, i]))
        | some b => (Reduce.foldFirst add none ((List.range I).map fun i => mul (x.get (p ++ [i])) (w.get [o, i]))).map
                      (fun S => add S (b.get [o])) := by
  obtain ⟨r, hr1, hr2, hr3⟩ := tensordot_last_terms lead I O (hp O (by simp))
  rw [← hx, ← hw] at hr1
  obtain ⟨v, h1, h2, h3⟩ := bin_opt_bias add
    ⟨r.shape, fun d => Reduce.foldFirst add none ((r.get d).map fun tm => mul (x.get tm.1) (w.get tm.2))⟩ bias lead O hr2 hp hb
  refine ⟨v, by simp only [linear, tensordotVal, hr1, Option.map_some, Option.bind_some]; exact h1, h2, fun p o hpi ho => ?_⟩
  refine h3 p o _ hpi ho (congrArg (Reduce.foldFirst add none) ?_)
  rw [hr3 p o hpi ho, List.map_map]
  rfl

/-- when the contracted extent is positive every element is defined -/
theorem linear_defined {α : Type} (add mul : α → α → α) (x w : Arr α) (bias : Option (Arr α)) (lead : Shape)
    (I O : Nat) (hx : x.shape = lead ++ [I]) (hw : w.shape = [O, I]) (hb : ∀ b, bias = some b → b.shape = [O])
    (hp : Pos (lead ++ [O])) (hI : 0 < I) :
    ∃ v, linear add mul x w bias = some v ∧ ∀ p o, InShape p lead → o < O → ∃ y, v.get (p ++ [o]) = some y := by
  obtain ⟨v, h1, _, h3⟩ := linear_eq_def add mul x w bias lead I O hx hw hb hp
  refine ⟨v, h1, fun p o hpi ho => ?_⟩
  obtain ⟨S, hS⟩ := Reduce.foldFirst_map_defined add (fun i => mul (x.get (p ++ [i])) (w.get [o, i])) (mt List.range_eq_nil.1 (Nat.ne_of_gt hI))
  rw [h3 p o hpi ho]
  cases bias with
  | none => exact ⟨S, hS⟩
  | some b => exact ⟨add S (b.get [o]), by simp only [hS]; rfl⟩

/-- non-vacuity: input (2,3), weight (2,3), bias (2): `y[1,0] = (x[1,0]·w[0,0] + x[1,1]·w[0,1] + x[1,2]·w[0,2]) + b[0]`
    = `(4·1 + 5·2 + 6·3) + 10` -/
example :
    let x : Arr Int := ⟨[2, 3], fun d => match d with | [a, b] => (3 * a + b + 1 : Nat) | _ => 0⟩
    let w : Arr Int := ⟨[2, 3], fun d => match d with | [a, b] => (3 * a + b + 1 : Nat) | _ => 0⟩
    let b : Arr Int := ⟨[2], fun d => match d with | [a] => (10 * (a + 1) : Nat) | _ => 0⟩
    (linear (· + ·) (· * ·) x w (some b)).map (fun v => (v.shape, v.get [1, 0])) = some ([2, 2], some 42) := by decide

/-! ## normalisations -/

open NmVerif.Reduce in
/-- **layer_norm: which elements enter the mean and the variance, and what is done with them.**  Input `lead ++ ns`
    of any rank and positive extents, weight and bias of shape `ns` (the normalised trailing axes, any number of them),
    abstract element operations.  The `view::layer_norm` composition (`mean` and `var` over the axes `−k .. −1` with
    keepdims, both broadcast back, `sqrt(var + eps)`, divide, weight, bias) exists, keeps the shape, and the element at
    `p ++ q` is
    `((x[p,q] − μ) / sqrt(V/n + eps)) · w[q] + b[q]` where the statistics are taken over exactly the `n = ∏ ns` elements
    `x[p, r]`, `r` running over all of `ns` in row-major order: `μ = (Σ x[p,r]) / n`, `V = Σ |x[p,r] − μ|²`
    (`normAt`).  Every element is defined. -/
theorem layer_norm_eq_def {α : Type} (add sub mul div : α → α → α) (sqabs sqrt : α → α) (divn : α → Nat → α) (eps : α)
    (x w b : Arr α) (lead ns : Shape) (hx : x.shape = lead ++ ns) (hw : w.shape = ns) (hb : b.shape = ns)
    (hp : Pos (lead ++ ns)) :
    ∃ v, layerNorm add sub mul div sqabs sqrt divn eps x w b = some v ∧ v.shape = lead ++ ns ∧
      ∀ p q, InShape p lead → InShape q ns →
        (v.get (p ++ q) = (normAt add sub div sqabs sqrt divn eps x.get ((allIdx ns).map (p ++ ·)) (p ++ q)).map
          fun y => add (mul y (w.get q)) (b.get q)) ∧
        ∃ y, v.get (p ++ q) = some y := by
  obtain ⟨nrm, hn1, hn2, hn3⟩ := normCore_trailing add sub div sqabs sqrt divn eps x lead ns hx hp
  obtain ⟨pm, hm1, hm2, hm3⟩ := bin_trailing mul hn2 hp hw
  obtain ⟨v, ha1, ha2, ha3⟩ := bin_trailing add hm2 hp hb
  refine ⟨v, by simp only [layerNorm, hw, hn1, hm1, Option.bind_some]; exact ha1, ha2, fun p q hpi hq => ?_⟩
  exact normAt_affine (hn3 p q hpi hq) (hm3 p q hpi hq) (ha3 p q hpi hq) (map_allIdx_ne_nil hq _)

/-- non-vacuity: input (2,2,3), normalised shape (2,3): the block of `[1] ++ [0,2]` is all six `[1, r₀, r₁]` -/
example : Pos ([2] ++ [2, 3]) ∧ InShape [1] [2] ∧ InShape [0, 2] [2, 3] ∧
    (allIdx [2, 3]).map ([1] ++ ·) = [[1, 0, 0], [1, 0, 1], [1, 0, 2], [1, 1, 0], [1, 1, 1], [1, 1, 2]] := by decide

/-- the composition evaluated on integers with `divn = Int division`,
    `sqrt = id`, `eps = 1`: row `[1, 2, 6]` → `μ = 3`, `V = 4+1+9 = 14`, `V/3 + 1 = 5`, `(x − 3)/5·w + b` -/
example :
    let x : Arr Int := ⟨[1, 3], fun d => match d with | [_, b] => [1, 2, 6].getD b 0 | _ => 0⟩
    let w : Arr Int := ⟨[3], fun _ => 10⟩
    let b : Arr Int := ⟨[3], fun d => match d with | [a] => (a : Int) | _ => 0⟩
    (layerNorm (· + ·) (· - ·) (· * ·) (· / ·) (fun t => t * t) id (fun (s : Int) (n : Nat) => s / (n : Int)) 1 x w b).map
        (fun v => (v.shape, (allIdx v.shape).map v.get))
      = some ([1, 3], [some ((1 - 3) / 5 * 10 + 0), some ((2 - 3) / 5 * 10 + 1), some ((6 - 3) / 5 * 10 + 2)]) := by decide +kernel

/-- **batch_norm (inference form) on an input `(N, C) ++ sp` of ANY rank ≥ 2** (`sp` = no, one, two, … spatial axes;
    positive extents) with per-channel `mean`, `var`, `weight`, `bias` of shape `(C)`: the composition (each parameter through
    `atleast_nd(·, dim(input) − 1)` and `moveaxis(·, −1, 0)`, i.e. shape `(C, 1, …, 1)`, then element-wise with
    broadcasting) exists, keeps the shape, and
    `out[n, c, q] = ((x[n, c, q] − mean[c]) / sqrt(var[c] + eps)) · weight[c] + bias[c]` — the parameters of the element's
    own channel (axis 1, as PyTorch's `batch_norm`), abstract element operations. -/
theorem batch_norm_eq_def {α : Type} (add sub mul div : α → α → α) (sqrt : α → α) (eps : α) (x m v w b : Arr α)
    (N C : Nat) (sp : Shape) (hx : x.shape = [N, C] ++ sp) (hm : m.shape = [C]) (hv : v.shape = [C]) (hw : w.shape = [C])
    (hb : b.shape = [C]) (hp : Pos ([N, C] ++ sp)) :
    ∃ r, batchNorm add sub mul div sqrt eps x m v w b = some r ∧ r.shape = [N, C] ++ sp ∧
      ∀ n c q, n < N → c < C → InShape q sp →
        r.get ([n, c] ++ q) = some (add (mul (div (sub (x.get ([n, c] ++ q)) (m.get [c])) (sqrt (add (v.get [c]) eps)))
          (w.get [c])) (b.get [c])) := by
  have hnd : batchNormNd x.shape.length = sp.length + 1 := by rw [hx]; exact batchNormNd_eq sp.length
  obtain ⟨w', -, hw1, hw2, hw3⟩ := chanParam_spec w C sp.length hw
  obtain ⟨b', -, hb1, hb2, hb3⟩ := chanParam_spec b C sp.length hb
  obtain ⟨m', -, hm1, hm2, hm3⟩ := chanParam_spec m C sp.length hm
  obtain ⟨v', -, hv1, hv2, hv3⟩ := chanParam_spec v C sp.length hv
  have hsd : ∀ c, c < C → (un (fun t => sqrt (add t eps)) v').get (c :: List.replicate sp.length 0) = some (sqrt (add (v.get [c]) eps)) :=
    fun c hc => congrArg (Option.map _) (hv3 c hc)
  obtain ⟨s1, hs1, hs2, hs3⟩ := bin_chanE sub (a := lift x) false hp hx hm2 hm3
  obtain ⟨d1, hd1, hd2, hd3⟩ := bin_chanE div (q := un (fun t => sqrt (add t eps)) v') false hp hs2 hv2 hsd
  obtain ⟨p1, hp1, hp2, hp3⟩ := bin_chanE mul false hp hd2 hw2 hw3
  obtain ⟨r, hr1, hr2, hr3⟩ := bin_chanE add false hp hp2 hb2 hb3
  refine ⟨r, by simp only [batchNorm, hnd, hw1, hb1, hm1, hv1, hs1, hd1, hp1, Option.bind_some]; exact hr1, hr2,
    fun n c q hn hc hq => ?_⟩
  rw [hr3 n c q hn hc hq, hp3 n c q hn hc hq, hd3 n c q hn hc hq, hs3 n c q hn hc hq]
  rfl

/-- non-vacuity: a `(N, C)` input, a `(N, C, L)` input and a `(N, C, D, H, W)` input -/
example : Pos ([2, 3] ++ []) ∧ Pos ([2, 3] ++ [4]) ∧ Pos ([1, 2] ++ [2, 1, 3]) ∧ InShape [1, 0, 2] [2, 1, 3] := by decide

/-- the rank-4 instance `(N, C, H, W)` -/
theorem batch_norm_nchw_eq_def {α : Type} (add sub mul div : α → α → α) (sqrt : α → α) (eps : α) (x m v w b : Arr α)
    (N C H W : Nat) (hx : x.shape = [N, C, H, W]) (hm : m.shape = [C]) (hv : v.shape = [C]) (hw : w.shape = [C])
    (hb : b.shape = [C]) (hN : 0 < N) (hC : 0 < C) (hH : 0 < H) (hW : 0 < W) :
    ∃ r, batchNorm add sub mul div sqrt eps x m v w b = some r ∧ r.shape = [N, C, H, W] ∧
      ∀ n c h w', n < N → c < C → h < H → w' < W →
        r.get [n, c, h, w'] = some (add (mul (div (sub (x.get [n, c, h, w']) (m.get [c])) (sqrt (add (v.get [c]) eps)))
          (w.get [c])) (b.get [c])) := by
  have hp : Pos ([N, C] ++ [H, W]) := Pos.cons hN (Pos.cons hC (Pos.cons hH (Pos.cons hW Shape.pos_nil)))
  obtain ⟨r, h1, h2, h3⟩ := batch_norm_eq_def add sub mul div sqrt eps x m v w b N C [H, W] hx hm hv hw hb hp
  exact ⟨r, h1, h2, fun n c h w' hn hc hh hw'' => h3 n c [h, w'] hn hc ⟨hh, hw'', trivial⟩⟩

example : ([1, 2, 2, 3] : Shape) = [1, 2, 2, 3] ∧ (0 < 1 ∧ 0 < 2 ∧ 0 < 2 ∧ 0 < 3) := by decide

/-- regression instance for the repaired defect batch_norm.rank-not-4 (fixes/C17-batch-norm-rank): on a `(N, C) = (1, 2)`
    input `x = [[1, 2]]` with `mean = (0, 10)`, `var + eps` and `weight` 1, `bias = (0, 100)` the result keeps the shape
    `(1, 2)` and element `[0, 1]` is `(2 − 10)/1·1 + 100 = 92` — the parameters of channel 1.  Before the repair
    (`batchNormOld`: parameters always moved to axis −3 of three, i.e. `(2, 1, 1)`) the result had the shape `(2, 1, 2)`. -/
theorem batch_norm_rank2_regression :
    let x : Arr Int := ⟨[1, 2], fun d => match d with | [_, c] => (c + 1 : Nat) | _ => 0⟩
    let one : Arr Int := ⟨[2], fun _ => 1⟩
    let mean : Arr Int := ⟨[2], fun d => match d with | [c] => (10 * c : Nat) | _ => 0⟩
    let bias : Arr Int := ⟨[2], fun d => match d with | [c] => (100 * c : Nat) | _ => 0⟩
    (batchNorm (· + ·) (· - ·) (· * ·) (· / ·) id 0 x mean one one bias).map (fun r => (r.shape, (allIdx r.shape).map r.get))
        = some ([1, 2], [some 1, some 92])
      ∧ (batchNormOld (· + ·) (· - ·) (· * ·) (· / ·) id 0 x mean one one bias).map (fun r => r.shape) = some [2, 1, 2]
      ∧ x.shape = [1, 2] := by
  decide +kernel

/-- … and on a `(N, C, L) = (1, 2, 2)` input: element `[0, 1, 0]` takes the parameters of channel 1 -/
example :
    let x : Arr Int := ⟨[1, 2, 2], fun d => match d with | [_, c, l] => (2 * c + l + 1 : Nat) | _ => 0⟩
    let one : Arr Int := ⟨[2], fun _ => 1⟩
    let mean : Arr Int := ⟨[2], fun d => match d with | [c] => (10 * c : Nat) | _ => 0⟩
    let bias : Arr Int := ⟨[2], fun d => match d with | [c] => (100 * c : Nat) | _ => 0⟩
    (batchNorm (· + ·) (· - ·) (· * ·) (· / ·) id 0 x mean one one bias).map (fun r => (r.shape, (allIdx r.shape).map r.get))
        = some ([1, 2, 2], [some 1, some 2, some 93, some 94]) := by
  decide +kernel

/-! ## pairwise_distance -/

open NmVerif.Reduce in
/-- **pairwise_distance = ‖a − b + eps‖ over the last axis** (`vector_norm` with `pre x = |x|^ord`, `post y = y^(1/ord)`,
    both abstract), operands of any ranks and positive extents that broadcast to `lead ++ [D]`, keepdims either way: the
    composition exists, has the shape `lead` (resp. `lead ++ [1]`), and the element at `p` (resp. `p ++ [0]`) is
    `post (Σ_{k < D} pre ((a[p,k] − b[p,k]) + eps))` — a left fold from the first term, `k` increasing, each operand
    read at its NumPy broadcast position. -/
theorem pairwise_distance_eq_def {α : Type} (add sub : α → α → α) (pre post : α → α) (eps : α) (a b : Arr α)
    (lead : Shape) (D : Nat) (keep : Bool) (hpa : Pos a.shape) (hpb : Pos b.shape)
    (hbr : broadcastShape2 a.shape b.shape = some (lead ++ [D])) :
    ∃ v, pairwiseDistance add sub pre post eps a b keep = some v ∧ v.shape = (if keep then lead ++ [1] else lead) ∧
      ∀ p, InShape p lead →
        v.get (if keep then p ++ [0] else p) =
          (foldFirst add none ((List.range D).map fun k =>
            pre (add (sub (a.get (specBroadcastIdx a.shape (p ++ [k]))) (b.get (specBroadcastIdx b.shape (p ++ [k])))) eps))).map post := by
  obtain ⟨d, hd1, hd2, hd3⟩ := bin_spec sub (a := lift a) (b := lift b) rfl rfl hpa hpb hbr
  obtain ⟨v, hv1, hv2, hv3⟩ := red_last add (a := un pre (un (fun t => add t eps) d)) hd2 keep
  refine ⟨un post v, by simp only [pairwiseDistance, hd1, Option.bind_some, vectorNormO, hv1, Option.map_some], hv2, fun p hp => ?_⟩
  show (v.get _).map post = _
  rw [hv3 p hp]
  refine congrArg (Option.map post) (.trans (congrArg (fun l => (foldFirst (optOp add) none l).join)
    (List.map_congr_left fun k hk => ?_)) (foldFirst_optOp_some add _ _))
  show ((d.get (p ++ [k])).map _).map pre = _
  rw [hd3 _ (Shape.inShape_append hp (show InShape [k] [D] from ⟨List.mem_range.1 hk, trivial⟩))]
  rfl

/-- non-vacuity: `(2,3)` against `(3)` broadcasts to `[2] ++ [3]`; row 1 of the first operand against the second -/
example : Pos [2, 3] ∧ Pos [3] ∧ broadcastShape2 [2, 3] [3] = some ([2] ++ [3]) ∧
    specBroadcastIdx [2, 3] ([1] ++ [2]) = [1, 2] ∧ specBroadcastIdx [3] ([1] ++ [2]) = [2] := by decide

example :
    let a : Arr Int := ⟨[2, 3], fun d => match d with | [r, c] => (3 * r + c : Nat) | _ => 0⟩
    let b : Arr Int := ⟨[3], fun _ => 1⟩
    (pairwiseDistance (· + ·) (· - ·) (fun t => t * t) id 0 a b false).map (fun v => (v.shape, (allIdx v.shape).map v.get))
      = some ([2], [some ((0-1)*(0-1) + (1-1)*(1-1) + (2-1)*(2-1)), some ((3-1)*(3-1) + (4-1)*(4-1) + (5-1)*(5-1))]) := by decide +kernel

/-- **instance_norm** (1d / 2d / 3d are `ND = |sp|` = 1, 2, 3; the statement holds for every number of spatial axes):
    input `(N, C) ++ sp` with positive extents, weight and bias `(C)`.  The statistics of the element `[n, c] ++ q` are
    taken over exactly the spatial block of its own sample and channel — the `∏ sp` elements `x[n, c, r]`, `r` over all of
    `sp` in row-major order — and the affine parameters are those of channel `c` (moved to axis `−ND−1` by `atleast_nd` + `moveaxis`):
    `((x[n,c,q] − μ) / sqrt(V/|sp| + eps)) · w[c] + b[c]`. -/
theorem instance_norm_eq_def {α : Type} (add sub mul div : α → α → α) (sqabs sqrt : α → α) (divn : α → Nat → α) (eps : α)
    (x w b : Arr α) (N C : Nat) (sp : Shape) (hx : x.shape = [N, C] ++ sp) (hw : w.shape = [C]) (hb : b.shape = [C])
    (hp : Pos ([N, C] ++ sp)) :
    ∃ v, instanceNorm add sub mul div sqabs sqrt divn eps x w b sp.length = some v ∧ v.shape = [N, C] ++ sp ∧
      ∀ n c q, n < N → c < C → InShape q sp →
        (v.get ([n, c] ++ q) = (normAt add sub div sqabs sqrt divn eps x.get ((allIdx sp).map ([n, c] ++ ·)) ([n, c] ++ q)).map
          fun y => add (mul y (w.get [c])) (b.get [c])) ∧
        ∃ y, v.get ([n, c] ++ q) = some y := by
  obtain ⟨w', hw1, -, hw2, hw3⟩ := chanParam_spec w C sp.length hw
  obtain ⟨b', hb1, -, hb2, hb3⟩ := chanParam_spec b C sp.length hb
  obtain ⟨nrm, hn1, hn2, hn3⟩ := normCore_trailing add sub div sqabs sqrt divn eps x [N, C] sp hx hp
  obtain ⟨pm, hm1, hm2, hm3⟩ := bin_chanE mul false hp hn2 hw2 hw3
  obtain ⟨v, ha1, ha2, ha3⟩ := bin_chanE add false hp hm2 hb2 hb3
  refine ⟨v, by simp only [instanceNorm, hw1, hb1, hn1, hm1, Option.bind_some]; exact ha1, ha2, fun n c q hn hc hq => ?_⟩
  exact normAt_affine (hn3 [n, c] q ⟨hn, hc, trivial⟩ hq) (hm3 n c q hn hc hq) (ha3 n c q hn hc hq) (map_allIdx_ne_nil hq _)

/-- non-vacuity (2d): input (2,3,2,2), element `[1,2] ++ [0,1]` takes its statistics over the four `[1,2,r₀,r₁]` -/
example : Pos ([2, 3] ++ [2, 2]) ∧ InShape [0, 1] [2, 2] ∧
    (allIdx [2, 2]).map ([1, 2] ++ ·) = [[1, 2, 0, 0], [1, 2, 0, 1], [1, 2, 1, 0], [1, 2, 1, 1]] := by decide

/-- **group_norm**: input `(N, G·cg) ++ sp` (`G` groups of `cg` consecutive channels, any spatial axes, possibly none;
    positive extents), weight and bias `(G·cg)`.  The composition (reshape to `(N, G, cg) ++ sp`, mean / var over the
    axes `2 ..` with keepdims, normalise, reshape back, per-channel weight and bias reshaped to `(1, C, 1, …, 1)`) exists, keeps the
    shape, and the element `[n, c] ++ q` is `((x[n,c,q] − μ) / sqrt(V/m + eps)) · w[c] + b[c]` with the statistics taken
    over exactly the `m = cg · ∏ sp` elements `x[n, (c / cg)·cg + j, r]`, `j < cg`, `r` over `sp` — the channels of the
    group `c / cg` of sample `n`, in row-major order (PyTorch's consecutive-channel groups). -/
theorem group_norm_eq_def {α : Type} (add sub mul div : α → α → α) (sqabs sqrt : α → α) (divn : α → Nat → α) (eps : α)
    (x w b : Arr α) (N G cg : Nat) (sp : Shape) (hx : x.shape = [N, G * cg] ++ sp) (hw : w.shape = [G * cg])
    (hb : b.shape = [G * cg]) (hp : Pos ([N, G * cg] ++ sp)) :
    ∃ v, groupNorm add sub mul div sqabs sqrt divn eps x w b G = some v ∧ v.shape = [N, G * cg] ++ sp ∧
      ∀ n c q, n < N → c < G * cg → InShape q sp →
        (v.get ([n, c] ++ q) = (normAt add sub div sqabs sqrt divn eps x.get
            ((List.range cg).flatMap fun j => (allIdx sp).map fun r => [n, c / cg * cg + j] ++ r) ([n, c] ++ q)).map
          fun y => add (mul y (w.get [c])) (b.get [c])) ∧
        ∃ y, v.get ([n, c] ++ q) = some y := by
  have hC : 0 < G * cg := hp _ (by simp)
  have hG : 0 < G := Nat.pos_of_mul_pos_right hC
  have hcg : 0 < cg := Nat.pos_of_mul_pos_left hC
  have hN : 0 < N := hp _ (by simp)
  have hpsp : Pos sp := fun z hz => hp z (by simp [hz])
  obtain ⟨xg, hg1, hg2, hg3⟩ := reshape_split x N G cg sp hx
  obtain ⟨w', hw1, hw2, hw3⟩ := reshape_1C w (G * cg) sp.length hw
  obtain ⟨b', hb1, hb2, hb3⟩ := reshape_1C b (G * cg) sp.length hb
  have hgs := groupNormReshape_eq hx hG
  have hws := groupNormArgsReshape_eq hx hw
  have hpg : Pos ([N, G] ++ cg :: sp) := Pos.cons hN (Pos.cons hG (Pos.cons hcg hpsp))
  obtain ⟨nrm, hn1, hn2, hn3⟩ := normCore_block add sub div sqabs sqrt divn eps xg [N, G] (cg :: sp) _ hg2 hpg
    (groupNormAxis_valid N (G * cg) G cg sp)
  obtain ⟨nr, hr1, hr2, hr3⟩ := reshape_merge nrm N G cg sp hn2
  obtain ⟨pm, hm1, hm2, hm3⟩ := bin_chanE mul true hp hr2 hw2 hw3
  obtain ⟨v, ha1, ha2, ha3⟩ := bin_chanE add true hp hm2 hb2 hb3
  refine ⟨v, ?_, ha2, fun n c q hn hc hq => ?_⟩
  · rw [← hx] at hr1 hn1
    simp only [groupNorm, hgs, hws, hg1, hw1, hb1, hn1, hr1, hm1, Option.bind_some]
    exact ha1
  · -- in the coordinates of the reshape, `c = g·cg + j` (the `c / cg` of the statement is `g`)
    obtain ⟨g, j, hg, hj, rfl⟩ : ∃ g j, g < G ∧ j < cg ∧ c = g * cg + j :=
      ⟨c / cg, c % cg, Nat.div_lt_of_lt_mul (Nat.mul_comm G cg ▸ hc), Nat.mod_lt _ hcg, (Nat.div_add_mod' c cg).symm⟩
    rw [Nat.div_eq_of_lt_le (Nat.le_add_right _ _) (Nat.succ_mul g cg ▸ Nat.add_lt_add_left hj _)]
    have hjq : InShape (j :: q) (cg :: sp) := ⟨hj, hq⟩
    have hmapG : ((allIdx (cg :: sp)).map ([n, g] ++ ·)).map (mergeChan cg)
        = (List.range cg).flatMap fun j => (allIdx sp).map fun r => [n, g * cg + j] ++ r := by
      simp only [allIdx, List.map_flatMap, List.map_map]
      rfl
    -- the statistics of the reshaped input, translated back to `x`
    have hnorm := (hn3 [n, g] (j :: q) ⟨hn, hg, trivial⟩ hjq).trans (normAt_reindex x.get (mergeChan cg)
      (by
        intro k hk
        simp only [List.mem_map] at hk
        obtain ⟨jr, hjr, rfl⟩ := hk
        have hjr' := (Shape.mem_allIdx_iff (cg :: sp) jr).1 hjr
        cases jr with
        | nil => simp [InShape] at hjr'
        | cons j r => exact hg3 n g j r hn hg hjr'.1 hjr'.2)
      (hg3 n g j q hn hg hj hq))
    rw [hmapG] at hnorm
    exact normAt_affine ((hr3 n g j q hn hg hj hq).trans hnorm) (hm3 n _ q hn hc hq) (ha3 n _ q hn hc hq)
      (by rw [← hmapG, List.map_map]; exact map_allIdx_ne_nil hjq _)

/-- non-vacuity: C = 4 = 2·2, spatial (2): element `[0, 3] ++ [1]` (group 1) takes its statistics over
    `x[0,2,·]` and `x[0,3,·]` -/
example : Pos ([1, 2 * 2] ++ [2]) ∧ 3 < 2 * 2 ∧ InShape [1] [2] ∧
    ((List.range 2).flatMap fun j => (allIdx [2]).map fun r => [0, 3 / 2 * 2 + j] ++ r) = [[0, 2, 0], [0, 2, 1], [0, 3, 0], [0, 3, 1]] := by
  decide

/-! ## cosine_similarity -/

open NmVerif.Reduce in
/-- **cosine_similarity over any axis** (negative included) of operands with positive extents that broadcast to `r`: the
    composition (`broadcast_arrays`, two keepdims `vector_norm`s clamped by `maximum(·, eps)`, `multiply`, `divide`, `sum` over the
    axis) exists, has the shape `r` without the axis, and the element at `j` is
    `Σ_{i ∈ L} (a[i]·b[i]) / (max(‖a‖_L, eps) · max(‖b‖_L, eps))`, where `L` is `j` with the coordinate `0 .. n−1`
    inserted at the axis (exactly the line of `j`, in order) and `‖a‖_L = post(Σ_{i ∈ L} pre(a[i]))` is taken over that
    same line (`pre x = |x|²`, `post = sqrt`, abstract here); operands read at their NumPy broadcast positions. -/
theorem cosine_similarity_eq_def {α : Type} (add mul div mx : α → α → α) (pre post : α → α) (eps : α) (x y : Arr α)
    (r : Shape) (axis : Int) (n : Nat) (hx : Pos x.shape) (hy : Pos y.shape)
    (hr : broadcastShape2 x.shape y.shape = some r) (hv : ValidAxis r.length axis)
    (hn : r[normAxis r.length axis]? = some n) :
    ∃ v, cosineSimilarity add mul div mx pre post eps x y axis = some v ∧
      v.shape = specShape r [normAxis r.length axis] false ∧
      ∀ j, InShape j (specShape r [normAxis r.length axis] false) →
        v.get j =
          (foldFirst add none (((List.range n).map (insAt j (normAxis r.length axis) ·)).map fun i =>
              pre (x.get (specBroadcastIdx x.shape i)))).bind fun SA =>
          (foldFirst add none (((List.range n).map (insAt j (normAxis r.length axis) ·)).map fun i =>
              pre (y.get (specBroadcastIdx y.shape i)))).bind fun SB =>
          foldFirst add none (((List.range n).map (insAt j (normAxis r.length axis) ·)).map fun i =>
            div (mul (x.get (specBroadcastIdx x.shape i)) (y.get (specBroadcastIdx y.shape i)))
              (mul (mx (post SA) eps) (mx (post SB) eps))) := by
  have hpr : Pos r := bc2_pos hx hy hr
  have hpK := pos_specShape_keep r [normAxis r.length axis] hpr
  obtain ⟨a, b, hab, has, hbs, ha, hb⟩ := broadcast2_spec x y r hx hy hr
  obtain ⟨na, hna1, hna2, hna3⟩ := clampNorm_back add mx pre post eps has ha axis hv
  obtain ⟨nb, hnb1, hnb2, hnb3⟩ := clampNorm_back add mx pre post eps hbs hb axis hv
  obtain ⟨num, hnum1, hnum2, hnum3⟩ := bin_spec mul has hbs hpr hpr (NmVerif.Props.C06.broadcast_idem r)
  obtain ⟨den, hden1, hden2, hden3⟩ := bin_spec mul (a := un (fun t => mx t eps) na) (b := un (fun t => mx t eps) nb)
    hna2 hnb2 hpK hpK (NmVerif.Props.C06.broadcast_idem _)
  obtain ⟨q, hq1, hq2, hq3⟩ := bin_back div hnum2 hpr hden2
  obtain ⟨v, hv1, hv2, hv3⟩ := red_spec add axis false hq2 hv
  refine ⟨v, ?_, hv2, fun j hj => ?_⟩
  · simp only [cosineSimilarity, hab, Option.bind_some, hna1, hnb1, hnum1, hden1, hq1]
    exact hv1
  · rw [hv3 j hj]
    have hL := addressed_false_single r (normAxis r.length axis) n hn j hj
    have hn0 : 0 < n := hpr n (List.mem_of_getElem? hn)
    have hLne : (List.range n).map (insAt j (normAxis r.length axis) ·) ≠ [] :=
      mt List.map_eq_nil_iff.1 (List.range_ne_nil.2 (Nat.ne_of_gt hn0))
    obtain ⟨SA, hSA⟩ := foldFirst_map_defined add (fun i => pre (x.get (specBroadcastIdx x.shape i))) hLne
    obtain ⟨SB, hSB⟩ := foldFirst_map_defined add (fun i => pre (y.get (specBroadcastIdx y.shape i))) hLne
    have hqe : ∀ i ∈ addressed r [normAxis r.length axis] false j,
        q.get i = some (div (mul (x.get (specBroadcastIdx x.shape i)) (y.get (specBroadcastIdx y.shape i)))
          (mul (mx (post SA) eps) (mx (post SB) eps))) := by
      intro i hi
      have hiS : InShape i r := mem_allIdx_inShape (List.mem_filter.1 hi).1
      -- every `i` on the line of `j` has that line as its group: both clamped norms are the same `SA`, `SB` all along it
      have hgrp : grp r [normAxis r.length axis] i = (List.range n).map (insAt j (normAxis r.length axis) ·) := by
        rw [grp, addressed_true_proj r _ false j i hi, hL]
      have hpi := proj_true_inShape r [normAxis r.length axis] i hiS
      rw [hq3 i hiS, hnum3 i hiS, specBroadcastIdx_self _ i hiS, ha i hiS, hb i hiS, hden3 _ hpi, specBroadcastIdx_self _ _ hpi,
        hna3 i hiS, hnb3 i hiS, hgrp, hSA, hSB]
      rfl
    rw [List.map_congr_left hqe, hL, foldFirst_optOp_some, hSA, hSB]
    rfl

/-- non-vacuity: `(2,3)` with `(3)` (broadcast), axis −1: result shape `(2)`, the line of `[1]` is `[1,0], [1,1], [1,2]` -/
example : Pos [2, 3] ∧ Pos [3] ∧ broadcastShape2 [2, 3] [3] = some [2, 3] ∧ Reduce.ValidAxis 2 (-1) ∧
    [2, 3][Reduce.normAxis 2 (-1)]? = some 3 ∧ Reduce.specShape [2, 3] [Reduce.normAxis 2 (-1)] false = [2] ∧
    (List.range 3).map (insAt [1] (Reduce.normAxis 2 (-1)) ·) = [[1, 0], [1, 1], [1, 2]] := by decide

/-- … and axis 0 of a `(2,3)` pair: the line of `[2]` is `[0,2], [1,2]` -/
example : Reduce.specShape [2, 3] [Reduce.normAxis 2 0] false = [3] ∧
    (List.range 2).map (insAt [2] (Reduce.normAxis 2 0) ·) = [[0, 2], [1, 2]] := by decide

example :
    let a : Arr Int := ⟨[2, 2], fun d => match d with | [r, c] => (2 * r + c + 1 : Nat) | _ => 0⟩
    (cosineSimilarity (· + ·) (· * ·) (· / ·) Reduce.maximum (fun t => t * t) id 1 a a 1).map
        (fun v => (v.shape, (allIdx v.shape).map v.get))
      = some ([2], [some (1 * 1 / (5 * 5) + 2 * 2 / (5 * 5)), some (3 * 3 / (25 * 25) + 4 * 4 / (25 * 25))]) := by decide +kernel

open NmVerif.Reduce in
/-- for element operations with `a/c + b/c = (a+b)/c` (real arithmetic) this is PyTorch's
    `(Σ_L a·b) / (max(‖a‖, eps) · max(‖b‖, eps))` -/
theorem cosine_similarity_eq_textbook {α : Type} (add mul div mx : α → α → α) (pre post : α → α) (eps : α) (x y : Arr α)
    (r : Shape) (axis : Int) (n : Nat) (hx : Pos x.shape) (hy : Pos y.shape)
    (hr : broadcastShape2 x.shape y.shape = some r) (hv : ValidAxis r.length axis)
    (hn : r[normAxis r.length axis]? = some n)
    (hadd : ∀ a b c, add (div a c) (div b c) = div (add a b) c) :
    ∃ v, cosineSimilarity add mul div mx pre post eps x y axis = some v ∧
      ∀ j, InShape j (specShape r [normAxis r.length axis] false) →
        v.get j =
          (foldFirst add none (((List.range n).map (insAt j (normAxis r.length axis) ·)).map fun i =>
              pre (x.get (specBroadcastIdx x.shape i)))).bind fun SA =>
          (foldFirst add none (((List.range n).map (insAt j (normAxis r.length axis) ·)).map fun i =>
              pre (y.get (specBroadcastIdx y.shape i)))).bind fun SB =>
          (foldFirst add none (((List.range n).map (insAt j (normAxis r.length axis) ·)).map fun i =>
            mul (x.get (specBroadcastIdx x.shape i)) (y.get (specBroadcastIdx y.shape i)))).map
              (div · (mul (mx (post SA) eps) (mx (post SB) eps))) := by
  obtain ⟨v, h1, _, h3⟩ := cosine_similarity_eq_def add mul div mx pre post eps x y r axis n hx hy hr hv hn
  refine ⟨v, h1, fun j hj => ?_⟩
  rw [h3 j hj]
  congr 1; funext SA; congr 1; funext SB
  rw [← foldFirst_div_distrib add div _ (fun a b => hadd a b _)]
  simp only [List.map_map]
  rfl

/-! ## bilinear -/

/-- regression guard for the repaired defect bilinear.lead-axes (fix commit 908c6a6): inputs `(2,2,2,2)`
    (`a[k] = b[k] = k+1` row-major), weight `(2,2,2)` (`w[k] = k+1`).  `bilinear_input_reshape` gives `(2,2,1,2,2)` — the
    unit axis right before the last two axes — the result has PyTorch's shape `(2,2,2,2)` and its second element is
    `y[0,0,0,1] = Σ_ij a[0,0,0,i]·w[1,i,j]·b[0,0,0,j] = 63`.  Before the repair the unit axis went after the first axis
    (`bilinearInputReshapeOld`: `(2,1,2,2,2)`), the second batch axis was broadcast against `out_features` and the
    result had the shape `(2,1,2,2)` with `803` in that place (what the harness saw, known/fixed.json: of the old form the
    statement holds the reshape only); both forms agree up to rank 3 (on the four shapes listed). -/
theorem bilinear_rank4_regression :
    let a : Arr Int := ⟨[2, 2, 2, 2], fun d => (computeOffset d (strides [2, 2, 2, 2]) + 1 : Nat)⟩
    let w : Arr Int := ⟨[2, 2, 2], fun d => (computeOffset d (strides [2, 2, 2]) + 1 : Nat)⟩
    (bilinear (· + ·) (· * ·) a a w none).map (fun v => (v.shape, v.get [0, 0, 0, 1])) = some ([2, 2, 2, 2], some 63)
      ∧ (1 * 5 * 1 + 1 * 6 * 2 + 2 * 7 * 1 + 2 * 8 * 2 : Int) = 63
      ∧ bilinearInputReshape [2, 2, 2, 2] = some [2, 2, 1, 2, 2]
      ∧ bilinearInputReshapeOld [2, 2, 2, 2] = some [2, 1, 2, 2, 2]
      ∧ (∀ s ∈ [[3], [2, 3], [4, 2, 3], [1, 1, 1]], bilinearInputReshape s = bilinearInputReshapeOld s) := by
  decide +kernel

/-- positive instance (rank 3, bias): `y[1,0,1] = Σ_ij a[1,0,i]·w[1,i,j]·b[1,0,j] + c[1]` -/
example :
    let a : Arr Int := ⟨[2, 1, 2], fun d => (computeOffset d (strides [2, 1, 2]) + 1 : Nat)⟩
    let w : Arr Int := ⟨[2, 2, 2], fun d => (computeOffset d (strides [2, 2, 2]) + 1 : Nat)⟩
    let c : Arr Int := ⟨[2], fun d => match d with | [o] => (100 * (o + 1) : Nat) | _ => 0⟩
    (bilinear (· + ·) (· * ·) a a w (some c)).map (fun v => (v.shape, v.get [1, 0, 1]))
      = some ([2, 1, 2], some (3 * 5 * 3 + 3 * 6 * 4 + 4 * 7 * 3 + 4 * 8 * 4 + 200)) := by
  decide +kernel

/-- **bilinear on rank-2 inputs** `x : (B, I)`, `y : (B, J)`, weight `(O, I, J)`, optional bias `(O)`, any positive extents,
    abstract `add` / `mul`: the composition (`matmulv2` of `x` with the weight stack — C16 model —, broadcast `multiply`
    with `y`, `sum` over the last axis, `transpose`, bias) exists, has the shape `(B, O)`, and
    `out[b, o] = Σ_j (Σ_i x[b,i]·w[o,i,j]) · y[b,j] (+ c[o])` — `bilinearAt`: every inner sum is a left fold over
    `i = 0 .. I−1` from its first product, the outer one over `j = 0 .. J−1`; the bias is added to the finished sum.
    (Rank 1: `bilinear_rank1_eq_def`; every rank ≥ 2, i.e. inputs `lead ++ [B, ·]` for any `lead`: `NN.bilinear_lead_eq_def`, of
    which this and `bilinear_rank3_eq_def` are the instances `lead = []`, `[B0]`; evaluated rank-4 instance: `bilinear_rank4_regression`.) -/
theorem bilinear_rank2_eq_def {α : Type} (add mul : α → α → α) (x y w : Arr α) (bias : Option (Arr α)) (B I J O : Nat)
    (hx : x.shape = [B, I]) (hy : y.shape = [B, J]) (hw : w.shape = [O, I, J]) (hb : ∀ c, bias = some c → c.shape = [O])
    (hB : 0 < B) (hI : 0 < I) (hJ : 0 < J) (hO : 0 < O) :
    ∃ v, bilinear add mul x y w bias = some v ∧ v.shape = [B, O] ∧ ∀ b o, b < B → o < O →
      v.get [b, o] = match bias with
        | none => bilinearAt add mul x.get y.get w.get I J b o
        | some c => (bilinearAt add mul x.get y.get w.get I J b o).map (fun S => add S (c.get [o])) := by
  obtain ⟨v, h1, h2, h3⟩ := bilinear_lead_eq_def add mul x y w bias [] B I J O hx hy hw hb Shape.pos_nil hB hJ hO
  exact ⟨v, h1, h2, fun b o hb' ho => h3 [] b o trivial hb' ho⟩

/-- non-vacuity: `x = [[1,2]]`, `y = [[3,4,5]]`, `w[o,i,j] = 1`: `out[0,0] = (1+2)·3 + (1+2)·4 + (1+2)·5` -/
example :
    bilinearAt (· + ·) (· * ·) (fun d => match d with | [_, i] => ((i + 1 : Nat) : Int) | _ => 0)
      (fun d => match d with | [_, j] => ((j + 3 : Nat) : Int) | _ => 0) (fun _ => 1) 2 3 0 0 = some 36 := by decide

/-- **bilinear on rank-1 inputs** `x : (I)`, `y : (J)` (no batch axis), weight `(O, I, J)`, optional bias `(O)`, positive
    extents: the composition (`matmulv2` of the vector with the weight stack, broadcast `multiply` with `y`, `sum` over the
    last axis, the identity `transpose` of a rank-1 result, bias) exists, has the shape `(O)`, and
    `out[o] = Σ_j (Σ_i x[i]·w[o,i,j]) · y[j] (+ c[o])` (`bilinearAtL` with no leading index). -/
theorem bilinear_rank1_eq_def {α : Type} (add mul : α → α → α) (x y w : Arr α) (bias : Option (Arr α)) (I J O : Nat)
    (hx : x.shape = [I]) (hy : y.shape = [J]) (hw : w.shape = [O, I, J]) (hb : ∀ c, bias = some c → c.shape = [O])
    (hI : 0 < I) (hJ : 0 < J) (hO : 0 < O) :
    ∃ v, bilinear add mul x y w bias = some v ∧ v.shape = [O] ∧ ∀ o, o < O →
      v.get [o] = match bias with
        | none => bilinearAtL add mul x.get y.get w.get I J [] o
        | some c => (bilinearAtL add mul x.get y.get w.get I J [] o).map (fun S => add S (c.get [o])) := by
  obtain ⟨x', hx1, hx2, hx3⟩ := reshape_same x [I] hx
  obtain ⟨y', hy1, hy2, hy3⟩ := reshape_same y [J] hy
  obtain ⟨r, hr1, hr2, hr3⟩ := matmulV2_elem_12 [O] I J
  obtain ⟨v, h1, h2, h3⟩ := bilinear_of_steps add mul x y w bias [O] [] I J O
    (by rw [hx]; rfl) (by rw [hy]; rfl) hx1 hy1 (by rw [hx2, hw]; exact hr1) hr2
    (Pos.cons hO (Pos.cons hJ Shape.pos_nil))
    (by rw [hy2]; exact Pos.cons hJ Shape.pos_nil)
    (by rw [hy2]; exact bshape_trailing [O] [J]) rfl hb (Pos.cons hO Shape.pos_nil)
  refine ⟨v, h1, h2, fun o ho => h3 [] o trivial ho [o] rfl ⟨ho, trivial⟩ (fun j hj => ?_) (fun j hj => ?_)⟩
  · rw [hr3 [o] j ⟨ho, trivial⟩ hj, List.map_map]
    apply List.map_congr_left
    intro i hi
    show mul (x'.get [i]) _ = _
    rw [hx3 [i] ⟨List.mem_range.1 hi, trivial⟩]; rfl
  · have hj1 : InShape [j] [J] := ⟨hj, trivial⟩
    rw [hy2]
    exact (congrArg y'.get (sbi_trailing [o] hj1)).trans (hy3 [j] hj1)

/-- non-vacuity: `x = (1, 2)`, `y = (3, 4, 5)`, `w[o,i,j] = o + 1`, bias `(100, 200)`:
    `out[1] = (1·2 + 2·2)·3 + 6·4 + 6·5 + 200 = 272` -/
example :
    let x : Arr Int := ⟨[2], fun d => match d with | [i] => (i + 1 : Nat) | _ => 0⟩
    let y : Arr Int := ⟨[3], fun d => match d with | [j] => (j + 3 : Nat) | _ => 0⟩
    let w : Arr Int := ⟨[2, 2, 3], fun d => match d with | [o, _, _] => (o + 1 : Nat) | _ => 0⟩
    let c : Arr Int := ⟨[2], fun d => match d with | [o] => (100 * (o + 1) : Nat) | _ => 0⟩
    (bilinear (· + ·) (· * ·) x y w (some c)).map (fun v => (v.shape, v.get [1])) = some ([2], some 272)
      ∧ bilinearAtL (· + ·) (· * ·) x.get y.get w.get 2 3 [] 1 = some 72 := by decide +kernel

/-- **bilinear on rank-3 inputs** `x : (B0, B1, I)`, `y : (B0, B1, J)`, weight `(O, I, J)`, optional bias `(O)`, any positive
    extents: both inputs are reshaped to `(B0, 1, B1, ·)` (`bilinear_input_reshape`: the unit axis broadcasts against the
    out-features axis), `matmulv2` gives `(B0, O, B1, J)`, the product with `y` is summed over the last axis and the last
    two axes are swapped: the result has the shape `(B0, B1, O)` and
    `out[b0, b1, o] = Σ_j (Σ_i x[b0,b1,i]·w[o,i,j]) · y[b0,b1,j] (+ c[o])`. -/
theorem bilinear_rank3_eq_def {α : Type} (add mul : α → α → α) (x y w : Arr α) (bias : Option (Arr α)) (B0 B1 I J O : Nat)
    (hx : x.shape = [B0, B1, I]) (hy : y.shape = [B0, B1, J]) (hw : w.shape = [O, I, J]) (hb : ∀ c, bias = some c → c.shape = [O])
    (hB0 : 0 < B0) (hB1 : 0 < B1) (hI : 0 < I) (hJ : 0 < J) (hO : 0 < O) :
    ∃ v, bilinear add mul x y w bias = some v ∧ v.shape = [B0, B1, O] ∧ ∀ b0 b1 o, b0 < B0 → b1 < B1 → o < O →
      v.get [b0, b1, o] = match bias with
        | none => bilinearAtL add mul x.get y.get w.get I J [b0, b1] o
        | some c => (bilinearAtL add mul x.get y.get w.get I J [b0, b1] o).map (fun S => add S (c.get [o])) := by
  obtain ⟨v, h1, h2, h3⟩ := bilinear_lead_eq_def add mul x y w bias [B0] B1 I J O hx hy hw hb (Pos.cons hB0 Shape.pos_nil) hB1 hJ hO
  exact ⟨v, h1, h2, fun b0 b1 o hb0 hb1 ho => h3 [b0] b1 o ⟨hb0, trivial⟩ hb1 ho⟩

/-- non-vacuity: the rank-3 instance above (`a = b`, `(2,1,2)`, row-major `k+1`; `w` `(2,2,2)` row-major `k+1`; bias):
    `bilinearAtL` at `[1, 0]`, `o = 1` is `3·5·3 + 3·6·4 + 4·7·3 + 4·8·4` grouped as `(3·5 + 4·7)·3 + (3·6 + 4·8)·4` -/
example :
    let a : Arr Int := ⟨[2, 1, 2], fun d => (computeOffset d (strides [2, 1, 2]) + 1 : Nat)⟩
    let w : Arr Int := ⟨[2, 2, 2], fun d => (computeOffset d (strides [2, 2, 2]) + 1 : Nat)⟩
    bilinearAtL (· + ·) (· * ·) a.get a.get w.get 2 2 [1, 0] 1 = some ((3 * 5 + 4 * 7) * 3 + (3 * 6 + 4 * 8) * 4)
      ∧ (3 * 5 * 3 + 3 * 6 * 4 + 4 * 7 * 3 + 4 * 8 * 4 : Int) = (3 * 5 + 4 * 7) * 3 + (3 * 6 + 4 * 8) * 4 := by decide

/-! ## convolution -/

/-- an optional integer argument as the C++ receives it: `None` or an `int` -/
def form : Option Nat → PArg
  | none => .none
  | some v => .int v

theorem strideVal_form (s : Option Nat) : strideVal (form s) = strideOf s := by cases s <;> rfl
theorem padVal_form (p : Option Nat) : padVal (form p) = paddingOf p := by cases p <;> rfl
theorem dilV_form (d : Option Nat) : dilV (form d) = dilationOf d := by cases d <;> rfl

theorem posForm_form {s : Option Nat} (h : ∀ v, s = some v → 0 < v) : PosForm (form s) := by
  cases s with
  | none => exact Or.inl rfl
  | some v => exact Or.inr (Or.inl ⟨v, h v rfl, rfl⟩)

theorem intForm_form (p : Option Nat) : IntForm (form p) := by
  cases p with
  | none => exact Or.inl rfl
  | some v => exact Or.inr (Or.inl ⟨v, rfl⟩)

/-- **conv1d, every argument form the C++ accepts**: stride, padding and dilation each given as `None`, as an integer, or
    as a one-element index array `[v]` (`conv_slices`, `conv_pad`, `conv_expand_spacing` read `at(arg, 0)`), independently
    of each other, with the values `strideVal`, `padVal`, `dilV` (`None` ↦ 1 / 0 / 1), stride and dilation positive, the dilated
    kernel fitting the padded input (`Fits`), shapes as in `conv1d_eq_code_loop`: defined, the standard extent, every
    element the nested loop with the code's group assignment. -/
theorem conv1d_forms_eq_code_loop (x w : Arr Int) (bias : Option (Arr Int)) (N Og g Cg L K : Nat) (stride padding dilation : PArg)
    (hx : x.shape = [N, g * Cg, L]) (hw : w.shape = [Og * g, Cg, K]) (hb : ∀ b, bias = some b → b.shape = [Og * g])
    (hOg : 0 < Og) (hg : 0 < g) (hK : 0 < K) (hs : PosForm stride) (hp : IntForm padding) (hd : PosForm dilation)
    (hfit : Fits L K (padVal padding) (dilV dilation)) :
    ∃ r, convnd 1 x w bias stride padding dilation g = .ok r ∧
      r.shape = [N, Og * g, outSize L K (strideVal stride) (padVal padding) (dilV dilation)] ∧
      ∀ n o l, n < N → o < Og * g → l < outSize L K (strideVal stride) (padVal padding) (dilV dilation) →
        r.get [n, o, l] = conv1dLoop (grpCode Og) x w bias L Cg K (strideVal stride) (padVal padding) (dilV dilation) n o l := by
  replace hfit : (K - 1) * dilV dilation + 1 ≤ L + 2 * padVal padding := by rw [Nat.mul_comm]; exact hfit
  have hsp := strideVal_pos hs
  obtain ⟨ad, hconv, hads, hadg⟩ := conv1d_unstrided hx hw hb hOg hg hK hp hd hfit
  have hst := convStride1 hads hs
  refine ⟨_, hconv stride, ?_, ?_⟩
  · rw [hst.1, out_arith hsp hfit]
  · intro n o l hn ho hl
    rw [hst.2]
    exact hadg n o _ hn ho ((Nat.lt_ceilDiv_iff hsp).mp (by rw [out_arith hsp hfit]; exact hl))

/-- **conv1d, any batch / stride / zero padding / dilation / groups / optional bias, each option passed as `None` or as an
    integer.**  For an input `(N, g·Cg, L)`, a weight `(Og·g, Cg, K)` (so `groups = g` is any common divisor of the
    channel counts; `0 < Og, g, K`) and an optional bias `(Og·g)`, with a given stride or dilation positive and the dilated
    kernel fitting the padded input (`Fits`), the
    `view::convnd` pipeline (reshape by groups → pad → sliding_window of input and of the dilation-expanded weight →
    multiply → sum → reshape → bias → strided slice) is defined, has the extent `⌊(L + 2p − d(K−1) − 1)/s⌋ + 1`, and
    every element is the nested loop `bias[o] + Σ_c Σ_k xpad[n, grp(o)·Cg + c, l·s + k·d] · w[o,c,k]` — with the group of
    output channel `o` being `o / Og` (`grpCode`: the weight is laid out as `(g, Og, Cg, K)`), which is what the code
    does.  Quantified over all integer `x`, `w`, so the equality of the two sums is an identity of the
    (input index, weight index) term sets. -/
theorem conv1d_eq_code_loop (x w : Arr Int) (bias : Option (Arr Int)) (N Og g Cg L K : Nat) (stride padding dilation : Option Nat)
    (hx : x.shape = [N, g * Cg, L]) (hw : w.shape = [Og * g, Cg, K]) (hb : ∀ b, bias = some b → b.shape = [Og * g])
    (hOg : 0 < Og) (hg : 0 < g) (hK : 0 < K)
    (hs : ∀ v, stride = some v → 0 < v) (hd : ∀ v, dilation = some v → 0 < v)
    (hfit : Fits L K (paddingOf padding) (dilationOf dilation)) :
    ∃ r, convnd 1 x w bias (form stride) (form padding) (form dilation) g = .ok r ∧
      r.shape = [N, Og * g, outSize L K (strideOf stride) (paddingOf padding) (dilationOf dilation)] ∧
      ∀ n o l, n < N → o < Og * g → l < outSize L K (strideOf stride) (paddingOf padding) (dilationOf dilation) →
        r.get [n, o, l] = conv1dLoop (grpCode Og) x w bias L Cg K (strideOf stride) (paddingOf padding) (dilationOf dilation) n o l := by
  have := conv1d_forms_eq_code_loop x w bias N Og g Cg L K (form stride) (form padding) (form dilation) hx hw hb hOg hg hK
    (posForm_form hs) (intForm_form padding) (posForm_form hd) (by rw [dilV_form, padVal_form]; exact hfit)
  simpa only [strideVal_form, padVal_form, dilV_form] using this

/-- conv1d is defined and its output shape is the standard formula, for every batch and every `groups` (the first two
    conjuncts of `conv1d_eq_code_loop`, under its hypotheses) -/
theorem conv_out_shape_eq_formula (x w : Arr Int) (bias : Option (Arr Int)) (N Og g Cg L K : Nat) (stride padding dilation : Option Nat)
    (hx : x.shape = [N, g * Cg, L]) (hw : w.shape = [Og * g, Cg, K]) (hb : ∀ b, bias = some b → b.shape = [Og * g])
    (hOg : 0 < Og) (hg : 0 < g) (hK : 0 < K)
    (hs : ∀ v, stride = some v → 0 < v) (hd : ∀ v, dilation = some v → 0 < v)
    (hfit : Fits L K (paddingOf padding) (dilationOf dilation)) :
    ∃ r, convnd 1 x w bias (form stride) (form padding) (form dilation) g = .ok r ∧
      r.shape = [N, Og * g, outSize L K (strideOf stride) (paddingOf padding) (dilationOf dilation)] := by
  obtain ⟨r, h1, h2, _⟩ := conv1d_eq_code_loop x w bias N Og g Cg L K stride padding dilation hx hw hb hOg hg hK hs hd hfit
  exact ⟨r, h1, h2⟩

/-- **conv1d = the PyTorch nested loop** (group of output channel `o` is `o / (O/groups)`), for any batch, stride,
    padding, dilation, bias and EVERY `groups` (any common divisor `g` of the channel counts, any number `Og` of output
    channels per group), under the hypotheses of `conv1d_eq_code_loop`.  (Before fixes/C17-conv-groups-interleaved this
    held for `groups = 1` or `O = groups` only:
    `NN.grpInterleaved_eq_grpSpec`, instance `conv1d_groups_regression`.) -/
theorem conv1d_eq_nested_loop (x w : Arr Int) (bias : Option (Arr Int)) (N Og g Cg L K : Nat) (stride padding dilation : Option Nat)
    (hx : x.shape = [N, g * Cg, L]) (hw : w.shape = [Og * g, Cg, K]) (hb : ∀ b, bias = some b → b.shape = [Og * g])
    (hOg : 0 < Og) (hg : 0 < g) (hK : 0 < K)
    (hs : ∀ v, stride = some v → 0 < v) (hd : ∀ v, dilation = some v → 0 < v)
    (hfit : Fits L K (paddingOf padding) (dilationOf dilation)) :
    ∃ r, convnd 1 x w bias (form stride) (form padding) (form dilation) g = .ok r ∧
      r.shape = [N, Og * g, outSize L K (strideOf stride) (paddingOf padding) (dilationOf dilation)] ∧
      ∀ n o l, n < N → o < Og * g → l < outSize L K (strideOf stride) (paddingOf padding) (dilationOf dilation) →
        r.get [n, o, l] = conv1dLoop (grpSpec (Og * g) g) x w bias L Cg K (strideOf stride) (paddingOf padding) (dilationOf dilation) n o l := by
  rw [← grpCode_eq_grpSpec hg]
  exact conv1d_eq_code_loop x w bias N Og g Cg L K stride padding dilation hx hw hb hOg hg hK hs hd hfit

/-- `conv1d_forms_eq_code_loop` with PyTorch's group assignment: every argument form, every `groups` -/
theorem conv1d_forms_eq_nested_loop (x w : Arr Int) (bias : Option (Arr Int)) (N Og g Cg L K : Nat) (stride padding dilation : PArg)
    (hx : x.shape = [N, g * Cg, L]) (hw : w.shape = [Og * g, Cg, K]) (hb : ∀ b, bias = some b → b.shape = [Og * g])
    (hOg : 0 < Og) (hg : 0 < g) (hK : 0 < K) (hs : PosForm stride) (hp : IntForm padding) (hd : PosForm dilation)
    (hfit : Fits L K (padVal padding) (dilV dilation)) :
    ∃ r, convnd 1 x w bias stride padding dilation g = .ok r ∧
      r.shape = [N, Og * g, outSize L K (strideVal stride) (padVal padding) (dilV dilation)] ∧
      ∀ n o l, n < N → o < Og * g → l < outSize L K (strideVal stride) (padVal padding) (dilV dilation) →
        r.get [n, o, l] = conv1dLoop (grpSpec (Og * g) g) x w bias L Cg K (strideVal stride) (padVal padding) (dilV dilation) n o l := by
  rw [← grpCode_eq_grpSpec hg]
  exact conv1d_forms_eq_code_loop x w bias N Og g Cg L K stride padding dilation hx hw hb hOg hg hK hs hp hd hfit

/-- non-vacuity: stride `[2]` (array), padding `1` (integer), dilation `[2]` (array) on `(1, 2, 5)` with a `(3, 2, 2)` weight:
    defined, extent ⌊(5 + 2 − 2 − 1)/2⌋ + 1 = 3 -/
example : ∃ r, convnd 1 ⟨[1, 2, 5], fun _ => 1⟩ ⟨[3, 2, 2], fun _ => 1⟩ none (.arr [2]) (.int 1) (.arr [2]) 1 = .ok r ∧ r.shape = [1, 3, 3] := by
  obtain ⟨r, h1, h2, _⟩ := conv1d_forms_eq_nested_loop ⟨[1, 2, 5], fun _ => 1⟩ ⟨[3, 2, 2], fun _ => 1⟩ none 1 3 1 2 5 2 (.arr [2]) (.int 1) (.arr [2])
    rfl rfl (by intro b h; cases h) (by decide) (by decide) (by decide) (Or.inr (Or.inr ⟨2, by decide, rfl⟩)) (Or.inr (Or.inl ⟨1, rfl⟩))
    (Or.inr (Or.inr ⟨2, by decide, rfl⟩)) (by decide)
  exact ⟨r, h1, h2⟩

/-- witnesses used by the examples: `x[n,c,j] = 100·n + 10·c + j + 1`, `w[o,c,k] = 100·o + 10·c + k + 1` -/
def xW (shape : Shape) : Arr Int := ⟨shape, fun i => match i with | [n, c, j] => (100 * n + 10 * c + j + 1 : Nat) | _ => 0⟩
def wW (shape : Shape) : Arr Int := ⟨shape, fun i => match i with | [o, c, k] => (100 * o + 10 * c + k + 1 : Nat) | _ => 0⟩

/-- non-vacuity: batch 2, C = 4, groups = 2, O = 6 (three output channels per group), L = 5, K = 2, stride 2, padding 1,
    dilation 2 — defined, shape (2,6,3), and element (1,4,2) (group 4 / 3 = 1) is the PyTorch nested loop -/
example : ∃ r, convnd 1 (xW [2, 4, 5]) (wW [6, 2, 2]) none (form (some 2)) (form (some 1)) (form (some 2)) 2 = .ok r ∧
    r.shape = [2, 6, 3] ∧ r.get [1, 4, 2] = conv1dLoop (grpSpec 6 2) (xW [2, 4, 5]) (wW [6, 2, 2]) none 5 2 2 2 1 2 1 4 2 := by
  obtain ⟨r, h1, h2, h3⟩ := conv1d_eq_nested_loop (xW [2, 4, 5]) (wW [6, 2, 2]) none 2 3 2 2 5 2 (some 2) (some 1) (some 2)
    rfl rfl (by intro b h; cases h) (by decide) (by decide) (by decide) (by intro v h; cases h; decide) (by intro v h; cases h; decide)
    (by decide)
  exact ⟨r, h1, h2, h3 1 4 2 (by decide) (by decide) (by decide)⟩

/-- element read from an evaluation (0 when undefined) -/
def Res.getD (r : Res (Arr Int)) (i : Idx) : Int := match r with | .ok a => a.get i | _ => 0
def Res.shapeD (r : Res (Arr Int)) : Shape := match r with | .ok a => a.shape | _ => []

/-- regression instance for the repaired defect conv.groups-interleaved (fixes/C17-conv-groups-interleaved): C = 2,
    O = 4, groups = 2, K = L = 1, weights all 1, `x = (1, 2)`.  Output channel 1 belongs to group 0 and reads
    `x[0] = 1`: the whole output is `(1, 1, 2, 2)`.  Before the repair the weight was laid out `(O/g, g, …)` and channel
    1 was computed from group `1 % 2 = 1` (`grpInterleaved`: reads `x[1] = 2`). -/
theorem conv1d_groups_regression :
    let x : Arr Int := ⟨[1, 2, 1], fun i => match i with | [_, c, _] => (c + 1 : Nat) | _ => 0⟩
    let w : Arr Int := ⟨[4, 1, 1], fun _ => 1⟩
    (List.range 4).map (fun o => Res.getD (convnd 1 x w none .none .none .none 2) [0, o, 0]) = [1, 1, 2, 2]
      ∧ conv1dLoop (grpSpec 4 2) x w none 1 1 1 1 0 1 0 1 0 = 1
      ∧ conv1dLoop (grpCode 2) x w none 1 1 1 1 0 1 0 1 0 = 1
      ∧ conv1dLoop (grpInterleaved 2) x w none 1 1 1 1 0 1 0 1 0 = 2 := by
  decide

/-- regression instance for conv.unbatched-groups (repaired by the same diff): an UNBATCHED input `(C, L) = (2, 4)`,
    `x = 1..8`, weight `(4, 1, 2) = 1..8`, groups = 2 gives PyTorch's `(O, L_out) = (4, 3)` result
    `5 8 11 | 11 18 25 | 61 72 83 | 83 98 113`; `conv_reshape_reduce` merges `(g, O/g)` at axis 0 when there is no batch
    axis.  Before, axis 0 of the summed `(g, O/g, L_out)` array was taken for a batch axis (`convReshapeReduceOld`: shape
    `(2, 6)`); with groups = 1 the old form on the old layout `(O/g, g, L_out) = (3, 1, 3)` and the new form on the new
    layout `(g, O/g, L_out) = (1, 3, 3)` both give `(O, L_out) = (3, 3)`. -/
theorem conv1d_unbatched_regression :
    let x : Arr Int := ⟨[2, 4], fun i => (computeOffset i (strides [2, 4]) + 1 : Nat)⟩
    let w : Arr Int := ⟨[4, 1, 2], fun i => (computeOffset i (strides [4, 1, 2]) + 1 : Nat)⟩
    Res.shapeD (convnd 1 x w none .none .none .none 2) = [4, 3]
      ∧ (allIdx [4, 3]).map (Res.getD (convnd 1 x w none .none .none .none 2)) = [5, 8, 11, 11, 18, 25, 61, 72, 83, 83, 98, 113]
      ∧ convReshapeReduce [2, 2, 3] 1 = [4, 3] ∧ convReshapeReduceOld [2, 2, 3] 1 = [2, 6]
      ∧ convReshapeReduce [1, 3, 3] 1 = [3, 3] ∧ convReshapeReduceOld [3, 1, 3] 1 = [3, 3] := by
  decide +kernel

/-- the repaired batch handling as a positive instance: a batch of 2 is defined and keeps its extent -/
example : Res.shapeD (convnd 1 (xW [2, 1, 2]) (wW [1, 1, 1]) none .none (.int 0) .none 1) = [2, 1, 2] := by decide

/-- **conv2d** (input `(N, g·Cg, H, W)`, weight `(Og·g, Cg, KH, KW)`, optional bias) for stride, padding and dilation each
    given as `None`, one integer, or a pair `(h, w)` — per-plane values `(sH,sW)`, `(pH,pW)`, `(dH,dW)` =
    `vals2 default arg`: the pipeline with `n_planes = 2` is defined, has the extents
    `⌊(H + 2pH − dH(KH−1) − 1)/sH⌋ + 1`, `⌊(W + 2pW − dW(KW−1) − 1)/sW⌋ + 1`, and every element is
    `bias[o] + Σ_c Σ_kh Σ_kw xpad[n, grp(o)·Cg + c, i·sH + kh·dH, j·sW + kw·dW] · w[o,c,kh,kw]` with `grp(o) = o / Og`
    (the code's assignment: weight laid out as `(g, Og, Cg, KH, KW)`), for every `groups`; `0 < Og, g, KH, KW`, the entries of
    stride and dilation positive, the dilated kernel fitting the padded input on both planes (`Fits`). -/
theorem conv2d_eq_code_loop (x w : Arr Int) (bias : Option (Arr Int)) (N Og g Cg H W KH KW : Nat) (stride padding dilation : PArg)
    (hx : x.shape = [N, g * Cg, H, W]) (hw : w.shape = [Og * g, Cg, KH, KW]) (hb : ∀ b, bias = some b → b.shape = [Og * g])
    (hOg : 0 < Og) (hg : 0 < g) (hKH : 0 < KH) (hKW : 0 < KW)
    (hs : PosForm2 stride) (hp : Form2 padding) (hd : PosForm2 dilation)
    (hfH : Fits H KH (vals2 0 padding).1 (vals2 1 dilation).1) (hfW : Fits W KW (vals2 0 padding).2 (vals2 1 dilation).2) :
    ∃ r, convnd 2 x w bias stride padding dilation g = .ok r ∧
      r.shape = [N, Og * g, outSize H KH (vals2 1 stride).1 (vals2 0 padding).1 (vals2 1 dilation).1,
                 outSize W KW (vals2 1 stride).2 (vals2 0 padding).2 (vals2 1 dilation).2] ∧
      ∀ n o i j, n < N → o < Og * g → i < outSize H KH (vals2 1 stride).1 (vals2 0 padding).1 (vals2 1 dilation).1 →
        j < outSize W KW (vals2 1 stride).2 (vals2 0 padding).2 (vals2 1 dilation).2 →
        r.get [n, o, i, j] = conv2dLoop (grpCode Og) x w bias H W Cg KH KW (vals2 1 stride).1 (vals2 1 stride).2
          (vals2 0 padding).1 (vals2 0 padding).2 (vals2 1 dilation).1 (vals2 1 dilation).2 n o i j := by
  replace hfH : (KH - 1) * (vals2 1 dilation).1 + 1 ≤ H + 2 * (vals2 0 padding).1 := by rw [Nat.mul_comm]; exact hfH
  replace hfW : (KW - 1) * (vals2 1 dilation).2 + 1 ≤ W + 2 * (vals2 0 padding).2 := by rw [Nat.mul_comm]; exact hfW
  obtain ⟨hsH, hsW⟩ := vals2_pos hs
  obtain ⟨ad, hconv, hads, hadg⟩ := conv2d_unstrided hx hw hb hOg hg hKH hKW hp hd hfH hfW
  have hst := convStride2 hads hs
  refine ⟨_, hconv stride, ?_, ?_⟩
  · rw [hst.1, out_arith hsH hfH, out_arith hsW hfW]
  · intro n o i j hn ho hi hj
    rw [hst.2]
    exact hadg n o _ _ hn ho ((Nat.lt_ceilDiv_iff hsH).mp (by rw [out_arith hsH hfH]; exact hi))
      ((Nat.lt_ceilDiv_iff hsW).mp (by rw [out_arith hsW hfW]; exact hj))

/-- conv2d is defined and its output shape is the standard formula on both planes, every batch, every `groups` (the first
    two conjuncts of `conv2d_eq_code_loop`, under its hypotheses) -/
theorem conv2d_out_shape_eq_formula (x w : Arr Int) (bias : Option (Arr Int)) (N Og g Cg H W KH KW : Nat) (stride padding dilation : PArg)
    (hx : x.shape = [N, g * Cg, H, W]) (hw : w.shape = [Og * g, Cg, KH, KW]) (hb : ∀ b, bias = some b → b.shape = [Og * g])
    (hOg : 0 < Og) (hg : 0 < g) (hKH : 0 < KH) (hKW : 0 < KW)
    (hs : PosForm2 stride) (hp : Form2 padding) (hd : PosForm2 dilation)
    (hfH : Fits H KH (vals2 0 padding).1 (vals2 1 dilation).1) (hfW : Fits W KW (vals2 0 padding).2 (vals2 1 dilation).2) :
    ∃ r, convnd 2 x w bias stride padding dilation g = .ok r ∧
      r.shape = [N, Og * g, outSize H KH (vals2 1 stride).1 (vals2 0 padding).1 (vals2 1 dilation).1,
                 outSize W KW (vals2 1 stride).2 (vals2 0 padding).2 (vals2 1 dilation).2] := by
  obtain ⟨r, h1, h2, _⟩ := conv2d_eq_code_loop x w bias N Og g Cg H W KH KW stride padding dilation hx hw hb hOg hg hKH hKW hs hp hd hfH hfW
  exact ⟨r, h1, h2⟩

/-- **conv2d = the PyTorch nested loop** for EVERY `groups` (and any number of output channels per group), any batch,
    None / int / pair forms of stride, padding, dilation, under the hypotheses of `conv2d_eq_code_loop`.  (Before
    fixes/C17-conv-groups-interleaved: `groups = 1` or
    `O = groups` only: `NN.grpInterleaved_eq_grpSpec`, instance `conv2d_groups_regression`.) -/
theorem conv2d_eq_nested_loop (x w : Arr Int) (bias : Option (Arr Int)) (N Og g Cg H W KH KW : Nat) (stride padding dilation : PArg)
    (hx : x.shape = [N, g * Cg, H, W]) (hw : w.shape = [Og * g, Cg, KH, KW]) (hb : ∀ b, bias = some b → b.shape = [Og * g])
    (hOg : 0 < Og) (hg : 0 < g) (hKH : 0 < KH) (hKW : 0 < KW)
    (hs : PosForm2 stride) (hp : Form2 padding) (hd : PosForm2 dilation)
    (hfH : Fits H KH (vals2 0 padding).1 (vals2 1 dilation).1) (hfW : Fits W KW (vals2 0 padding).2 (vals2 1 dilation).2) :
    ∃ r, convnd 2 x w bias stride padding dilation g = .ok r ∧
      r.shape = [N, Og * g, outSize H KH (vals2 1 stride).1 (vals2 0 padding).1 (vals2 1 dilation).1,
                 outSize W KW (vals2 1 stride).2 (vals2 0 padding).2 (vals2 1 dilation).2] ∧
      ∀ n o i j, n < N → o < Og * g → i < outSize H KH (vals2 1 stride).1 (vals2 0 padding).1 (vals2 1 dilation).1 →
        j < outSize W KW (vals2 1 stride).2 (vals2 0 padding).2 (vals2 1 dilation).2 →
        r.get [n, o, i, j] = conv2dLoop (grpSpec (Og * g) g) x w bias H W Cg KH KW (vals2 1 stride).1 (vals2 1 stride).2
          (vals2 0 padding).1 (vals2 0 padding).2 (vals2 1 dilation).1 (vals2 1 dilation).2 n o i j := by
  rw [← grpCode_eq_grpSpec hg]
  exact conv2d_eq_code_loop x w bias N Og g Cg H W KH KW stride padding dilation hx hw hb hOg hg hKH hKW hs hp hd hfH hfW

/-- non-vacuity for conv2d, with pair forms: batch 2, C = 2 (groups 2, depthwise), 4×5 input, 2×3 kernel, stride (2,1),
    padding (1,0), dilation (1,2) — extents ⌊(4+2−1−1)/2⌋+1 = 3 and ⌊(5+0−4−1)/1⌋+1 = 1 -/
example : ∃ r, convnd 2 ⟨[2, 2, 4, 5], fun _ => 1⟩ ⟨[2, 1, 2, 3], fun _ => 1⟩ none (.arr [2, 1]) (.arr [1, 0]) (.arr [1, 2]) 2 = .ok r ∧
    r.shape = [2, 2, 3, 1] := by
  obtain ⟨r, h1, h2⟩ := conv2d_out_shape_eq_formula ⟨[2, 2, 4, 5], fun _ => 1⟩ ⟨[2, 1, 2, 3], fun _ => 1⟩ none 2 1 2 1 4 5 2 3
    (.arr [2, 1]) (.arr [1, 0]) (.arr [1, 2])
    rfl rfl (by intro b h; cases h) (by decide) (by decide) (by decide) (by decide)
    (Or.inr (Or.inr ⟨2, 1, by decide, by decide, rfl⟩)) (Or.inr (Or.inr ⟨1, 0, rfl⟩)) (Or.inr (Or.inr ⟨1, 2, by decide, by decide, rfl⟩))
    (by decide) (by decide)
  exact ⟨r, h1, h2⟩

/-- non-vacuity of `conv2d_eq_nested_loop` with two groups of two output channels each (C = 2, O = 4, groups = 2), 2×2
    input, 1×2 kernel: defined, shape (1,4,2,1), element (0,2,1,0) (group 2 / 2 = 1) is the PyTorch nested loop -/
example : ∃ r, convnd 2 ⟨[1, 2, 2, 2], fun _ => 1⟩ ⟨[4, 1, 1, 2], fun _ => 1⟩ none .none .none .none 2 = .ok r ∧ r.shape = [1, 4, 2, 1] ∧
    r.get [0, 2, 1, 0] = conv2dLoop (grpSpec 4 2) ⟨[1, 2, 2, 2], fun _ => 1⟩ ⟨[4, 1, 1, 2], fun _ => 1⟩ none 2 2 1 1 2 1 1 0 0 1 1 0 2 1 0 := by
  obtain ⟨r, h1, h2, h3⟩ := conv2d_eq_nested_loop ⟨[1, 2, 2, 2], fun _ => 1⟩ ⟨[4, 1, 1, 2], fun _ => 1⟩ none 1 2 2 1 2 2 1 2 .none .none .none
    rfl rfl (by intro b h; cases h) (by decide) (by decide) (by decide) (by decide) (Or.inl rfl) (Or.inl rfl) (Or.inl rfl)
    (by decide) (by decide)
  exact ⟨r, h1, h2, h3 0 2 1 0 (by decide) (by decide) (by decide) (by decide)⟩

/-- regression instance for the repaired defect conv.groups-interleaved, conv2d: C = 2, O = 4, groups = 2, 1×1 input and
    kernel, weights all 1, `x = (1, 2)`: output channel 1 reads input channel 0 (value 1), the output is `(1, 1, 2, 2)`;
    the interleaved assignment read channel 1 (value 2). -/
theorem conv2d_groups_regression :
    let x : Arr Int := ⟨[1, 2, 1, 1], fun i => match i with | [_, c, _, _] => (c + 1 : Nat) | _ => 0⟩
    let w : Arr Int := ⟨[4, 1, 1, 1], fun _ => 1⟩
    (List.range 4).map (fun o => Res.getD (convnd 2 x w none .none .none .none 2) [0, o, 0, 0]) = [1, 1, 2, 2]
      ∧ conv2dLoop (grpSpec 4 2) x w none 1 1 1 1 1 1 1 0 0 1 1 0 1 0 0 = 1
      ∧ conv2dLoop (grpInterleaved 2) x w none 1 1 1 1 1 1 1 0 0 1 1 0 1 0 0 = 2 := by
  decide +kernel

/-- the repaired dilation pair as a positive instance: input (1,1,1,3), kernel (1,2), dilation pair (d_h, d_w) = (2, 1)
    gives the extent (1, 2) -/
example :
    let x : Arr Int := ⟨[1, 1, 1, 3], fun _ => 1⟩
    let w : Arr Int := ⟨[1, 1, 1, 2], fun _ => 1⟩
    Res.shapeD (convnd 2 x w none .none .none (.arr [2, 1]) 1) = [1, 1, 1, 2] := by
  decide

end NmVerif.Props.C17
