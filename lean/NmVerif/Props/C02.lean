import NmVerif.Arr
import NmVerif.Lemmas.Addressing
import NmVerif.Props.C03
import NmVerif.Props.C04
import NmVerif.Lemmas.BroadcastRule
import NmVerif.Lemmas.Ufunc
import NmVerif.Props.C08
import NmVerif.NN.PoolLemmas
import NmVerif.Lemmas.Capacity
/-
  C02 — Element access through arrays and views never leaves the operands' storage.

  General part (this file, top): in-bounds-ness composes through view chains of any depth and turns into
  "buffer position < buffer length" at the leaf for both layouts.  The per-view-kind obligations
  (`X_inBounds`) are proved next to each kind's model (namespaces Props.C03/C04/C06/C07/C08; pooling: `poolWindow_spec` of
  NN/PoolLemmas) and re-exported below, one section per owning property.  Last part: bounded result containers are never
  asked to hold more than their bound.

  What is NOT in this file: the intra-object layout of the real buffers (`std::array` members, `static_vector`
  storage) and the real allocation sizes.  The theorems say "multi-index inside the shape" and "offset < length of
  the modelled buffer"; that the compiled code obeys them is observed by ASan/UBSan/_GLIBCXX_ASSERTIONS and by
  the NMTOOLS_VERIF hooks in the correspondence run (lib/props/c02.py).
-/
namespace NmVerif.Props.C02
open NmVerif

/-- a view of a view: if both stay inside their operand, so does the composition -/
theorem comp_inBounds (outer inner : IxView) (h : outer.src = inner.dst)
    (ho : outer.InBounds) (hi : inner.InBounds) : (outer.comp inner).InBounds := by
  intro d hd i hm
  obtain ⟨k, hmo, hm⟩ := Option.bind_eq_some_iff.1 hm
  exact hi k (h ▸ ho d hd k hmo) i hm

/-- a chain of views, innermost last; `ChainOk` = consecutive shapes fit and every stage is in bounds -/
def ChainOk : List IxView → Prop
  | [] => True
  | [v] => v.InBounds
  | v :: w :: rest => v.InBounds ∧ v.src = w.dst ∧ ChainOk (w :: rest)

def compAll : IxView → List IxView → IxView
  | v, [] => v
  | v, w :: rest => compAll (v.comp w) rest

/-- compositions of ANY depth stay in bounds -/
theorem chain_inBounds (v : IxView) (rest : List IxView) (h : ChainOk (v :: rest)) : (compAll v rest).InBounds := by
  induction rest generalizing v with
  | nil => exact h
  | cons w ws ih =>
    obtain ⟨hv, hsrc, hrest⟩ := h
    refine ih (v.comp w) ?_
    cases ws with
    | nil => exact comp_inBounds v w hsrc hv hrest
    | cons x xs => exact ⟨comp_inBounds v w hsrc hv hrest.1, hrest.2.1, hrest.2.2⟩

/-- at the leaf, a well-formed array: an in-shape multi-index addresses a position below the buffer length, either layout -/
theorem buffer_access_in_bounds {α : Type} (a : NDA α) (hw : a.WF) (i : Idx) (hi : InShape i a.shape) :
    a.offset i < a.data.length :=
  hw ▸ Shape.layoutOffset_lt a.colMajor hi

/-- reading element `d` of an in-bounds view over a well-formed array touches a position inside its buffer -/
theorem view_read_in_buffer {α : Type} (v : IxView) (a : NDA α) (hw : a.WF) (hsrc : v.src = a.shape) (hb : v.InBounds)
    (d : Idx) (hd : InShape d v.dst) (i : Idx) (hm : v.map d = some i) : a.offset i < a.data.length :=
  buffer_access_in_bounds a hw i (hsrc ▸ hb d hd i hm)

/-- … and so does every element of a view chain of any depth over that array -/
theorem chain_read_in_buffer {α : Type} (v : IxView) (rest : List IxView) (h : ChainOk (v :: rest)) (a : NDA α) (hw : a.WF)
    (hsrc : (compAll v rest).src = a.shape) (d : Idx) (hd : InShape d (compAll v rest).dst) (i : Idx)
    (hm : (compAll v rest).map d = some i) : a.offset i < a.data.length :=
  view_read_in_buffer _ a hw hsrc (chain_inBounds v rest h) d hd i hm

/-- every multi-index the evaluators enumerate (ndindex of the view's shape, positive extents, any flat position) is inside
    that shape -/
theorem eval_indices_inShape (s : Shape) (hs : Pos s) (k : Nat) : InShape (ndindex s k) s := indices_inShape hs k

/-- bounded result containers: the index functions produce exactly `len(shape)` entries, so a result container
    sized by the operand's bound is never asked to hold more -/
theorem strides_len_le_bound (s : Shape) (cap : Nat) (h : s.length ≤ cap) : (strides s).length ≤ cap := by
  rw [strides_length]; exact h

theorem computeIndices_length (off : Nat) (s st : List Nat) (hl : st.length = s.length) :
    (computeIndices off s st).length = s.length :=
  Shape.computeIndices_length off s st hl

theorem indices_len_le_bound (s : Shape) (off cap : Nat) (h : s.length ≤ cap) : (ndindex s off).length ≤ cap := by
  rw [Shape.ndindex_length]; exact h

/-! ## trees: a two-operand view over two sub-views (concatenate / stack family over views) -/

/-- a two-operand view whose operands are themselves views -/
def comp2 (v : Index.IxView2) (va vb : IxView) : Index.IxView2 :=
  ⟨va.src, vb.src, v.dst, fun d => (v.map d).bind (fun p =>
    if p.1 then (vb.map p.2).map (fun i => (true, i)) else (va.map p.2).map (fun i => (false, i)))⟩

theorem comp2_inBounds (v : Index.IxView2) (va vb : IxView) (ha : v.srcA = va.dst) (hb : v.srcB = vb.dst)
    (hv : v.InBounds) (hva : va.InBounds) (hvb : vb.InBounds) : (comp2 v va vb).InBounds := by
  intro d hd b i hm
  obtain ⟨⟨pb, pi⟩, hmv, hm⟩ := Option.bind_eq_some_iff.1 hm
  have hp := hv d hd pb pi hmv
  cases pb <;> obtain ⟨j, hj, ⟨⟩⟩ := Option.map_eq_some_iff.1 hm
  · exact hva pi (ha ▸ hp) _ hj
  · exact hvb pi (hb ▸ hp) _ hj

/-- an indexing view over a two-operand view -/
def compOver2 (outer : IxView) (v : Index.IxView2) : Index.IxView2 :=
  ⟨v.srcA, v.srcB, outer.dst, fun d => (outer.map d).bind v.map⟩

theorem compOver2_inBounds (outer : IxView) (v : Index.IxView2) (h : outer.src = v.dst)
    (ho : outer.InBounds) (hv : v.InBounds) : (compOver2 outer v).InBounds := by
  intro d hd b i hm
  obtain ⟨k, hmo, hm⟩ := Option.bind_eq_some_iff.1 hm
  exact hv k (h ▸ ho d hd k hmo) b i hm

/-! ## per-view-kind obligations, re-exported from the owning property

Where the owning module has a theorem of the same name, the theorem below has its statement and is closed by it; flatten,
squeeze, atleast_nd and expand_dims are reshapes, swapaxes and moveaxis are transposes, and `broadcast_arrays` is
`broadcast_to` per operand: those are derived here from the owner's theorem for the underlying view. -/

section C03
open NmVerif

theorem transpose_inBounds (src : Shape) (ax : List Int) (p : List Nat) (v : IxView)
    (hn : normalizeAxes src.length ax = some p) (hperm : p.Perm (List.range src.length))
    (hv : transposeView src (some ax) = some v) : v.InBounds :=
  C03.transpose_inBounds src ax p v hn hperm hv

theorem transpose_default_inBounds (src : Shape) (v : IxView) (hv : transposeView src none = some v) :
    v.InBounds := C03.transpose_default_inBounds src v hv

theorem reshape_inBounds (src : Shape) (dst : List Int) (v : IxView) (hs : Pos src)
    (hv : reshapeView src dst = some v) : v.InBounds := C03.reshape_inBounds src dst v hs hv

theorem flatten_inBounds (src : Shape) (v : IxView) (hs : Pos src) (hv : flattenView src = some v) : v.InBounds :=
  C03.reshape_inBounds src _ v hs hv

theorem squeeze_inBounds (src : Shape) (v : IxView) (hs : Pos src) (hv : squeezeView src = some v) : v.InBounds :=
  C03.reshape_inBounds src _ v hs hv

theorem atleastNd_inBounds (src : Shape) (nd : Nat) (v : IxView) (hs : Pos src) (hv : atleastNdView src nd = some v) :
    v.InBounds := C03.reshape_inBounds src _ v hs hv

theorem expandDims_inBounds (src : Shape) (ax : List Int) (v : IxView) (hs : Pos src)
    (hv : expandDimsView src ax = some v) : v.InBounds := by
  obtain ⟨s, _, h⟩ := Option.bind_eq_some_iff.1 hv
  exact C03.reshape_inBounds src _ v hs h

theorem flip_inBounds (src : Shape) (axes : Option (List Int)) (v : IxView)
    (hv : flipView src axes = some v) : v.InBounds := C03.flip_inBounds src axes v hv

theorem swapaxes_inBounds (src : Shape) (a1 a2 : Int) (m1 m2 : Nat) (v : IxView)
    (h1 : normalizeAxis src.length a1 = some m1) (h2 : normalizeAxis src.length a2 = some m2) (hs : Pos src)
    (hv : swapaxesView src a1 a2 = some v) : v.InBounds := by
  obtain ⟨hperm, hn, hsw⟩ := swapaxesView_eq_transpose src a1 a2 m1 m2 h1 h2
  exact C03.transpose_inBounds src _ _ v hn hperm (hsw ▸ hv)

theorem moveaxis_inBounds (src : Shape) (source destination : List Int) (nsrc ndst : List Nat) (v : IxView)
    (hsn : normalizeAxes src.length source = some nsrc) (hdn : normalizeAxes src.length destination = some ndst)
    (hlen : nsrc.length = ndst.length) (hns : nsrc.Nodup) (hnd : ndst.Nodup) (hs : Pos src)
    (hv : moveaxisView src source destination = some v) : v.InBounds := by
  obtain ⟨o, ho, hperm, _, _⟩ := moveaxisToTranspose_spec src.length source destination nsrc ndst hsn hdn hlen hns hnd
  have hn := normalizeAxes_ofNat src.length o (of_perm_range o _ hperm).2.2
  rw [moveaxisView, ho, Option.bind_some] at hv
  exact C03.transpose_inBounds src _ o v hn hperm hv

end C03

section C04
open NmVerif NmVerif.Index

theorem tile_inBounds (s r : List Nat) (v : IxView) (hv : tileView s r = some v) (hs : Pos s) : v.InBounds :=
  C04.tile_inBounds s r v hv hs

theorem pad_inBounds (s before after : List Nat) (hb : before.length = s.length) (ha : after.length = s.length)
    (v : IxView) (hv : padView s (before ++ after) = some v) : v.InBounds :=
  C04.pad_inBounds s before after hb ha v hv

theorem take_inBounds (s : Shape) (ind : List Int) (axis : Int) (k : Nat) (hk : normalizeAxis1 axis s.length = some k)
    (n : Nat) (hn : s[k]? = some n) (hind : ∀ e ∈ ind, -(n : Int) ≤ e ∧ e < (n : Int)) (v : IxView)
    (hv : takeView s ind (some axis) = some v) : v.InBounds := C04.take_inBounds s ind axis k hk n hn hind v hv

theorem takeNone_inBounds (s : Shape) (hs : Pos s) (ind : List Int) (v : IxView) (hv : takeView s ind none = some v) :
    v.InBounds := C04.takeNone_inBounds s hs ind v hv

theorem repeat_inBounds (s : Shape) (r k : Nat) (hk : k < s.length) (v : IxView)
    (hv : repeatView s r (some (k : Int)) = some v) : v.InBounds := C04.repeat_inBounds s r k hk v hv

theorem repeatNone_inBounds (s : Shape) (hs : Pos s) (r : Nat) (v : IxView) (hv : repeatView s r none = some v) :
    v.InBounds := C04.repeatNone_inBounds s hs r v hv

theorem repeatList_inBounds (s : Shape) (rs : List Nat) (k : Nat) (hk : k < s.length) (hrs : rs.length = s[k])
    (v : IxView) (hv : repeatListView s rs (k : Int) = some v) : v.InBounds :=
  C04.repeatList_inBounds s rs k hk hrs v hv

theorem concatenate_inBounds (a b : Shape) (k : Nat) (h : ConcatCompatible a b k) (v : IxView2)
    (hv : concatenateView a b (some (k : Int)) = some v) : v.InBounds := C04.concatenate_inBounds a b k h v hv

theorem concatenateNone_inBounds (a b : Shape) (ha : Pos a) (hb : Pos b) (v : IxView2)
    (hv : concatenateView a b none = some v) : v.InBounds := C04.concatenateNone_inBounds a b ha hb v hv

theorem roll_inBounds (s : Shape) (shift axis : Int) (k : Nat) (hk : normalizeAxis1 axis s.length = some k)
    (v : IxView) (hv : rollView s shift axis = some v) : v.InBounds := C04.roll_inBounds s shift axis k hk v hv

theorem rollNone_inBounds (s : Shape) (hs : Pos s) (shift : Int)
    (v : IxView) (hv : rollNoneView s shift = some v) : v.InBounds := C04.rollNone_inBounds s hs shift v hv

theorem rollAxes_inBounds (s : Shape) (shifts axes : List Int) (ks : List Nat) (hk : AxesNorm s.length axes ks)
    (hlen : shifts.length = axes.length)
    (v : IxView) (hv : rollAxesView s shifts axes = some v) : v.InBounds :=
  C04.rollAxes_inBounds s shifts axes ks hk hlen v hv

theorem resize_inBounds (s t : Shape) (hs : Pos s) (v : IxView) (hv : resizeView s t = some v) : v.InBounds :=
  C04.resize_inBounds s t hs v hv

theorem compress_inBounds (s : Shape) (cond : List Int) (axis : Int) (k : Nat) (hk : normalizeAxis1 axis s.length = some k)
    (n : Nat) (hn : s[k]? = some n) (hc : cond.length ≤ n)
    (v : IxView) (hv : compressView s cond (some axis) = some v) : v.InBounds :=
  C04.compress_inBounds s cond axis k hk n hn hc v hv

theorem expand_inBounds (s : Shape) (axis : Int) (sp k : Nat) (hk : normalizeAxis1 axis s.length = some k)
    (v : IxView) (hv : expandView s [axis] [sp] = some v) : v.InBounds := C04.expand_inBounds s axis sp k hk v hv

theorem tril_inBounds (s : Shape) (k : Int) (v : IxView) (hv : trilView s k = some v) : v.InBounds :=
  C04.tril_inBounds s k v hv

theorem triu_inBounds (s : Shape) (k : Int) (v : IxView) (hv : triuView s k = some v) : v.InBounds :=
  C04.triu_inBounds s k v hv

theorem diagflat_inBounds (s : Shape) (hs : Pos s) (k : Int) (v : IxView) (hv : diagflatView s k = some v) :
    v.InBounds := C04.diagflat_inBounds s hs k v hv

theorem slidingWindow_inBounds (s : Shape) (w : Nat) (axis : Int) (k e : Nat) (hk : normalizeAxis1 axis s.length = some k)
    (he : s[k]? = some e) (hw1 : 1 ≤ w) (hw2 : w ≤ e)
    (v : IxView) (hv : slidingWindowView s [w] (some [axis]) true = some v) : v.InBounds :=
  C04.slidingWindow_inBounds s w axis k e hk he hw1 hw2 v hv

theorem split_inBounds (s : Shape) (N k n : Nat) (hn : s[k]? = some n) (hdiv : N ∣ n) (ps : List IxView)
    (hps : splitViews s (some N) [] (k : Int) = some ps) (i : Nat) (v : IxView) (hv : ps[i]? = some v) : v.InBounds :=
  C04.split_inBounds s N k n hn hdiv ps hps i v hv

/-- stack / hstack / vstack / dstack / column_stack (operands of positive extents): reshape both operands, then concatenate -/
theorem joinReshaped_inBounds (a b a' b' : Shape) (axis : Int) (ha : Pos a) (hb : Pos b)
    (v : IxView2) (hv : joinReshaped a b a' b' axis = some v) : v.InBounds :=
  C04.joinReshaped_inBounds a b a' b' axis ha hb v hv

/-- diagonal of any rank, any pair of DIFFERENT in-range axes (negative axes included), every offset -/
theorem diagonal_inBounds (s : Shape) (off axis1 axis2 : Int) (a1 a2 : Nat)
    (h1 : normalizeAxis1 axis1 s.length = some a1) (h2 : normalizeAxis1 axis2 s.length = some a2) (hne : a1 ≠ a2)
    (v : IxView) (hv : diagonalView s off axis1 axis2 = some v) : v.InBounds :=
  C04.diagonal_inBounds s off axis1 axis2 a1 a2 h1 h2 hne v hv

/-- expand over any accepted axis list (repeats included), one spacing per entry -/
theorem expandAxes_inBounds (s : Shape) (axes : List Int) (sps ks : List Nat) (hk : AxesNorm s.length axes ks)
    (hl : sps.length = axes.length) (v : IxView) (hv : expandView s axes sps = some v) : v.InBounds :=
  C04.expandAxes_inBounds s axes sps ks hk hl v hv

/-- sliding_window with a window list over an axis list (negative and repeated axes) on the no-wrap domain -/
theorem slidingWindowList_inBounds (s ws : List Nat) (axes : List Int) (ks : List Nat) (hk : AxesNorm s.length axes ks)
    (hw : ∀ w ∈ ws, 1 ≤ w) (hfit : ∀ p e, s[p]? = some e → winSum ks (ws.map (· - 1)) p ≤ e)
    (v : IxView) (hv : slidingWindowView s ws (some axes) false = some v) : v.InBounds :=
  C04.slidingWindowList_inBounds s ws axes ks hk hw hfit v hv

/-- sliding_window with a window list and axis None on the no-wrap domain (one window per axis, `1 ≤ w ≤ extent + 1`) -/
theorem slidingWindowNone_inBounds (s ws : List Nat) (hl : ws.length = s.length) (hw : ∀ w ∈ ws, 1 ≤ w)
    (hfit : ∀ (p e w : Nat), s[p]? = some e → ws[p]? = some w → w ≤ e + 1) (v : IxView)
    (hv : slidingWindowView s ws none false = some v) : v.InBounds :=
  C04.slidingWindowNone_inBounds s ws hl hw hfit v hv

/-- split at a list of non-negative cut points (beyond the extent: clamped), any accepted axis: every part -/
theorem splitIdx_inBounds (s : Shape) (cuts : List Int) (axis : Int) (k : Nat)
    (hk : normalizeAxis1 axis s.length = some k) (hnn : ∀ c ∈ cuts, 0 ≤ c)
    (ps : List IxView) (hps : splitViews s none cuts axis = some ps) (i : Nat) (v : IxView) (hv : ps[i]? = some v) :
    v.InBounds :=
  C04.splitIdx_inBounds s cuts axis k hk hnn ps hps i v hv

/-- where(cond, x, y): the condition and the selected operand are read inside their shapes -/
theorem where_inBounds (c x y : Shape) (w : WhereView) (h : whereView c x y = some w) (cond : Idx → Int) (d : Idx)
    (hd : InShape d w.dst) :
    InShape (specBroadcastIdx c d) c ∧
      ∀ fl i, w.select cond d = some (fl, i) → InShape i (if fl then y else x) :=
  C04.where_inBounds c x y w h cond d hd

/-- diagonal of a matrix, axes 0 and 1: the rank-2 instance of `diagonal_inBounds` -/
theorem diagonal2d_inBounds_partial (n1 n2 : Nat) (off : Int) (v : IxView)
    (hv : diagonalView [n1, n2] off 0 1 = some v) : v.InBounds :=
  C04.diagonal2d_inBounds_partial n1 n2 off v hv

end C04

section C06
open NmVerif

theorem broadcastTo_inBounds (src dst : Shape) (v : IxView) (h : broadcastToView src dst = some v) : v.InBounds :=
  C06.broadcastTo_inBounds src dst v h

/-- every view produced by `broadcast_arrays` reads its own operand in bounds -/
theorem broadcastArrays_inBounds (ss : List Shape) (vs : List IxView) (h : broadcastArraysViews ss = some vs) :
    ∀ v ∈ vs, v.InBounds := by
  obtain ⟨r, _, hvs⟩ := Option.bind_eq_some_iff.1 h
  intro v hv
  obtain ⟨s, _, hs⟩ := List.mem_of_mapM_eq_some hvs v hv
  exact C06.broadcastTo_inBounds s r v hs

end C06

section C07
open NmVerif NmVerif.Props.C06

/-- element-wise functions (any arity): every operand is read inside its own shape -/
theorem ufunc_reads_inBounds {α β : Type} (op : List α → β) (as : List (Arr α)) (u : Arr (Option β))
    (h : ufunc op as = some u) (d : Idx) (hd : InShape d u.shape) :
    ∀ a ∈ as, InShape (specBroadcastIdx a.shape d) a.shape := C07.ufunc_reads_inBounds op as u h d hd

end C07

section C08
open NmVerif

theorem reduce_inBounds (s : Shape) (hs : Pos s) (axis : Reduce.AxisArg) (keep : Bool)
    (hv : Reduce.ValidAxes s.length axis) (j : Idx)
    (hj : InShape j (Reduce.specShape s (Reduce.axisSet s.length axis) keep)) :
    ∃ r, Reduce.reduceReads s axis keep j = some r ∧ ∀ i ∈ r, InShape i s :=
  C08.reduce_inBounds s hs axis keep hv j hj

theorem accumulate_inBounds (s : Shape) (axis : Int) (hax : Reduce.ValidAxis s.length axis) (d : Idx) (hd : InShape d s) :
    ∃ r, Reduce.accumulateReads s axis d = some r ∧ ∀ i ∈ r, InShape i s :=
  C08.accumulate_inBounds s axis hax d hd

end C08

section C17
open NmVerif NmVerif.NN

/-- pooling windows (incl. the clipped overhang of ceil mode) stay inside the input, on `PoolDom` (positive kernel that fits,
    positive stride) -/
theorem pool_window_in_bounds (lead li : List Nat) (H W kh kw sh sw i j : Nat) (ceil : Bool)
    (hH : PoolDom H kh sh) (hW : PoolDom W kw sw)
    (hidx : InShape (li ++ [i, j]) (lead ++ [poolExtent H kh sh ceil, poolExtent W kw sw ceil]))
    (hli : InShape li lead) :
    ∃ win, poolWindow (lead ++ [H, W]) [kh, kw] [sh, sw] (li ++ [i, j]) = some win
      ∧ win ≠ [] ∧ ∀ x ∈ win, InShape x (lead ++ [H, W]) :=
  ⟨_, poolWindow_spec hli hH hW hidx⟩

end C17

section Chains
open NmVerif NmVerif.Index

/-! ## concrete chains (non-vacuity of `chain_read_in_buffer`) -/

/-- depth 3: `transpose(tile(reshape(a, tgt), reps), axes)` -/
theorem depth3_transpose_tile_reshape_in_buffer {α : Type} (s : Shape) (tgt : List Int) (reps : List Nat)
    (ax : List Int) (p : List Nat) (r t o : IxView) (hs : Pos s)
    (hr : reshapeView s tgt = some r) (ht : tileView r.dst reps = some t)
    (hn : normalizeAxes t.dst.length ax = some p) (hperm : p.Perm (List.range t.dst.length))
    (ho : transposeView t.dst (some ax) = some o)
    (a : NDA α) (hw : a.WF) (hsh : a.shape = s)
    (d : Idx) (hd : InShape d o.dst) (i : Idx) (hm : (compAll o [t, r]).map d = some i) :
    a.offset i < a.data.length := by
  have hrb := reshape_inBounds s tgt r hs hr
  obtain ⟨q, hq, rfl⟩ := Option.map_eq_some_iff.1 hr
  have hrpos := shapeReshape_pos s tgt q hs hq
  have htb := tile_inBounds _ reps t ht hrpos
  obtain rfl := Option.some.inj ht
  have hob := transpose_inBounds _ ax p o hn hperm ho
  rw [transposeView_some _ ax p hn hperm] at ho
  obtain rfl := Option.some.inj ho
  exact chain_read_in_buffer _ [_, _] ⟨hob, rfl, htb, rfl, hrb⟩ a hw hsh.symm d hd i hm

/-- depth 3 with a fill stage: `flip(pad(broadcast_to(a, shape), widths), axes)` — no positivity needed -/
theorem depth3_flip_pad_broadcast_in_buffer {α : Type} (s dst before after : List Nat) (axes : Option (List Int))
    (b p f : IxView) (hb : broadcastToView s dst = some b)
    (hbl : before.length = dst.length) (hal : after.length = dst.length)
    (hp : padView dst (before ++ after) = some p) (hf : flipView p.dst axes = some f)
    (a : NDA α) (hw : a.WF) (hsh : a.shape = s)
    (d : Idx) (hd : InShape d f.dst) (i : Idx) (hm : (compAll f [p, b]).map d = some i) :
    a.offset i < a.data.length := by
  have hbb := broadcastTo_inBounds s dst b hb
  obtain ⟨_, _, rfl⟩ := Option.map_eq_some_iff.1 hb
  have hpb := pad_inBounds dst before after hbl hal p hp
  obtain ⟨_, _, rfl⟩ := Option.map_eq_some_iff.1 hp
  have hfb := flip_inBounds _ axes f hf
  obtain rfl := Option.some.inj hf
  exact chain_read_in_buffer _ [_, _] ⟨hfb, rfl, hpb, rfl, hbb⟩ a hw hsh.symm d hd i hm

/-! non-vacuity: the hypotheses hold on concrete values and the chain really reads the claimed element -/
example : (do
    let r ← reshapeView [2,3] [3,-1]
    let t ← tileView r.dst [2,1,2]
    let o ← transposeView t.dst (some [2,0,-2])
    pure ((compAll o [t, r]).dst, (compAll o [t, r]).map [3,1,2])) = some ([4,2,3], some [1,2]) := by decide
example : normalizeAxes 3 [2,0,-2] = some [2,0,1] ∧ [2,0,1].Perm (List.range 3) := by decide
example : (do
    let b ← broadcastToView [3,1] [2,3,2]
    let p ← padView b.dst ([1,0,1] ++ [0,2,0])
    let f ← flipView p.dst (some [0,2])
    pure ((compAll f [p, b]).dst, (compAll f [p, b]).map [0,1,0], (compAll f [p, b]).map [2,0,0])) =
    some ([3,5,3], some [1,0], none) := by decide

end Chains

/-! ## capacity: a result container sized by the operands' bound is never asked to hold more

The C++ result type of these index functions is, for bounded operands, `static_vector<_, B>` with `B` the bound
of the operand (resp. the larger of the two operands' bounds).  Each theorem: the number of entries the function
writes is at most that bound. -/
section Capacity
open NmVerif NmVerif.Index

theorem shapeTranspose_len_le_cap (s : Shape) (axes : Option (List Int)) (r : Shape) (cap : Nat)
    (h : shapeTranspose s axes = some r) (hc : s.length ≤ cap) : r.length ≤ cap := by
  rw [Cap.shapeTranspose_length s axes r h]; exact hc

theorem shapeReshape_len_le_cap (src : Shape) (dst : List Int) (r : Shape) (cap : Nat)
    (h : shapeReshape src dst = some r) (hc : dst.length ≤ cap) : r.length ≤ cap := by
  rw [shapeReshape_length src dst r h]; exact hc

theorem broadcastShape_len_le_cap (a b r : Shape) (capA capB : Nat) (h : broadcastShape2 a b = some r)
    (ha : a.length ≤ capA) (hb : b.length ≤ capB) : r.length ≤ max capA capB := by
  rw [bc2_length h]; exact Nat.max_le_max ha hb

theorem shapeTile_len_le_cap (s reps : List Nat) (capS capR : Nat) (hs : s.length ≤ capS) (hr : reps.length ≤ capR) :
    (shapeTile s reps).length ≤ max capS capR := by
  rw [shapeTile_length]; exact Nat.max_le_max hs hr

theorem removeDims_len_le_cap (s : Shape) (axis : Reduce.AxisArg) (keep : Bool) (r : Shape) (cap : Nat)
    (h : Reduce.removeDims s axis keep = some r) (hc : s.length ≤ cap) : r.length ≤ cap :=
  Nat.le_trans (Cap.removeDims_length_le s axis keep r h) hc

theorem shapeConcatenate_len_le_cap (a b : Shape) (axis : Int) (cap : Nat) (hc : a.length ≤ cap) :
    (shapeConcatenate a b axis).2.length ≤ cap :=
  Nat.le_trans (Cap.shapeConcatenate_length_le a b axis) hc

theorem shapePad_len_le_cap (s widths r : List Nat) (cap : Nat) (h : shapePad s widths = some r)
    (hc : s.length ≤ cap) : r.length ≤ cap := by
  rw [Cap.shapePad_length s widths r h]; exact hc

theorem shapeRepeat_len_le_cap (s : Shape) (r : Nat) (axis : Int) (t : Shape) (cap : Nat)
    (h : shapeRepeat s r axis = some t) (hc : s.length ≤ cap) : t.length ≤ cap := by
  rw [Cap.shapeRepeat_length s r axis t h]; exact hc

theorem shapeRepeatList_len_le_cap (s : Shape) (rs : List Nat) (axis : Int) (t : Shape) (cap : Nat)
    (h : shapeRepeatList s rs axis = some t) (hc : s.length ≤ cap) : t.length ≤ cap := by
  rw [Cap.shapeRepeatList_length s rs axis t h]; exact hc

/-- known finding `eval.fixed-buffer-result`: an accepted view can have MORE elements than its operand, so a result
    container that keeps the operand's fixed capacity (what `eval()` resolves for `ndarray_t<std::array<T,N>,…>`)
    cannot hold the result: `repeat((2,3), 2, axis 1)` has 12 elements, the operand's buffer 6 -/
theorem eval_fixed_buffer_counterexample :
    ∃ t, shapeRepeat [2,3] 2 1 = some t ∧ ¬ (prod t ≤ prod [2,3]) := ⟨[2,6], by decide, by decide⟩

/-! non-vacuity: a rank-3 shape in a container bounded by 4, reps of length 5 in a container bounded by 8 -/
example : (shapeTile [2,3,4] [1,2,1,2,1]).length = 5 ∧ 5 ≤ max 4 8 := by decide
example : broadcastShape2 [3,1] [2,1,4] = some [2,3,4] := by decide
example : shapeTranspose [2,3,4] (some [2,0,1]) = some [4,2,3] ∧ shapeReshape [2,3,4] [4,-1] = some [4,6] := by decide
example : Reduce.removeDims [2,3,4] (some [0,-1]) false = some [3] ∧ shapePad [2,3] [1,0,0,2] = some [3,5] := by decide
example : shapeConcatenate [2,3] [2,1] 1 = (true, [2,4]) ∧ shapeRepeat [2,3] 2 (-1) = some [2,6] := by decide

end Capacity

/-! ## capacity against the bound the result-type metafunction picks

`NmVerif.Cap.cap*` (Index/Capacity.lean) mirror the `resolve_optype` metafunctions — also `capSame bS = bS`, so that every
statement names the metafunction it was compared with (`meta::bounded_size_v` of the real result type, on every run, by
harness/h_c02cap.cpp); `bS`, `bA`, … are the capacities of the operand containers.  Each theorem: whatever the function
writes fits. -/
section CapacityMeta
open NmVerif NmVerif.Cap

/-- `index::shape_expand_dims`: `len(shape) + len(axes)` entries into `static_vector<_, B_N + B_M>` (an integer axis: `B_SIZE + 1`) -/
theorem shapeExpandDims_len_le_cap (s : Shape) (axes : List Int) (r : Shape) (bS bA : Nat)
    (h : shapeExpandDims s axes = some r) (hs : s.length ≤ bS) (ha : axes.length ≤ bA) :
    r.length ≤ capExpandDims bS bA := by
  rw [Cap.shapeExpandDims_length s axes r h]; exact Nat.add_le_add hs ha

theorem shapeSqueeze_len_le_cap (s : Shape) (bS : Nat) (hs : s.length ≤ bS) : (shapeSqueeze s).length ≤ capSame bS :=
  Nat.le_trans (List.length_filter_le _ _) hs

theorem removeSingleDims_len_le_cap (s : Shape) (bS : Nat) (hs : s.length ≤ bS) : (removeSingleDims s).length ≤ capSame bS :=
  Nat.le_trans (List.length_filter_le _ _) hs

/-- `index::shape_sliding_window`, every argument form (window list / scalar window = the one-element list with `bW = 1`;
    axis list, single axis, None): `len(shape) + len(window)` entries into `static_vector<_, src_b_dim + b_window_dim>` -/
theorem shapeSlidingWindow_len_le_cap (s ws : List Nat) (axes : Option (List Int)) (scalarW : Bool) (r : Shape) (bS bW : Nat)
    (h : Index.shapeSlidingWindow s ws axes scalarW = some r) (hs : s.length ≤ bS) (hw : ws.length ≤ bW) :
    r.length ≤ capSlidingWindow bS bW := by
  rw [Cap.shapeSlidingWindow_length s ws axes scalarW r h]; exact Nat.add_le_add hs hw

/-- `index::shape_take` with an integer axis: the result container is the shape's own type -/
theorem shapeTake_len_le_cap (s : Shape) (nIdx : Nat) (axis : Int) (bS : Nat) (hs : s.length ≤ bS) :
    (Index.shapeTake s nIdx axis).length ≤ capSame bS := by
  simp only [Index.shapeTake, Index.mapAt_length]; exact hs

/-- `index::shape_slice` (packed slices): `dim - #integers` entries -/
theorem shapeSlice_len_le_cap (s : List Nat) (es : List Slice.Entry) (r : List Nat) (bS : Nat)
    (h : Slice.shapeSlice s es = some r) (hs : s.length ≤ bS) : r.length ≤ capSame bS :=
  Nat.le_trans (Cap.shapeSlice_length_le s es r h) hs

/-- `index::shape_dynamic_slice` (run-time list of slices) -/
theorem shapeDynamicSlice_len_le_cap (s : List Nat) (es : List Slice.Entry) (r : List Nat) (bS : Nat)
    (h : Slice.shapeDynamicSlice s es = some r) (hs : s.length ≤ bS) : r.length ≤ capSame bS :=
  Nat.le_trans (Cap.shapeDynamicSlice_length_le s es r h) hs

/-- `index::moveaxis_to_transpose`: `dim` entries into `static_vector<_, B_DIM>` (B_DIM the bound of the SHAPE) -/
theorem moveaxisToTranspose_len_le_cap (s : Shape) (source destination : List Int) (r : List Nat) (bS : Nat)
    (h : moveaxisToTranspose s.length source destination = some r) (hs : s.length ≤ bS) : r.length ≤ capSame bS := by
  rw [Cap.moveaxisToTranspose_length _ _ _ _ h]; exact hs

/-- `index::normalize_axis` on an axis list: one entry per axis into `static_vector<_, B_DIM>` (B_DIM the bound of the AXES) -/
theorem normalizeAxes_len_le_cap (ndim : Nat) (axes : List Int) (r : List Nat) (bA : Nat)
    (h : normalizeAxes ndim axes = some r) (ha : axes.length ≤ bA) : r.length ≤ capSame bA := by
  rw [List.length_of_mapM_eq_some h]; exact ha

theorem shapeRoll_len_le_cap (s : Shape) (axes : List Int) (r : Shape) (bS : Nat)
    (h : Index.shapeRoll s axes = some r) (hs : s.length ≤ bS) : r.length ≤ capSame bS := by
  rw [Cap.shapeRoll_length s axes r h]; exact hs

/-- `index::shape_resize`: the result is sized by the TARGET shape and bounded by the target's bound -/
theorem shapeResize_len_le_cap (s dst r : Shape) (bD : Nat)
    (h : Index.shapeResize s dst = some r) (hd : dst.length ≤ bD) : r.length ≤ capSame bD := by
  rw [Cap.shapeResize_length s dst r h]; exact hd

/-- `index::shape_expand` (view/expand.hpp), any axis / spacing lists -/
theorem shapeExpand_len_le_cap (s : Shape) (ks sps : List Nat) (bS : Nat) (hs : s.length ≤ bS) :
    (Index.shapeExpand s ks sps).length ≤ capSame bS := by
  rw [Cap.shapeExpand_length]; exact hs

/-- `index::shape_diagonal` (view/diagonal.hpp): `dim - 1` entries into `static_vector<_, B_DIM - 1>` for two DIFFERENT axes -/
theorem shapeDiagonal_len_le_cap (s : Shape) (off : Int) (a1 a2 : Nat) (r : Shape) (bS : Nat) (hne : a1 ≠ a2)
    (h : Index.shapeDiagonal s off a1 a2 = some r) (hs : s.length ≤ bS) : r.length ≤ capDiagonal bS :=
  Nat.le_sub_one_of_lt (Nat.le_trans (Nat.le_of_eq (Cap.shapeDiagonal_length s off a1 a2 r hne h)) hs)

/-- known finding `diagonal.equal-axes`: the hypothesis `a1 ≠ a2` above is NOT checked by the code.  With both axes equal
    `shape_diagonal` skips one axis only and writes `dim` entries into a container sized (and, bounded, capped) for `dim - 1`:
    `view::diagonal(a(2,3), 0, 0, 0)` writes 2 entries where the bound of a rank-2 shape at full capacity allows 1 -/
theorem shapeDiagonal_equal_axes_counterexample :
    ∃ r, Index.shapeDiagonal [2,3] 0 0 0 = some r ∧ ¬ (r.length ≤ capDiagonal 2) := ⟨[3,2], by decide, by decide⟩

/-- `index::shape_matmul` (view/matmul.hpp): at most `max(len a, len b)` entries into `static_vector<_, max(B_a, B_b)>` -/
theorem shapeMatmul_len_le_cap (a b r : Shape) (bA bB : Nat) (h : shapeMatmul a b = some r)
    (ha : a.length ≤ bA) (hb : b.length ≤ bB) : r.length ≤ capMatmul bA bB :=
  Nat.le_trans (Cap.shapeMatmul_length_le a b r h) (Nat.max_le_max ha hb)

theorem shapePool2d_len_le_cap (s k st : List Nat) (c : Bool) (r : Shape) (bS : Nat)
    (h : NN.shapePool2d s k st c = some r) (hs : s.length ≤ bS) : r.length ≤ capSame bS := by
  rw [Cap.shapePool2d_length s k st c r h]; exact hs

/-! ### index maps: the source index a view hands to its operand is held by a container bounded like the SOURCE shape
(`static_vector<_, bounded_size_v<src_shape_t>>` in `resolve_optype<sliding_window_t | roll_t | resize_t | expand_t |
diagonal_t | take_t>`): it never has more entries than the source has axes -/

theorem indexSlidingWindow_len_le_cap (d : Idx) (s : Shape) (axes : Option (List Int)) (r : Idx) (bS : Nat)
    (h : Index.indexSlidingWindow d s.length axes = some r) (hs : s.length ≤ bS) : r.length ≤ capSame bS :=
  Nat.le_trans (Cap.indexSlidingWindow_length_le d s.length axes r h) hs

theorem indexRoll_len_le_cap (s : Shape) (d : Idx) (shifts axes : List Int) (r : Idx) (bS : Nat)
    (h : Index.indexRollU s d shifts axes = some r) (hd : d.length = s.length) (hs : s.length ≤ bS) :
    r.length ≤ capSame bS := by
  rw [Cap.indexRollLoop_length s d axes shifts d r h, hd]; exact hs

theorem indexResize_len_le_cap (d : Idx) (s dst : Shape) (bS : Nat) (hs : s.length ≤ bS) :
    (Index.indexResize d s dst).length ≤ capSame bS :=
  Nat.le_trans (Cap.indexResize_length_le d s dst) hs

theorem indexExpand_len_le_cap (d : Idx) (s : Shape) (ks sps : List Nat) (r : Idx) (bS : Nat)
    (h : Index.indexExpand d ks sps = some r) (hd : d.length = s.length) (hs : s.length ≤ bS) : r.length ≤ capSame bS := by
  rw [Cap.indexExpand_length d ks sps r h, hd]; exact hs

theorem indexDiagonal_len_le_cap (s : Shape) (d : Idx) (off : Int) (a1 a2 : Nat) (r : Idx) (bS : Nat)
    (h : Index.indexDiagonal s d off a1 a2 = some r) (hs : s.length ≤ bS) : r.length ≤ capSame bS := by
  rw [Cap.indexDiagonal_length s d off a1 a2 r h]; exact hs

theorem indexTake_len_le_cap (d : Idx) (s : Shape) (indices : List Int) (axis : Int) (bS : Nat)
    (hd : d.length = s.length) (hs : s.length ≤ bS) : (Index.indexTake d s indices axis).length ≤ capSame bS := by
  simp only [Index.indexTake, Index.mapAt_length, hd]; exact hs

example : Index.indexSlidingWindow [1,0,2,1,1,0,1] 4 (some [0,-1,1]) = some [2,1,2,1] := by decide
example : Index.indexRollU [5,6,7,8] [0,1,2,3] [1,2,3] [0,-1,1] = some [4,4,2,1] := by decide
example : Index.indexResize [2,1,0,3] [5,6,7,8] [3,2,1,4] = [3,3,0,6] := by decide
example : Index.indexExpand [2,0,1,3] [0,3,1] [1,2,1] = some [1,0,1,1] := by decide
example : Index.indexDiagonal [5,6,7,8] [1,2,3] 1 0 3 = some [3,1,2,4] := by decide
example : Index.indexTake [1,2,0,3] [5,6,7,8] [2,-1,0] (-2) = [1,2,2,3] := by decide

/-! non-vacuity: every operand AT FULL CAPACITY (rank-4 shape in a container bounded by 4, three axes in a container bounded
    by 3) — the hypotheses hold and the result fills the bound exactly where the function adds axes -/
example : shapeExpandDims [2,3,4,5] [0,2,-1] = some [1,2,1,3,4,5,1] ∧ [1,2,1,3,4,5,1].length = capExpandDims 4 3 := by decide
example : shapeSqueeze [2,1,3,1] = [2,3] ∧ removeSingleDims [2,1,3,1] = [2,3] := by decide
example : Index.shapeSlidingWindow [5,6,7,8] [2,3,2] (some [0,-1,1]) false = some [4,5,7,6,2,3,2] ∧ 7 = capSlidingWindow 4 3 := by decide
example : Index.shapeSlidingWindow [5,6,7,8] [3] none true = some [3,4,5,6,3] ∧ 5 = capSlidingWindow 4 1 := by decide
example : Index.shapeTake [5,6,7,8] 3 (-2) = [5,6,3,8] := by decide
example : Slice.shapeDynamicSlice [5,6] [.range (some 0) (some 3) (some 1), .range (some 1) (some 6) (some 2)] = some [3,3] := by decide
example : Slice.shapeSlice [5,6,7] [.int 1, .ellipsis, .range (some 0) (some 4) (some 2)] = some [6,2] := by decide
example : moveaxisToTranspose 4 [0,1,-1] [2,0,1] = some [1,3,0,2] := by decide
example : normalizeAxes 4 [0,-1,2,1] = some [0,3,2,1] := by decide
example : Index.shapeRoll [5,6,7,8] [0,-1,1] = some [5,6,7,8] ∧ Index.shapeResize [5,6,7,8] [2,3,4,5] = some [2,3,4,5] := by decide
example : Index.shapeExpand [5,6,7,8] [0,3,1] [1,2,1] = [9,11,7,22] := by decide
example : Index.shapeDiagonal [5,6,7,8] 1 0 3 = some [6,7,5] ∧ 3 = capDiagonal 4 := by decide
example : shapeMatmul [5,6,7,8] [8,3] = some [5,6,7,3] ∧ shapeMatmul [8] [5,6,8,3] = some [5,6,3] ∧ 4 = capMatmul 4 2 := by decide
example : NN.shapePool2d [2,3,8,9] [2,3] [2,2] true = some [2,3,4,4] := by decide

end CapacityMeta

end NmVerif.Props.C02
