import NmVerif.Arr
import NmVerif.Index.Transpose
import NmVerif.Index.Reshape
import NmVerif.Index.Flip
import NmVerif.Lemmas.Rearrange
import NmVerif.Lemmas.RearrangePerm
/-
  C03 — Rearranging views (reshape, transpose, moveaxis, ...) equal NumPy's result.
  Only property statements and their non-vacuity examples live here; `expandDims_eq_spec`, which C15 builds on, stands at the
  end of Lemmas/Rearrange (its non-vacuity examples are below, after those of flip).
  MODEL: NmVerif/Index/{Transpose,Reshape,Flip,NormalizeAxis}.lean.

  How the statements are phrased.  A view is an `IxView` (source shape, result shape, destination index ↦ source index).
  "Equals NumPy" is stated by NumPy's own defining equations, never through totalised accessors:
    transpose family   shape[k] = src[p[k]]  and the element at `d` is read from `i` with  i[p[k]] = d[k]
    reshape family     result shape as NumPy computes it, and `flat (view a) = flat a` (element k ↦ element k, C order)
    flip               i[k] = n_k - 1 - d[k] on the listed axes, i[k] = d[k] elsewhere
  Axis arguments are `Int`s; `normalizeAxis(es) … = some p` in a hypothesis is NumPy's `normalize_axis_index/tuple`
  (see `normalizeAxis_spec`).  Hypotheses are the property's guards: positive extents, valid (duplicate-free,
  in-range) axes, equal element count.  Results of rank 0 (NumPy's shape `()`) and negative flip axes are covered:
  the two defects found there in the original tree (fixes/C03-*.diff) are repaired and the model follows the repaired code.
-/
namespace NmVerif.Props.C03
open NmVerif

/-- `normalize_axis` = NumPy's `normalize_axis_index`: accepted iff `-ndim ≤ a < ndim`, and then `a mod ndim` -/
theorem normalizeAxis_spec (ndim : Nat) (a : Int) (k : Nat) :
    normalizeAxis ndim a = some k ↔ (-(ndim : Int) ≤ a ∧ a < (ndim : Int) ∧ (k : Int) = a % (ndim : Int)) :=
  normalizeAxis_eq_mod ndim a k

/-- **transpose = NumPy** for every rank and every permutation (axes possibly written with negative indices):
    `p` is NumPy's normalised axes tuple; the result has `shape[k] = src[p[k]]` and reads, at destination index `d`,
    the source index `i` with `i[p[k]] = d[k]` (the defining equations of `np.transpose`). -/
theorem transpose_eq_spec (src : Shape) (ax : List Int) (p : List Nat)
    (hn : normalizeAxes src.length ax = some p) (hperm : p.Perm (List.range src.length)) :
    ∃ v, transposeView src (some ax) = some v ∧ v.src = src ∧ v.dst.length = src.length ∧
      (∀ (k a : Nat), p[k]? = some a → v.dst[k]? = src[a]?) ∧
      (∀ d : Idx, d.length = src.length → ∃ i, v.map d = some i ∧ i.length = src.length ∧
          ∀ (k a : Nat), p[k]? = some a → i[a]? = d[k]?) := by
  obtain ⟨hlen, _, hlt⟩ := of_perm_range p _ hperm
  refine ⟨_, transposeView_some src ax p hn hperm, rfl, by rw [gatherAt_length, hlen], ?_, ?_⟩
  · intro k a hk
    exact gatherAt_get src p k a hk (hlt a (List.mem_of_getElem? hk))
  · intro d hd
    exact ⟨scatterAt d p, rfl, by rw [scatterAt_length, hd], fun k a hk => scatterAt_get d p _ hperm hd k a hk⟩

/-- default transpose (`axes = None`) = NumPy's `.T`: axes reversed -/
theorem transpose_default_eq_spec (src : Shape) :
    ∃ v, transposeView src none = some v ∧ v.src = src ∧ v.dst.length = src.length ∧
      (∀ k : Nat, k < src.length → v.dst[k]? = src[src.length - 1 - k]?) ∧
      (∀ d : Idx, d.length = src.length → ∃ i, v.map d = some i ∧ i.length = src.length ∧
          ∀ k : Nat, k < src.length → i[src.length - 1 - k]? = d[k]?) := by
  refine ⟨_, rfl, rfl, List.length_reverse, fun k hk => List.getElem?_reverse hk, fun d hd => ?_⟩
  refine ⟨d.reverse, rfl, List.length_reverse.trans hd, fun k hk => ?_⟩
  rw [← hd] at hk ⊢
  rw [List.getElem?_reverse (Nat.sub_one_sub_lt hk), Nat.sub_sub_self (Nat.le_sub_one_of_lt hk)]

theorem transpose_inBounds (src : Shape) (ax : List Int) (p : List Nat) (v : IxView)
    (hn : normalizeAxes src.length ax = some p) (hperm : p.Perm (List.range src.length))
    (hv : transposeView src (some ax) = some v) : v.InBounds := by
  rw [transposeView_some src ax p hn hperm] at hv
  cases hv
  exact IxView.inBounds_of_total fun d hd => scatterAt_inShape src d p hperm hd

theorem transpose_default_inBounds (src : Shape) (v : IxView) (hv : transposeView src none = some v) :
    v.InBounds := by
  obtain rfl := Option.some.inj hv
  exact IxView.inBounds_of_total fun d hd => by simpa using InShape.reverse hd

/-- transposing with a permutation `p` and then with its inverse `q` restores the array:
    the composed view has the source's shape and reads element `d` at `d`. -/
theorem transpose_transpose_inv (src : Shape) (ax aq : List Int) (p q : List Nat)
    (hn : normalizeAxes src.length ax = some p) (hq : normalizeAxes src.length aq = some q)
    (hp : p.Perm (List.range src.length)) (hqp : q.Perm (List.range src.length))
    (hinv : ∀ (k a : Nat), p[k]? = some a → q[a]? = some k) :
    ∃ v w, transposeView src (some ax) = some v ∧ transposeView v.dst (some aq) = some w ∧
      (w.comp v).src = src ∧ (w.comp v).dst = src ∧ ∀ d, InShape d src → (w.comp v).map d = some d := by
  have hlen := (of_perm_range p _ hp).1
  have hgl : (gatherAt src p).length = src.length := by rw [gatherAt_length, hlen]
  refine ⟨_, _, transposeView_some src ax p hn hp,
    transposeView_some _ aq q (by rw [hgl]; exact hq) (by rw [hgl]; exact hqp), rfl, ?_, ?_⟩
  · show gatherAt (gatherAt src p) q = src
    rw [← scatterAt_eq_gatherAt_of_inv src p q _ rfl hp hqp hinv, gatherAt_scatterAt _ q _ hqp rfl]
  · intro d hd
    show (some (scatterAt d q)).bind (fun e => some (scatterAt e p)) = some d
    rw [Option.bind_some, scatterAt_eq_gatherAt_of_inv d p q _ hd.length_eq hp hqp hinv,
      scatterAt_gatherAt_perm d p _ hp hd.length_eq]

/-- … as a statement about arrays: `transpose(transpose(a, p), p⁻¹) ≈ a` (same shape, same elements) -/
theorem transpose_transpose_inv_arr {α : Type} (a : Arr α) (fill : α) (ax aq : List Int) (p q : List Nat)
    (hn : normalizeAxes a.shape.length ax = some p) (hq : normalizeAxes a.shape.length aq = some q)
    (hp : p.Perm (List.range a.shape.length)) (hqp : q.Perm (List.range a.shape.length))
    (hinv : ∀ (k a : Nat), p[k]? = some a → q[a]? = some k) :
    ∃ v w, transposeView a.shape (some ax) = some v ∧ transposeView v.dst (some aq) = some w ∧
      (w.apply (v.apply a fill) fill).Equiv a := by
  obtain ⟨v, w, hv, hw, _, hdst, hmap⟩ := transpose_transpose_inv a.shape ax aq p q hn hq hp hqp hinv
  refine ⟨v, w, hv, hw, hdst, fun d hd => ?_⟩
  obtain ⟨e, hwd, hve⟩ := Option.bind_eq_some_iff.1 (hmap d (hdst ▸ hd))
  simp only [IxView.apply, hwd, hve]

/-! non-vacuity (transpose): a rank-3 permutation written with a negative index, and its inverse -/
example : normalizeAxes [2,3,4].length [-1,0,1] = some [2,0,1] ∧ [2,0,1].Perm (List.range 3) := by decide
example : (transposeView [2,3,4] (some [-1,0,1])).map (fun v => (v.dst, v.map [3,1,2])) = some ([4,2,3], some [1,2,3]) := by decide
example : ∀ (k a : Nat), [2,0,1][k]? = some a → [1,2,0][a]? = some k := by
  rintro (_ | _ | _ | k) a ⟨⟩ <;> rfl

/-- **reshape shape = NumPy** (no `-1`): a target of positive extents (of any rank, rank 0 included) with the same
    element count is accepted and is the result shape -/
theorem reshape_shape (src t : Shape) (ht : Pos t) (hp : prod t = prod src) :
    shapeReshape src (t.map Int.ofNat) = some t :=
  shapeReshape_ofNat src t ht hp

/-- **one inferred `-1`** at any position: with `m` = product of the other (positive) target extents and `m ∣ size`,
    the result shape is the target with `-1` replaced by `size / m` (NumPy's rule). -/
theorem reshape_infer (src pre post : Shape) (hpre : Pos pre) (hpost : Pos post)
    (hdiv : prod pre * prod post ∣ prod src) :
    shapeReshape src (pre.map Int.ofNat ++ [-1] ++ post.map Int.ofNat)
      = some (pre ++ [prod src / (prod pre * prod post)] ++ post) := by
  have hc : cntNeg (pre.map Int.ofNat ++ [-1] ++ post.map Int.ofNat) = 1 := by
    rw [cntNeg_append, cntNeg_append, cntNeg_ofNat, cntNeg_ofNat]; rfl
  have hpn : prodNonNeg (pre.map Int.ofNat ++ [-1] ++ post.map Int.ofNat) = prod pre * prod post := by
    rw [prodNonNeg_append, prodNonNeg_append, prodNonNeg_ofNat, prodNonNeg_ofNat]
    exact congrArg (· * prod post) (Nat.mul_one _)
  rw [shapeReshape_eq_some_iff, hc, hpn]
  refine ⟨⟨Nat.le_refl _, ?_, nofun, Nat.mod_eq_zero_of_dvd hdiv⟩, ?_⟩
  · exact List.forall_mem_append.2 ⟨List.forall_mem_append.2
      ⟨ofNat_extents_valid pre hpre, fun _ hd => Or.inl (List.mem_singleton.1 hd)⟩, ofNat_extents_valid post hpost⟩
  · rw [List.map_append, List.map_append, map_inferred_ofNat, map_inferred_ofNat]; rfl

/-- the inferred extent makes the element counts agree -/
theorem reshape_infer_count (src pre post : Shape) (hdiv : prod pre * prod post ∣ prod src) :
    prod (pre ++ [prod src / (prod pre * prod post)] ++ post) = prod src := by
  simp only [prod_append, prod, Nat.mul_one]
  rw [Nat.mul_right_comm, Nat.mul_comm _ (prod src / _)]
  exact Nat.div_mul_cancel hdiv

/-- **reshape keeps C order**: every accepted reshape (with or without `-1`) of an array with positive extents
    has the same flattening as the source — element `k` of the result is element `k` of the source (`np.reshape`). -/
theorem reshape_elem {α : Type} (a : Arr α) (fill : α) (dst : List Int) (v : IxView) (ha : Pos a.shape)
    (hv : reshapeView a.shape dst = some v) :
    prod v.dst = prod a.shape ∧ (v.apply a fill).flat = a.flat := by
  obtain ⟨s, hs, rfl⟩ := Option.map_eq_some_iff.1 hv
  have hp := shapeReshape_prod a.shape dst s hs
  exact ⟨hp, reshape_map_flat a s hp⟩

/-- every access of an accepted reshape stays inside the source -/
theorem reshape_inBounds (src : Shape) (dst : List Int) (v : IxView) (hs : Pos src)
    (hv : reshapeView src dst = some v) : v.InBounds := by
  obtain ⟨s, _, rfl⟩ := Option.map_eq_some_iff.1 hv
  exact IxView.inBounds_of_total fun _ _ => indices_inShape hs _

/-- **flatten** is accepted for positive extents, has shape `[size]` -/
theorem flatten_shape (src : Shape) (hs : Pos src) :
    ∃ v, flattenView src = some v ∧ v.src = src ∧ v.dst = [prod src] := by
  have h : shapeReshape src [(prod src : Int)] = some [prod src] :=
    reshape_shape src [prod src] (List.forall_mem_singleton.2 (prod_pos hs)) (Nat.mul_one _)
  exact ⟨_, by rw [flattenView, reshapeView, h]; rfl, rfl, rfl⟩

/-- **squeeze = NumPy** (positive extents; a rank-0 result included): all extents `1` are removed, the others keep their
    order, C order of the elements is kept -/
theorem squeeze_eq_spec {α : Type} (a : Arr α) (fill : α) (ha : Pos a.shape) :
    ∃ v, squeezeView a.shape = some v ∧ v.src = a.shape ∧ v.dst = a.shape.filter (fun e => e != 1) ∧
      (v.apply a fill).flat = a.flat ∧ v.InBounds :=
  reshapeView_nat a fill (shapeSqueeze a.shape) (Shape.prod_filter_ne_one _ (fun x h => by simpa using h) _) ha

/-- **atleast_nd / atleast_1d / atleast_2d = NumPy** (`ndmin`; positive extents): ones are prepended up to rank `nd`,
    C order kept -/
theorem atleastNd_eq_spec {α : Type} (a : Arr α) (fill : α) (nd : Nat) (ha : Pos a.shape) :
    ∃ v, atleastNdView a.shape nd = some v ∧ v.src = a.shape ∧
      v.dst = List.replicate (nd - a.shape.length) 1 ++ a.shape ∧
      (v.apply a fill).flat = a.flat ∧ v.InBounds := by
  have hsh : shapeAtleastNd a.shape nd = List.replicate (nd - a.shape.length) 1 ++ a.shape := by
    rw [shapeAtleastNd, ← Nat.sub_max_sub_right, Nat.sub_self, Nat.zero_max]
  rw [atleastNdView, hsh]
  exact reshapeView_nat a fill _ (by rw [prod_append, Shape.prod_replicate_one, Nat.one_mul]) ha

/-- **flip = NumPy** for every valid axis list (negative entries allowed): `nax` is NumPy's normalised axis tuple;
    same shape; element `d` is read from `i` with `i[k] = n_k - 1 - d[k]` on the listed axes and `i[k] = d[k]` elsewhere -/
theorem flip_eq_spec (src : Shape) (ax : List Int) (nax : List Nat)
    (hn : normalizeAxes src.length ax = some nax) :
    ∃ v, flipView src (some ax) = some v ∧ v.src = src ∧ v.dst = src ∧
      ∀ d, InShape d src → ∃ i, v.map d = some i ∧ i.length = src.length ∧
        ∀ (k n x : Nat), src[k]? = some n → d[k]? = some x →
          i[k]? = some (if k ∈ nax then n - 1 - x else x) := by
  refine ⟨_, rfl, rfl, rfl, ?_⟩
  intro d hd
  obtain ⟨h1, _, h3⟩ := flipGo_does (some ax) src.length 0 src d hd
  refine ⟨flipIdx src (some ax) d, rfl, h1.length_eq, fun k n x hn' hx => ?_⟩
  simp only [flipIdx]
  rw [h3 k n x hn' hx]
  simp only [Nat.zero_add, flipInAxis_some ax nax src.length k hn]

/-- `flip(a, None)` reverses every axis -/
theorem flip_all_eq_spec (src : Shape) :
    ∃ v, flipView src none = some v ∧ v.src = src ∧ v.dst = src ∧
      ∀ d, InShape d src → ∃ i, v.map d = some i ∧ i.length = src.length ∧
        ∀ (k n x : Nat), src[k]? = some n → d[k]? = some x → i[k]? = some (n - 1 - x) := by
  refine ⟨_, rfl, rfl, rfl, ?_⟩
  intro d hd
  obtain ⟨h1, _, h3⟩ := flipGo_does none src.length 0 src d hd
  refine ⟨flipIdx src none d, rfl, h1.length_eq, fun k n x hn hx => ?_⟩
  simp only [flipIdx]
  rw [h3 k n x hn hx]
  simp [flipInAxis]

theorem flip_inBounds (src : Shape) (axes : Option (List Int)) (v : IxView)
    (hv : flipView src axes = some v) : v.InBounds := by
  obtain rfl := Option.some.inj hv
  exact IxView.inBounds_of_total fun d hd => (flipGo_does axes src.length 0 src d hd).1

/-- **flipping twice restores the array** (any axes argument) -/
theorem flip_flip (src : Shape) (axes : Option (List Int)) :
    ∃ v w, flipView src axes = some v ∧ flipView v.dst axes = some w ∧
      (w.comp v).src = src ∧ (w.comp v).dst = src ∧ ∀ d, InShape d src → (w.comp v).map d = some d := by
  refine ⟨_, _, rfl, rfl, rfl, rfl, ?_⟩
  intro d hd
  show (some (flipIdx src axes d)).bind (fun e => some (flipIdx src axes e)) = some d
  simp only [Option.bind_some, Option.some.injEq, flipIdx]
  exact (flipGo_does axes src.length 0 src d hd).2.1

/-! non-vacuity (`flip_eq_spec`) -/
example : normalizeAxes ([2,3,4] : Shape).length [0,-1] = some [0,2] := by decide
example : (flipView [2,3,4] (some [0,-1])).bind (fun v => v.map [0,1,1]) = some [1,1,2] := by decide
example : InShape [0,1,1] [2,3,4] := by decide

/-! non-vacuity (`expandDims_eq_spec`, Lemmas/Rearrange) -/
example : normalizeAxes (([2,3] : Shape).length + ([0,-1] : List Int).length) [0,-1] = some [0,3] ∧ [0,3].Nodup := by decide
example : (expandDimsView [2,3] [0,-1]).map (·.dst) = some [1,2,3,1] ∧
    dropAxes (fun j => [0,3].contains j) 0 [1,2,3,1] = [2,3] := by decide

/-- **transpose is a permutation of the source elements** (every permutation, positive extents) -/
theorem transpose_is_permutation {α : Type} (a : Arr α) (fill : α) (ax : List Int) (p : List Nat)
    (hn : normalizeAxes a.shape.length ax = some p) (hperm : p.Perm (List.range a.shape.length))
    (ha : Pos a.shape) :
    ∃ v, transposeView a.shape (some ax) = some v ∧ (v.apply a fill).flat.Perm a.flat := by
  refine ⟨_, transposeView_some a.shape ax p hn hperm, ?_⟩
  refine flat_perm_of_bij a (gatherAt a.shape p) (fun d => scatterAt d p) (fun i => gatherAt i p) ?_ ?_
  · intro d hd
    have hdlen : d.length = a.shape.length := by rw [hd.length_eq, gatherAt_length, (of_perm_range p _ hperm).1]
    exact ⟨scatterAt_inShape _ d p hperm hd, gatherAt_scatterAt d p _ hperm hdlen⟩
  · intro i hi
    exact ⟨(inShape_gatherAt_iff i _ p _ hperm hi.length_eq rfl).2 hi, scatterAt_gatherAt_perm i p _ hperm hi.length_eq⟩

theorem transpose_default_is_permutation {α : Type} (a : Arr α) (fill : α) (ha : Pos a.shape) :
    ∃ v, transposeView a.shape none = some v ∧ (v.apply a fill).flat.Perm a.flat := by
  refine ⟨_, rfl, flat_perm_of_bij a a.shape.reverse List.reverse List.reverse ?_ ?_⟩
  · intro d hd
    exact ⟨by simpa using InShape.reverse hd, by simp⟩
  · intro i hi
    exact ⟨InShape.reverse hi, by simp⟩

/-- **flip is a permutation of the source elements** (any axes argument, positive extents) -/
theorem flip_is_permutation {α : Type} (a : Arr α) (fill : α) (axes : Option (List Int)) (ha : Pos a.shape) :
    ∃ v, flipView a.shape axes = some v ∧ (v.apply a fill).flat.Perm a.flat := by
  have h := fun d hd => (flipGo_does axes a.shape.length 0 a.shape d hd).imp_right And.left
  exact ⟨_, rfl, flat_perm_of_bij a a.shape (flipIdx a.shape axes) (flipIdx a.shape axes) h h⟩

/-- **reshape, flatten, expand_dims, squeeze, atleast_nd keep C order** — whenever one of them yields a view of an
    array with positive extents, the view's elements in C order are exactly the source's (the identity permutation) -/
theorem reshape_family_keeps_order {α : Type} (a : Arr α) (fill : α) (v : IxView) (ha : Pos a.shape)
    (dst : List Int) (ax : List Int) (nd : Nat)
    (hv : reshapeView a.shape dst = some v ∨ flattenView a.shape = some v ∨ expandDimsView a.shape ax = some v ∨
          squeezeView a.shape = some v ∨ atleastNdView a.shape nd = some v) :
    (v.apply a fill).flat = a.flat := by
  rcases hv with h | h | h | h | h
  · exact (reshape_elem a fill dst v ha h).2
  · exact (reshape_elem a fill _ v ha h).2
  · obtain ⟨s, _, hs⟩ := Option.bind_eq_some_iff.1 h
    exact (reshape_elem a fill _ v ha hs).2
  · exact (reshape_elem a fill _ v ha h).2
  · exact (reshape_elem a fill _ v ha h).2

theorem reshape_family_is_permutation {α : Type} (a : Arr α) (fill : α) (v : IxView) (ha : Pos a.shape)
    (dst : List Int) (ax : List Int) (nd : Nat)
    (hv : reshapeView a.shape dst = some v ∨ flattenView a.shape = some v ∨ expandDimsView a.shape ax = some v ∨
          squeezeView a.shape = some v ∨ atleastNdView a.shape nd = some v) :
    (v.apply a fill).flat.Perm a.flat :=
  List.Perm.of_eq (reshape_family_keeps_order a fill v ha dst ax nd hv)

/-- **swapaxes = NumPy** (axes possibly negative, positive extents): with `m1, m2` the normalised axes and `σ` the exchange
    of `m1` and `m2`, `shape[k] = src[σ k]` and element `d` is read from `i` with `i[σ k] = d[k]`; it is a permutation of
    the source and stays in bounds. -/
theorem swapaxes_eq_spec {α : Type} (a : Arr α) (fill : α) (a1 a2 : Int) (m1 m2 : Nat)
    (h1 : normalizeAxis a.shape.length a1 = some m1) (h2 : normalizeAxis a.shape.length a2 = some m2)
    (ha : Pos a.shape) :
    ∃ v, swapaxesView a.shape a1 a2 = some v ∧ v.src = a.shape ∧ v.dst.length = a.shape.length ∧
      (∀ k : Nat, k < a.shape.length → v.dst[k]? = a.shape[swapPos m1 m2 k]?) ∧
      (∀ d : Idx, d.length = a.shape.length → ∃ i, v.map d = some i ∧ i.length = a.shape.length ∧
          ∀ k : Nat, k < a.shape.length → i[swapPos m1 m2 k]? = d[k]?) ∧
      v.InBounds ∧ (v.apply a fill).flat.Perm a.flat := by
  obtain ⟨hperm, hn, hsw⟩ := swapaxesView_eq_transpose a.shape a1 a2 m1 m2 h1 h2
  obtain ⟨v, hv, hs, hl, hsh, hmap⟩ := transpose_eq_spec a.shape _ _ hn hperm
  have hpk : ∀ k : Nat, k < a.shape.length →
      ((List.range a.shape.length).map (swapPos m1 m2))[k]? = some (swapPos m1 m2 k) := by
    intro k hk; rw [List.getElem?_map, List.getElem?_range hk]; rfl
  refine ⟨v, hsw.trans hv, hs, hl, fun k hk => hsh k _ (hpk k hk), ?_, transpose_inBounds a.shape _ _ v hn hperm hv, ?_⟩
  · intro d hd
    obtain ⟨i, hi1, hi2, hi3⟩ := hmap d hd
    exact ⟨i, hi1, hi2, fun k hk => hi3 k _ (hpk k hk)⟩
  · obtain ⟨v', hv', hp⟩ := transpose_is_permutation a fill _ _ hn hperm ha
    rw [hv] at hv'; cases hv'; exact hp

example : normalizeAxis ([2,3,4] : Shape).length (-1) = some 2 ∧ normalizeAxis ([2,3,4] : Shape).length 0 = some 0 := by decide
example : (swapaxesView [2,3,4] 0 (-1)).map (fun v => (v.dst, v.map [3,1,0])) = some ([4,3,2], some [0,1,3]) := by decide

/-- **moveaxis = NumPy** (int or list arguments, negative entries allowed, positive extents): `nsrc`, `ndst` are NumPy's
    normalised source / destination tuples (duplicate-free, equally long).  The view is `np.transpose(a, o)` for an order `o`
    that is a permutation of the axes, carries every source axis at its destination and keeps the remaining axes in
    their original order (which determines `o` uniquely — it is the order `np.moveaxis` builds); consequently
    `shape[k] = src[o[k]]`, element `d` is read from `i` with `i[o[k]] = d[k]`, in bounds, a permutation of the source. -/
theorem moveaxis_eq_spec {α : Type} (a : Arr α) (fill : α) (source destination : List Int) (nsrc ndst : List Nat)
    (hs : normalizeAxes a.shape.length source = some nsrc)
    (hd : normalizeAxes a.shape.length destination = some ndst)
    (hlen : nsrc.length = ndst.length) (hns : nsrc.Nodup) (hnd : ndst.Nodup) (ha : Pos a.shape) :
    ∃ (o : List Nat) (v : IxView), moveaxisView a.shape source destination = some v ∧
      o.Perm (List.range a.shape.length) ∧
      (∀ (j s d : Nat), nsrc[j]? = some s → ndst[j]? = some d → o[d]? = some s) ∧
      o.filter (fun i => !nsrc.contains i) = (List.range a.shape.length).filter (fun i => !nsrc.contains i) ∧
      v.src = a.shape ∧ v.dst.length = a.shape.length ∧
      (∀ (k b : Nat), o[k]? = some b → v.dst[k]? = a.shape[b]?) ∧
      (∀ d : Idx, d.length = a.shape.length → ∃ i, v.map d = some i ∧ i.length = a.shape.length ∧
          ∀ (k b : Nat), o[k]? = some b → i[b]? = d[k]?) ∧
      v.InBounds ∧ (v.apply a fill).flat.Perm a.flat := by
  obtain ⟨o, ho, hperm, hplace, hrest⟩ :=
    moveaxisToTranspose_spec a.shape.length source destination nsrc ndst hs hd hlen hns hnd
  have hn := normalizeAxes_ofNat a.shape.length o (of_perm_range o _ hperm).2.2
  obtain ⟨v, hv, hsrc, hl, hsh, hmap⟩ := transpose_eq_spec a.shape _ o hn hperm
  have hview : moveaxisView a.shape source destination = some v := by
    simp only [moveaxisView, ho, Option.bind_some]; exact hv
  refine ⟨o, v, hview, hperm, hplace, hrest, hsrc, hl, hsh, hmap,
    transpose_inBounds a.shape _ o v hn hperm hv, ?_⟩
  obtain ⟨v', hv', hp⟩ := transpose_is_permutation a fill _ o hn hperm ha
  rw [hv] at hv'; cases hv'; exact hp

example : normalizeAxes ([2,3,4,5] : Shape).length [0,-1] = some [0,3] ∧
    normalizeAxes ([2,3,4,5] : Shape).length [-2,0] = some [2,0] ∧ [0,3].Nodup ∧ [2,0].Nodup := by decide
example : moveaxisToTranspose 4 [0,-1] [-2,0] = some [3,1,0,2] ∧
    (moveaxisView [2,3,4,5] [0,-1] [-2,0]).map (·.dst) = some [5,3,2,4] := by decide

/-! non-vacuity (reshape family) -/
example : shapeReshape [2,3,4] [4,-1,2] = some [4,3,2] ∧ (4 * 2 ∣ prod [2,3,4]) := by decide
example : (reshapeView [2,3] [3,-1]).map (fun v => (v.dst, v.provenance)) = some ([3,2], [0,1,2,3,4,5]) := by decide
example : Pos [1,3,1,2] ∧ (∃ e ∈ [1,3,1,2], e ≠ 1) ∧ (squeezeView [1,3,1,2]).map (·.dst) = some [3,2] := by decide
example : (atleastNdView [3] 3).map (·.dst) = some [1,1,3] ∧ (atleastNdView [] 1).map (·.dst) = some [1] := by decide
/-! rank-0 results (NumPy's shape `()`) -/
example : (squeezeView [1,1]).map (fun v => (v.dst, v.provenance)) = some ([], [0]) ∧
    (reshapeView [1] []).map (·.dst) = some [] ∧ (atleastNdView [] 0).map (·.dst) = some [] ∧
    (expandDimsView [] []).map (·.dst) = some [] ∧ reshapeView [2] [] = none := by decide
example : (flattenView [2,3]).map (·.dst) = some [6] := by decide

end NmVerif.Props.C03
