import NmVerif.Basic
import NmVerif.NDA
import NmVerif.Lemmas.Addressing
import NmVerif.Lemmas.NDAWrite
import NmVerif.Index.MachineAddr
import NmVerif.Lemmas.MachineAddr
/-
  C01 — Multi-index <-> flat offset addressing is an order-preserving bijection.
  First over unbounded `Nat`; then with the element type of the index containers as a parameter (strides formed in that
  type, offset accumulated modulo 2^64): the unbounded functions as soon as the extents and the leading stride fit that
  type and there are at most 2^64 elements.
-/
namespace NmVerif.Props.C01
open NmVerif

/-- strides are the products of the trailing extents -/
theorem strides_eq_suffixProd (s : Shape) (k : Nat) (hk : k < s.length) :
    (strides s)[k]? = some (prod (s.drop (k+1))) := by
  induction s generalizing k with
  | nil => exact absurd hk (Nat.not_lt_zero _)
  | cons a t ih =>
    cases k with
    | zero => rfl
    | succ n => exact ih n (Nat.lt_of_succ_lt_succ hk)

/-- every multi-index produced lies inside the (positive) shape, for every offset, even ≥ prod -/
theorem ndindex_inShape (s : Shape) (hs : Pos s) (off : Nat) : InShape (ndindex s off) s :=
  indices_inShape hs off

/-- flat → multi-index → flat is the identity below the element count -/
theorem offset_ndindex (s : Shape) (hs : Pos s) (off : Nat) (h : off < prod s) :
    computeOffset (ndindex s off) (strides s) = off :=
  offset_indices hs h

/-- multi-index → flat → multi-index is the identity on in-shape indices -/
theorem ndindex_offset (s : Shape) (idx : Idx) (h : InShape idx s) :
    ndindex s (computeOffset idx (strides s)) = idx :=
  indices_offset h

/-- offsets of in-shape indices stay below the element count -/
theorem offset_lt_prod (s : Shape) (idx : Idx) (h : InShape idx s) :
    computeOffset idx (strides s) < prod s := offset_lt h

/-- enumerating all positions gives the SPEC enumeration `allIdx s` (row-major order) … -/
theorem enumeration_eq_allIdx (s : Shape) (hs : Pos s) :
    (List.range (prod s)).map (ndindex s) = allIdx s := Shape.map_ndindex_range s

/-- … which really is "every in-shape multi-index" … -/
theorem mem_allIdx_iff (s : Shape) (i : Idx) : i ∈ allIdx s ↔ InShape i s :=
  Shape.mem_allIdx_iff s i

/-- … exactly once -/
theorem enumeration_nodup (s : Shape) (hs : Pos s) :
    ((List.range (prod s)).map (ndindex s)).Nodup := by
  rw [Shape.map_ndindex_range]
  exact Shape.allIdx_nodup s

/-- column-major offsets also stay in the buffer -/
theorem colOffset_lt_prod (s : Shape) (idx : Idx) (h : InShape idx s) :
    computeOffset idx (colStrides s) < prod s := colOffset_lt h

theorem colOffset_inj (s : Shape) (i j : Idx) (hi : InShape i s) (hj : InShape j s)
    (h : computeOffset i (colStrides s) = computeOffset j (colStrides s)) : i = j :=
  colOffset_injective hi hj h

theorem offset_inj (s : Shape) (i j : Idx) (hi : InShape i s) (hj : InShape j s)
    (h : computeOffset i (strides s) = computeOffset j (strides s)) : i = j :=
  offset_injective hi hj h

/-- reading `(i0,…,ik)` addresses the same logical element in both layouts -/
theorem layout_same_logical {α} (cm : Bool) (s : Shape) (f : Idx → α) (i : Idx) (hi : InShape i s) :
    (NDA.ofFn cm s f).get? i = some (f i) := by
  -- cell `k` of the buffer holds `f (unoffset cm s k)`; `unoffset` undoes the offset of `i` in either layout
  have cell {k : Nat} (hk : k < prod s) (hu : NDA.unoffset cm s k = i) :
      ((List.range (prod s)).map (fun k => f (NDA.unoffset cm s k)))[k]? = some (f i) := by
    rw [List.getElem?_map, List.getElem?_range hk, Option.map_some, hu]
  cases cm with
  | false => exact cell (offset_lt hi) (indices_offset hi)
  | true =>
    refine cell (colOffset_lt hi) ?_
    show (ndindex s.reverse (computeOffset i (colStrides s))).reverse = i
    rw [colOffset_eq i s hi.length_eq, ndindex, indices_offset (InShape.reverse hi), List.reverse_reverse]

/-- every stride of a positive shape is at most the element count (so the strides do not wrap when `prod s < 2^w`) -/
theorem intermediates_le_prod (s : Shape) (hs : Pos s) (k : Nat) (hk : k < s.length) :
    ∃ v, (strides s)[k]? = some v ∧ v ≤ prod s := by
  refine ⟨prod (s.drop (k+1)), strides_eq_suffixProd s k hk, ?_⟩
  have hp : 0 < prod (s.take (k+1)) := prod_pos (Shape.pos_of_subset (fun _ => List.mem_of_mem_take) hs)
  rw [← List.take_append_drop (k+1) s, prod_append, List.take_append_drop]
  exact Nat.le_mul_of_pos_left _ hp

/-! ### machine width: the element type of the index containers as a parameter (`NmVerif.Index.MachineAddr`)

  `t : ITy` is the element type (width, signedness) of the shape / strides / indices containers; `SZ = 2^64` is the
  range of `nm_size_t`.  `t.Fits n` (`n < 2^(w-1)` signed, `n < 2^w` unsigned) says that the container can hold `n`.
  Each theorem states the magnitude hypothesis under which the machine result IS the unbounded SPEC of the theorems above,
  next to the guard of C01 (`Pos s`, or an in-shape index) and, where a value is stored into `t`, `t.bits ≤ 64`. -/

/-- `compute_strides` in the element type of the shape: exact as soon as the LEADING stride (the product of all
    extents but the first) fits that type — the element count itself may be far larger (e.g. `int` (3, 2^30)). -/
theorem mStrides_exact (t : ITy) (s : Shape) (hs : Pos s) (hf : t.Fits (prod s.tail)) :
    mStrides t s = some (strides s) := by
  replace hf : prod s.tail < t.lim := hf
  induction s with
  | nil => simp [mStrides, strides]
  | cons a u ih =>
    simp only [List.tail_cons] at hf
    have h1 := mStrideFrom_exact t u hs.tail 1 (Nat.one_mul _) hf
    have h2 : mStrides t u = some (strides u) :=
      ih hs.tail (Nat.lt_of_le_of_lt (prod_tail_le hs.tail) hf)
    simp [mStrides, strides, h1, h2]

/-- `compute_offset` widens every operand to `size_t` before multiplying and accumulates there: the machine offset is the
    true one modulo `2^64` (nothing else is lost) -/
theorem computeOffset_widened_mod (idx st : List Nat) : mOffset idx st = computeOffset idx st % SZ := by
  unfold mOffset
  rw [mOffsetFrom_eq idx st 0 (by decide), Nat.zero_add]

/-- `mOffset` has that widening built in, so the hypotheses about the element types `ti`, `ts` are not used: only `h` (the
    true offset fits `size_t`) matters. -/
theorem computeOffset_widened_exact (ti ts : ITy) (hti : ti.bits ≤ 64) (hts : ts.bits ≤ 64) (idx st : List Nat)
    (hi : ∀ x ∈ idx, ti.Fits x) (hst : ∀ x ∈ st, ts.Fits x) (h : computeOffset idx st < SZ) :
    mOffset idx st = computeOffset idx st :=
  (computeOffset_widened_mod idx st).trans (Nat.mod_eq_of_lt h)

/-- in-shape multi-index, row-major strides of a shape with at most `2^64` elements: the offset is exact and addresses
    inside the buffer, for every element type that can hold extents and strides — in particular for 32-bit containers
    and shapes with more than `2^31` / `2^32` elements. -/
theorem mOffset_inShape_exact (s : Shape) (idx : Idx) (h : InShape idx s) (hn : prod s ≤ SZ) :
    mOffset idx (strides s) = computeOffset idx (strides s) ∧ mOffset idx (strides s) < prod s := by
  have hlt := offset_lt h
  have e : mOffset idx (strides s) = computeOffset idx (strides s) := by
    rw [computeOffset_widened_mod, Nat.mod_eq_of_lt (Nat.lt_of_lt_of_le hlt hn)]
  exact ⟨e, e ▸ hlt⟩

/-- `compute_indices(offset, shape, strides)` with a `size_t` offset and containers of element type `t`: exact (no
    division by zero, no narrowing loss) when the extents and the leading stride fit `t`. -/
theorem mIndices_exact (t : ITy) (hb : t.bits ≤ 64) (s : Shape) (hs : Pos s) (hfit : ∀ x ∈ s, t.Fits x)
    (hf : t.Fits (prod s.tail)) (off : Nat) :
    mIndices t off s (strides s) = some (ndindex s off) := by
  show mIndices t off s (strides s) = some (computeIndices off s (strides s))
  replace hfit : ∀ x ∈ s, x < t.lim := hfit
  replace hf : prod s.tail < t.lim := hf
  have hl := t.lim_le_SZ hb
  induction s with
  | nil => rfl
  | cons a u ih =>
    have hal : a < t.lim := hfit a List.mem_cons_self
    -- stride and extent survive the widening cast; the entry is below the extent, so it fits
    have e1 : szCast (prod u) = prod u := Nat.mod_eq_of_lt (Nat.lt_of_lt_of_le hf hl)
    have e2 : szCast a = a := Nat.mod_eq_of_lt (Nat.lt_of_lt_of_le hal hl)
    have n1 : ¬ (prod u = 0 ∨ a = 0) :=
      fun h => h.elim (Nat.ne_of_gt (prod_pos hs.tail)) (Nat.ne_of_gt hs.head)
    have hr : off / prod u % a < t.lim := Nat.lt_trans (Nat.mod_lt _ hs.head) hal
    have h2 := ih hs.tail (fun x hx => hfit x (List.mem_cons_of_mem _ hx))
      (Nat.lt_of_le_of_lt (prod_tail_le hs.tail) hf)
    rw [strides, mIndices, e1, e2, if_neg n1, t.store_exact hr, h2]
    rfl

/-- the two-argument form / `ndindex_t::operator[]` (strides computed in the same element type first) -/
theorem mNdindex_exact (t : ITy) (hb : t.bits ≤ 64) (s : Shape) (hs : Pos s) (hfit : ∀ x ∈ s, t.Fits x)
    (hf : t.Fits (prod s.tail)) (off : Nat) :
    mNdindex t s off = some (ndindex s off) := by
  unfold mNdindex
  rw [mStrides_exact t s hs hf]
  exact mIndices_exact t hb s hs hfit hf off

/-- machine-level round trip multi-index → offset → multi-index, every element type that holds the extents and the leading
    stride, at most 2^64 elements -/
theorem machine_ndindex_offset (t : ITy) (hb : t.bits ≤ 64) (s : Shape) (idx : Idx) (h : InShape idx s)
    (hfit : ∀ x ∈ s, t.Fits x) (hf : t.Fits (prod s.tail)) (hn : prod s ≤ SZ) :
    (mStrides t s).bind (fun st => mIndices t (mOffset idx st) s st) = some idx := by
  have hs := pos_of_inShape h
  rw [mStrides_exact t s hs hf]
  simp only [Option.bind_some]
  rw [(mOffset_inShape_exact s idx h hn).1, mIndices_exact t hb s hs hfit hf]
  exact congrArg some (indices_offset h)

/-- machine-level round trip offset → multi-index → offset, under the same hypotheses -/
theorem machine_offset_ndindex (t : ITy) (hb : t.bits ≤ 64) (s : Shape) (hs : Pos s) (off : Nat) (ho : off < prod s)
    (hfit : ∀ x ∈ s, t.Fits x) (hf : t.Fits (prod s.tail)) (hn : prod s ≤ SZ) :
    (mNdindex t s off).map (fun idx => mOffset idx (strides s)) = some off := by
  rw [mNdindex_exact t hb s hs hfit hf off]
  simp only [Option.map_some]
  rw [(mOffset_inShape_exact s (ndindex s off) (indices_inShape hs off) hn).1]
  exact congrArg some (offset_indices hs ho)

/-- why the operands must be widened one by one: with the PRODUCT formed in the element type (the cast applied to
    `stride*index`), `int` containers hit signed overflow (UB) and `uint32_t` containers wrap on shapes the theorems
    above cover — `int` (3, 2^30) at (2,5); `uint32_t` (8,1,1024,1024,1,1024) at (5,0,3,2,0,1). -/
theorem narrow_product_counterexample :
    mOffsetNarrow ITy.i32 [2, 5] (strides [3, 1073741824]) = none
    ∧ mOffset [2, 5] (strides [3, 1073741824]) = 2147483653
    ∧ mOffsetNarrow ITy.u32 [5, 0, 3, 2, 0, 1] (strides [8, 1, 1024, 1024, 1, 1024]) = some 1076889601
    ∧ mOffset [5, 0, 3, 2, 0, 1] (strides [8, 1, 1024, 1024, 1, 1024]) = 5371856897 := by decide

/-- KNOWN FINDING strides.narrow-element-type (replayed on the real headers): the hypothesis of `mStrides_exact` is
    needed — `index::stride` forms the suffix product in the element type of the shape container, so with `uint32_t`
    extents (2,65537,65537) (every extent fits, 2^33 elements) the leading stride wraps, strides are not the products of
    the trailing extents and the offset → multi-index map is wrong ((1,0,0) has offset 4295098369). -/
theorem mStrides_unsigned_wrap_counterexample :
    mStrides ITy.u32 [2, 65537, 65537] = some [131073, 65537, 1]
    ∧ strides [2, 65537, 65537] = [4295098369, 65537, 1]
    ∧ (∀ x ∈ [2, 65537, 65537], ITy.u32.Fits x)
    ∧ mNdindex ITy.u32 [2, 65537, 65537] 4295098369 = some [0, 0, 0]
    ∧ ndindex [2, 65537, 65537] 4295098369 = [1, 0, 0] := by decide

/-- same class: a wrapped stride of 0 makes the two-argument `compute_indices` divide by zero, and with a signed element
    type the product overflows (undefined behaviour) -/
theorem mStrides_ub_counterexample :
    mStrides ITy.u32 [2, 65536, 65536] = some [0, 65536, 1] ∧ mNdindex ITy.u32 [2, 65536, 65536] 5 = none
    ∧ mStrides ITy.i32 [2, 65536, 65536] = none := by decide

/-! non-vacuity of the machine-width hypotheses: `int` containers, more than 2^31 elements -/
example : Pos [3, 1073741824] ∧ ITy.i32.Fits (prod [3, 1073741824].tail) ∧ (∀ x ∈ [3, 1073741824], ITy.i32.Fits x)
    ∧ ¬ ITy.i32.Fits (prod [3, 1073741824]) ∧ InShape [2, 5] [3, 1073741824] ∧ prod [3, 1073741824] ≤ SZ := by decide
example : mStrides ITy.i32 [3, 1073741824] = some [1073741824, 1] ∧ mNdindex ITy.i32 [3, 1073741824] 2147483653 = some [2, 5] := by decide
example : (∀ x ∈ [2, 5], ITy.i32.Fits x) ∧ (∀ x ∈ [1073741824, 1], ITy.i32.Fits x) ∧ computeOffset [2, 5] [1073741824, 1] < SZ
    ∧ ITy.i32.bits ≤ 64 := by decide
example : mOffset [1, 4294967295] [18446744069414584320, 1] = 18446744073709551615
    ∧ mOffset [2, 0] [9223372036854775808, 1] = 0 := by decide   -- the second wraps: hypothesis `< SZ` is needed

/-! non-vacuity: concrete instances of the hypotheses -/
example : Pos [2,3,4] ∧ InShape [1,2,3] [2,3,4] ∧ 23 < prod [2,3,4] := by decide
example : ndindex [2,3,4] 23 = [1,2,3] ∧ computeOffset [1,2,3] (strides [2,3,4]) = 23 := by decide
example : computeOffset [1,2,3] (colStrides [2,3,4]) = 23 ∧ computeOffset [1,0,0] (colStrides [2,3,4]) = 1 := by decide
example : (NDA.ofFn true [2,3] (fun i => i)).WF := by simp [NDA.WF, NDA.ofFn]

end NmVerif.Props.C01
