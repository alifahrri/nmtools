import NmVerif.Index.Checked
import NmVerif.Lemmas.Checked
import NmVerif.Lemmas.CheckedOps
import NmVerif.Lemmas.Rearrange
import NmVerif.Lemmas.Roll
import NmVerif.Index.Pad
import NmVerif.Lemmas.BroadcastRule
import NmVerif.Lemmas.Ufunc
/-
  C15 — Invalid arguments are reported as 'Nothing', never as garbage or a crash.

  `Checked.*` (Index/Checked.lean): `normalize_axis` and `shape_reshape` on raw integer arguments, and `Pipe`, the
  propagation of an empty optional.  `…Checked` (Index/CheckedOps.lean) = the checks of a view constructor in the order of
  the C++ followed by the value model of the owning property: the constructor yields a view EXACTLY on NumPy's valid
  arguments, and on those it is the unchecked value model (`Checked.ite_checked`).  For transpose the check is PROPOSED only
  (known finding `C15.transpose-axes-unchecked`, fixes/C15-README.md).
-/
namespace NmVerif.Props.C15
open NmVerif NmVerif.Checked NmVerif.Index

/-- an empty optional fed into any further stage stays empty, at any depth: the pipeline has a value
    iff NO stage failed -/
theorem nothing_propagates (p : Pipe) : p.denote = none ↔ p.hasFailedStage := by
  induction p with
  | leaf s => exact iff_of_false nofun id
  | nothing => exact iff_of_true rfl trivial
  | unary f x ih =>
    simp only [Pipe.denote, Pipe.hasFailedStage, ← ih]
    cases x.denote with
    | none => exact iff_of_true rfl (Or.inl rfl)
    | some s =>
      exact ⟨fun h => Or.inr ⟨s, rfl, h⟩, fun h => h.elim nofun (fun ⟨_, e, h⟩ => Option.some.inj e ▸ h)⟩
  | binary f x y ihx ihy =>
    simp only [Pipe.denote, Pipe.hasFailedStage, ← ihx, ← ihy]
    cases x.denote with
    | none => exact iff_of_true rfl (Or.inl rfl)
    | some a =>
      cases y.denote with
      | none => exact iff_of_true rfl (Or.inr (Or.inl rfl))
      | some b =>
        exact ⟨fun h => Or.inr (Or.inr ⟨a, b, rfl, rfl, h⟩), fun h => h.elim nofun (fun h => h.elim nofun
          (fun ⟨_, _, ea, eb, h⟩ => Option.some.inj ea ▸ Option.some.inj eb ▸ h))⟩

/-- normalize_axis reports Nothing exactly for axes outside [-ndim, ndim) -/
theorem normalizeAxis_isSome_iff (ndim : Nat) (a : Int) :
    (Checked.normalizeAxis ndim a).isSome ↔ (-(ndim : Int) ≤ a ∧ a < ndim) :=
  Option.isSome_ite

theorem normalizeAxis_lt (ndim : Nat) (a : Int) (k : Nat) (h : Checked.normalizeAxis ndim a = some k) : k < ndim :=
  NmVerif.normalizeAxis_lt ndim a k (normalizeAxis_eq_model ndim a ▸ h)

theorem prodOthers_pos (dst : List Int) (h : ∀ d ∈ dst, d = -1 ∨ 0 < d) : 0 < prodOthers dst := by
  rw [prodOthers_eq_prodNonNeg dst h]
  exact Int.natCast_pos.2 (prodNonNeg_pos dst h)

theorem any_bad_iff (dst : List Int) : dst.any (fun d => d ≠ -1 ∧ d ≤ 0) = true ↔ ¬ ∀ d ∈ dst, d = -1 ∨ 0 < d := by
  rw [extentCheck_eq, ← extentCheck_eq_false_iff, Bool.not_eq_false]

/-- the five guards of `Checked.shapeReshape` in order: the tests of the code, and before the division `dstNumel dst ≠ 0`,
    which the code does not test (it would divide by zero) -/
theorem shapeReshape_isSome (src : Shape) (dst : List Int) :
    (Checked.shapeReshape src dst).isSome ↔
      (¬ countMinusOne dst > 1 ∧ ¬ dst.any (fun d => d ≠ -1 ∧ d ≤ 0) = true ∧
       ¬ (countMinusOne dst = 0 ∧ prod src ≠ dstNumel dst) ∧ dstNumel dst ≠ 0 ∧ prod src % dstNumel dst = 0) := by
  simp only [Option.isSome_iff_exists, Checked.shapeReshape, Option.ite_none_left_eq_some, Option.some.injEq,
    exists_and_left, exists_eq', and_true, Decidable.not_not, ne_eq]

/-- reshape reports Nothing EXACTLY when the arguments are invalid (more than one -1, a zero or negative extent,
    a mismatching element count, a non-dividing inferred extent) — for every source shape and every non-empty target -/
theorem shapeReshape_isSome_iff (src : Shape) (dst : List Int) (hne : dst ≠ []) :
    (Checked.shapeReshape src dst).isSome ↔ ValidReshape src dst := by
  rw [shapeReshape_eq_model src dst hne, Option.isSome_iff_exists]
  simp only [shapeReshape_eq_some_iff, exists_eq_right]
  unfold ValidReshape
  rw [countMinusOne_eq_cntNeg]
  refine and_congr_right fun h1 => and_congr_right fun hv => ?_
  rw [prodOthers_eq_prodNonNeg dst hv, Int.natCast_inj, Int.natCast_dvd_natCast, Nat.dvd_iff_mod_eq_zero]
  -- the code tests divisibility also without a `-1`, where it follows from the equal counts
  refine and_congr_right fun h3 => ⟨fun h _ => h, fun h => ?_⟩
  rcases Nat.le_one_iff_eq_zero_or_eq_one.1 h1 with hc | hc
  · rw [h3 hc]; exact Nat.mod_self _
  · exact h hc

/-- an accepted reshape (non-empty target) has exactly the source's element count and the target's rank, and positive
    extents if the source has: never garbage -/
theorem shapeReshape_sound (src : Shape) (hs : Pos src) (dst : List Int) (hne : dst ≠ []) (t : Shape)
    (h : Checked.shapeReshape src dst = some t) : prod t = prod src ∧ Pos t ∧ t.length = dst.length := by
  rw [shapeReshape_eq_model src dst hne] at h
  exact ⟨shapeReshape_prod src dst t h, shapeReshape_pos src dst t hs h, shapeReshape_length src dst t h⟩

/-- broadcasting (one or more shapes of positive extents) reports failure exactly when the shapes are NumPy-incompatible -/
theorem broadcast_isSome_iff (ss : List Shape) (hne : ss ≠ []) (hp : C06.AllPos ss) :
    (broadcastShape ss).isSome ↔ Compatible ss := C06.broadcast_isSome_iff_compatible ss hne hp

/-- broadcast_to is refused exactly when the source cannot be broadcast to the target -/
theorem broadcastTo_isSome_iff (src dst : Shape) : (broadcastToView src dst).isSome ↔ BroadcastableTo src dst :=
  C06.broadcastTo_isSome_iff src dst

/-- a binary element-wise view (operands of positive extents) is Nothing exactly for incompatible operand shapes -/
theorem ufunc2_none_iff {α β γ : Type} (op : α → β → γ) (a : Arr α) (b : Arr β) (ha : Pos a.shape) (hb : Pos b.shape) :
    ufunc2 op a b = none ↔ ¬ Compatible [a.shape, b.shape] := C07.ufunc2_none_iff_incompatible op a b ha hb

/-- pad refuses a width list that does not have two entries per axis, accepts every other -/
theorem pad_isSome_iff (s w : List Nat) : (padView s w).isSome ↔ 2 * s.length = w.length := by
  rw [padView, Option.isSome_map]
  exact Option.isSome_ite

/-- roll refuses an axis outside [-dim, dim) -/
theorem roll_invalid_axis_nothing (s : Shape) (shift axis : Int) (h : axis < -(s.length : Int) ∨ (s.length : Int) ≤ axis) :
    rollView s shift axis = none := C04.roll_nothing s shift axis h

/-- NumPy accepts `np.transpose(a, axes)`: the axes, each in `[-dim, dim)`, are a permutation of `0..dim-1` once
    normalised -/
def ValidTranspose (dim : Nat) (ax : List Int) : Prop := ∃ p, normalizeAxes dim ax = some p ∧ p.Perm (List.range dim)

instance (dim : Nat) (ax : List Int) : Decidable (ValidTranspose dim ax) :=
  decidable_of_iff _ (transposeAxesOk_iff dim ax)

/-- transpose with run-time axes UNDER THE PROPOSED CHECK (`transposeAxesOk`; /repo builds the view unvalidated) yields a
    view exactly for (spellings of) permutations of the axes — a repeated axis, an axis outside `[-dim, dim)`, too few or
    too many axes give Nothing — and then it is the view of C03 -/
theorem transpose_isSome_iff_valid (src : Shape) (ax : List Int) :
    ((transposeChecked src ax).isSome ↔ ValidTranspose src.length ax) ∧
    (ValidTranspose src.length ax → transposeChecked src ax = transposeView src (some ax)) := by
  refine ite_checked _ _ _ (transposeAxesOk_iff _ _) fun h => ?_
  obtain ⟨p, hn, hperm⟩ := (transposeAxesOk_iff _ _).1 h
  rw [transposeView_some src ax p hn hperm]
  rfl

example : ValidTranspose 3 [-1, 0, 1] ∧ (transposeChecked [2,3,4] [-1,0,1]).map (·.dst) = some [4,2,3] := by decide
example : ¬ ValidTranspose 2 [0, 0] ∧ ¬ ValidTranspose 2 [0, 2] ∧ ¬ ValidTranspose 2 [0, -3] ∧ ¬ ValidTranspose 2 [0] ∧
    ¬ ValidTranspose 2 [1, -1] ∧ (transposeChecked [2,3] [0,0]).isSome = false := by decide

/-- swapaxes yields a view exactly when both axes lie in `[-dim, dim)`, and then it is the view of C03 -/
theorem swapaxes_isSome_iff_valid (src : Shape) (a1 a2 : Int) :
    ((swapaxesChecked src a1 a2).isSome ↔
      ((-(src.length : Int) ≤ a1 ∧ a1 < src.length) ∧ (-(src.length : Int) ≤ a2 ∧ a2 < src.length))) ∧
    ((swapaxesChecked src a1 a2).isSome → swapaxesChecked src a1 a2 = swapaxesView src a1 a2) := by
  have := ite_checked ((axisInRange src.length a1 && axisInRange src.length a2) = true) _ (swapaxesView src a1 a2)
    (by rw [Bool.and_eq_true, axisInRange_iff, axisInRange_iff]) (swapaxesView_isSome src a1 a2)
  exact ⟨this.1, fun h => this.2 (this.1.1 h)⟩

example : (swapaxesChecked [2,3,4] 0 (-1)).map (·.dst) = some [4,3,2] ∧ (swapaxesChecked [2,3] 0 2).isSome = false ∧
    (swapaxesChecked [2,3] (-3) 0).isSome = false := by decide

/-- NumPy accepts `np.expand_dims(a, axes)`: every axis in `[-n, n)` for `n = ndim + len(axes)`, none repeated -/
def ValidExpandDims (dim : Nat) (ax : List Int) : Prop :=
  ∃ nax, normalizeAxes (dim + ax.length) ax = some nax ∧ nax.Nodup

instance (dim : Nat) (ax : List Int) : Decidable (ValidExpandDims dim ax) := by
  unfold ValidExpandDims
  cases h : normalizeAxes (dim + ax.length) ax with
  | none => exact isFalse (by rintro ⟨_, h', _⟩; cases h')
  | some nax =>
    exact decidable_of_iff nax.Nodup ⟨fun hn => ⟨nax, rfl, hn⟩, by rintro ⟨_, h', hn⟩; cases h'; exact hn⟩

/-- expand_dims (int or tuple axis) of a source of positive extents yields a view exactly on NumPy's valid axes, and then it
    is the view of C03 -/
theorem expandDims_isSome_iff_valid (src : Shape) (hs : Pos src) (ax : List Int) :
    ((expandDimsChecked src ax).isSome ↔ ValidExpandDims src.length ax) ∧
    (ValidExpandDims src.length ax → expandDimsChecked src ax = expandDimsView src ax) := by
  unfold expandDimsChecked ValidExpandDims
  cases hn : normalizeAxes (src.length + ax.length) ax with
  | none => exact ⟨⟨nofun, fun ⟨_, h, _⟩ => nomatch h⟩, fun ⟨_, h, _⟩ => nomatch h⟩
  | some nax =>
    have hV : pairwiseDistinct nax = true ↔ ∃ n2, some nax = some n2 ∧ n2.Nodup :=
      (pairwiseDistinct_iff nax).trans ⟨fun h => ⟨nax, rfl, h⟩, fun ⟨_, e, h⟩ => Option.some.inj e ▸ h⟩
    refine ite_checked _ _ _ hV fun hd => ?_
    obtain ⟨v, hv, _⟩ := C03.expandDims_eq_spec (⟨src, fun _ => (0 : Nat)⟩ : Arr Nat) 0 ax nax hn
      ((pairwiseDistinct_iff nax).1 hd) hs
    exact Option.isSome_iff_exists.2 ⟨v, hv⟩

example : ValidExpandDims 2 [0, -1] ∧ (expandDimsChecked [2,3] [0,-1]).map (·.dst) = some [1,2,3,1] := by decide
example : ¬ ValidExpandDims 2 [3] ∧ ¬ ValidExpandDims 2 [-4] ∧ ¬ ValidExpandDims 2 [0, 0] ∧ ¬ ValidExpandDims 2 [0, -4] ∧
    (expandDimsChecked [2,3] [3]).isSome = false ∧ (expandDimsChecked [2,3] [1,-3]).isSome = false := by decide

/-- repeat (scalar count, run-time integer axis) yields a view exactly for an axis in `[-dim, dim)`; then it is the
    view of C04 -/
theorem repeat_isSome_iff_valid (src : Shape) (r : Nat) (axis : Int) :
    ((repeatChecked src r axis).isSome ↔ (-(src.length : Int) ≤ axis ∧ axis < src.length)) ∧
    ((repeatChecked src r axis).isSome → repeatChecked src r axis = repeatView src r (some axis)) := by
  have := ite_checked _ _ _ (axisInRange_iff src.length axis) (repeatView_isSome src r axis)
  exact ⟨this.1, fun h => this.2 (this.1.1 h)⟩

/-- repeat with one count per entry of the axis: additionally the number of counts must be the extent of the axis -/
theorem repeatList_isSome_iff_valid (src : Shape) (rs : List Nat) (axis : Int) :
    ((repeatListChecked src rs axis).isSome ↔
      ∃ k, normalizeAxis1 axis src.length = some k ∧ src[k]? = some rs.length) ∧
    ((repeatListChecked src rs axis).isSome → repeatListChecked src rs axis = repeatListView src rs axis) := by
  unfold repeatListChecked
  rw [ite_ite_none]
  have := ite_checked (axisInRange src.length axis = true ∧ atPy src axis = some rs.length)
    (∃ k, normalizeAxis1 axis src.length = some k ∧ src[k]? = some rs.length)
    (repeatListView src rs axis) ⟨fun ⟨hr, he⟩ => ?_, fun ⟨k, hk, he⟩ => ?_⟩
    (fun h => repeatListView_isSome src rs axis h.1)
  · exact ⟨this.1, fun h => this.2 (this.1.1 h)⟩
  · obtain ⟨k, hk, _⟩ := normalizeAxis1_of_inRange _ _ hr
    exact ⟨k, hk, atPy_of_normalizeAxis1 src axis k hk ▸ he⟩
  · exact ⟨axisInRange_of_normalizeAxis1 _ _ k hk, (atPy_of_normalizeAxis1 src axis k hk).trans he⟩

example : (repeatChecked [2,3] 2 (-1)).map (·.dst) = some [2,6] ∧ (repeatChecked [2,3] 2 2).isSome = false ∧
    (repeatChecked [2,3] 2 (-3)).isSome = false := by decide
example : (repeatListChecked [2,3] [1,0,2] 1).map (·.dst) = some [2,3] ∧ (repeatListChecked [2,3] [1,2] 1).isSome = false ∧
    (repeatListChecked [2,3] [1,2] 2).isSome = false := by decide

instance (a b : Shape) (axis : Int) : Decidable (ValidConcat a b axis) := decidable_of_iff _ (concatenateOk_iff a b axis)

/-- concatenate yields a view exactly when NumPy accepts the operands (`ValidConcat`: equal ranks, axis in
    `[-dim, dim)`, equal extents off the axis); then it is the view of C04 -/
theorem concatenate_isSome_iff_valid (a b : Shape) (axis : Int) :
    ((concatenateChecked a b axis).isSome ↔ ValidConcat a b axis) ∧
    (ValidConcat a b axis → concatenateChecked a b axis = concatenateView a b (some axis)) :=
  ite_checked _ _ _ (concatenateOk_iff a b axis) fun _ => rfl

example : ValidConcat [2,3] [4,3] (-2) ∧ (concatenateChecked [2,3] [4,3] (-2)).map (·.dst) = some [6,3] := by decide
example : ¬ ValidConcat [2,3] [1,2] 0 ∧ ¬ ValidConcat [2,3] [3] 0 ∧ ¬ ValidConcat [2,3] [2,3] 2 ∧ ¬ ValidConcat [2,3] [2,3] (-3) ∧
    (concatenateChecked [2,3] [2,3] 2).isSome = false := by decide

/-! the behaviours the property singles out, on concrete arguments (also non-vacuity of `ValidReshape`) -/
example : Checked.shapeReshape [2,3] [3,-1] = some [3,2] ∧ ValidReshape [2,3] [3,-1] := by decide
example : Checked.shapeReshape [2,3] [0,-1] = none ∧ Checked.shapeReshape [2,3] [-2,-3] = none ∧ Checked.shapeReshape [2,3] [-1,-1] = none ∧
    Checked.shapeReshape [2,3] [4,-1] = none ∧ Checked.shapeReshape [2,3] [5] = none := by decide

end NmVerif.Props.C15

