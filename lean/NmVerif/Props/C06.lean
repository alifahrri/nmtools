import NmVerif.Lemmas.BroadcastRule
import NmVerif.Lemmas.BroadcastKinds
/-
  C06 — Broadcasting follows NumPy's rules and is symmetric, associative, idempotent.

  MODEL  : NmVerif.broadcastShape2 / broadcastShape / shapeBroadcastTo / originAxes / broadcastToIndex /
           broadcastToView / broadcastArraysViews     (Index/Broadcast.lean, mirrors of the C++ loops)
  SPEC   : NmVerif.Compatible, IsAxisMax, BroadcastableTo, specBroadcastIdx (NumPy's rule, stated directly)
  Guard  : positive extents (`Pos`), as in the property's quantifier.
  The rule itself (`broadcast_eq_some_iff`, `broadcast_eq_max`, the pair form), `broadcast_to` and `broadcast_arrays` are stated in
  Lemmas/BroadcastRule.lean, in this namespace: C04, C07, C15 and C17 build on them.
  Kinds  : `KShape.WF`, `RType.Fits` (Lemmas/BroadcastKinds.lean), `LeL` (Lemmas/LeL.lean) over the model in Index/BroadcastKinds.lean.
-/
namespace NmVerif.Props.C06
open NmVerif

/-- symmetric (no positivity needed) -/
theorem broadcast_comm (a b : Shape) : broadcastShape2 a b = broadcastShape2 b a :=
  bc2_comm a b

/-- the n-ary fold of positive shapes depends only on WHICH shapes occur among the operands — not on their order,
    nor on how often a shape is repeated -/
theorem broadcast_fold_set (ss ts : List Shape) (hs : ss ≠ []) (ht : ts ≠ []) (hp : AllPos ss)
    (h : ∀ s, s ∈ ss ↔ s ∈ ts) : broadcastShape ss = broadcastShape ts := by
  have hp' : AllPos ts := fun s hs => hp s ((h s).2 hs)
  apply Option.ext
  intro r
  rw [broadcast_eq_some_iff _ hs hp r, broadcast_eq_some_iff _ ht hp' r]
  simp only [Compatible, IsAxisMax, h]

/-- the n-ary fold of positive shapes does not depend on the operand order: any permutation of the operand list gives the
    same result (same shape, or failure on both sides) -/
theorem broadcast_fold_perm (ss ts : List Shape) (hp : AllPos ss) (h : ss.Perm ts) :
    broadcastShape ss = broadcastShape ts := by
  cases ss with
  | nil => rw [h.nil_eq]
  | cons a rest =>
    exact broadcast_fold_set _ ts (by simp) (fun e => by subst e; exact absurd h.length_eq (by simp)) hp
      (fun _ => h.mem_iff)

/-- associative on positive shapes, as an equation between `Option` results (failure on one side iff failure on the other) -/
theorem broadcast_assoc (a b c : Shape) (ha : Pos a) (hb : Pos b) (hc : Pos c) :
    (broadcastShape2 a b).bind (fun p => broadcastShape2 p c)
      = (broadcastShape2 b c).bind (fun q => broadcastShape2 a q) := by
  have hr : (broadcastShape2 b c).bind (fun q => broadcastShape2 a q) = broadcastShape [b, c, a] :=
    congrArg _ (funext fun q => broadcast_comm a q)
  rw [hr]
  exact broadcast_fold_perm [a, b, c] [b, c, a] (by simp [AllPos, ha, hb, hc]) (List.perm_append_comm (l₁ := [a]))

theorem broadcast_absorb_left (a b : Shape) :
    (broadcastShape2 a b).bind (fun r => broadcastShape2 a r) = broadcastShape2 a b := by
  cases h : broadcastShape2 a b with
  | none => rfl
  | some r => exact broadcastShape2_eq_some.2 (bcRev_absorb (broadcastShape2_eq_some.1 h))

/-- broadcasting with the result changes nothing: `bc a (bc a b) = bc a b` and `bc (bc a b) b = bc a b` -/
theorem broadcast_absorb (a b : Shape) (ha : Pos a) (hb : Pos b) :
    (broadcastShape2 a b).bind (fun r => broadcastShape2 a r) = broadcastShape2 a b ∧
    (broadcastShape2 a b).bind (fun r => broadcastShape2 r b) = broadcastShape2 a b := by
  refine ⟨broadcast_absorb_left a b, ?_⟩
  have := broadcast_absorb_left b a
  rw [broadcast_comm b a] at this
  exact (congrArg _ (funext fun r => broadcast_comm r b)).trans this

/-- scalars (rank 0) broadcast with everything -/
theorem broadcast_scalar (s : Shape) : broadcastShape2 [] s = some s ∧ broadcastShape2 s [] = some s :=
  ⟨bc2_nil_left s, bc2_nil_right s⟩

/-- the n-ary fold does not depend on the grouping: broadcasting two sub-families first and then their results equals
    broadcasting the concatenated family -/
theorem broadcast_fold_append (ss ts : List Shape) (hs : ss ≠ []) (ht : ts ≠ []) (hps : AllPos ss) (hpt : AllPos ts) :
    broadcastShape (ss ++ ts)
      = (broadcastShape ss).bind (fun p => (broadcastShape ts).bind (fun q => broadcastShape2 p q)) := by
  cases ss with
  | nil => exact absurd rfl hs
  | cons a rest =>
    -- the fold over `ss ++ ts` is the fold over `ts` started from the result `p` of `ss` …
    have happ : broadcastShape (a :: rest ++ ts) = broadcastFold (broadcastShape (a :: rest)) ts :=
      List.foldl_append ..
    rw [happ]
    cases hp : broadcastShape (a :: rest) with
    | none => exact broadcastFold_none ts
    | some p =>
      -- … that is the fold of `p :: ts`; `p` may as well come last, where it is one more two-operand call
      have hpp : AllPos (p :: ts) := List.forall_mem_cons.2 ⟨broadcast_pos _ hs hps p hp, hpt⟩
      show broadcastShape (p :: ts) = _
      rw [broadcast_fold_perm (p :: ts) (ts ++ [p]) hpp (List.perm_append_comm (l₁ := [p]))]
      obtain ⟨t, tl, rfl⟩ := List.exists_cons_of_ne_nil ht
      simp only [List.cons_append, broadcastShape, broadcastFold, List.foldl_append, List.foldl_cons, List.foldl_nil]
      exact congrArg _ (funext fun q => broadcast_comm q p)

private theorem leaves_ne_nil (e : BExpr) : e.leaves ≠ [] := by
  induction e with
  | leaf i => simp [BExpr.leaves]
  | pair l r ihl ihr => simp [BExpr.leaves, ihl]
  | tri x y z ihx ihy ihz => simp [BExpr.leaves, ihx]

private theorem sel_spec {env : List Shape} (hp : AllPos env) {e : BExpr} {ss : List Shape}
    (h : e.leaves.mapM (fun i => env[i]?) = some ss) : ss ≠ [] ∧ AllPos ss := by
  refine ⟨fun hn => leaves_ne_nil e (List.eq_nil_of_length_eq_zero
    ((List.length_of_mapM_eq_some h).symm.trans (hn ▸ rfl))), fun s hs => ?_⟩
  obtain ⟨i, _, hi⟩ := List.mem_of_mapM_eq_some h s hs
  exact hp s (List.mem_of_getElem? hi)

/-- a nest of `broadcast_shape` calls (2-operand and variadic, intermediate `maybe` results passed on) over the
    operands `env` has the value of ONE variadic broadcast of the operands that occur in it, left to right -/
theorem bexpr_eval_eq_fold (env : List Shape) (hp : AllPos env) (e : BExpr) (ss : List Shape)
    (h : e.leaves.mapM (fun i => env[i]?) = some ss) : e.eval env = broadcastShape ss := by
  let P (e : BExpr) := ∀ ss, e.leaves.mapM (fun i => env[i]?) = some ss → e.eval env = broadcastShape ss
  have pair : ∀ l r, P l → P r → P (l.pair r) := by
    intro l r ihl ihr ss h
    simp only [BExpr.leaves, List.mapM_append, Option.bind_eq_bind, Option.bind_eq_some_iff, Option.pure_def,
      Option.some.injEq] at h
    obtain ⟨sl, hl, sr, hr, rfl⟩ := h
    obtain ⟨nl, pl⟩ := sel_spec hp hl
    obtain ⟨nr, pr⟩ := sel_spec hp hr
    simp only [BExpr.eval, ihl sl hl, ihr sr hr]
    exact (broadcast_fold_append sl sr nl nr pl pr).symm
  induction e generalizing ss with
  | leaf i =>
    simp only [BExpr.leaves, List.mapM_cons, List.mapM_nil, Option.bind_eq_bind, Option.pure_def, Option.bind_some,
      Option.bind_eq_some_iff, Option.some.injEq] at h
    obtain ⟨s, hi, rfl⟩ := h
    exact hi
  | pair l r ihl ihr => exact pair l r ihl ihr ss h
  | tri x y z ihx ihy ihz => exact eval_tri_eq env x y z ▸ pair (x.pair y) z (pair x y ihx ihy) ihz ss h

/-- **order, grouping and multiplicity do not matter**: two nests of `broadcast_shape` calls over positive operands (every
    operand number below `env.length`) in which the same operands occur (however ordered, grouped or repeated —
    `bc(a,b)`, `bc(b,a)`, `bc(a,bc(a,b))`, `bc(bc(a,b),c)`, `bc(c,a,b)` …) give the same shape or both fail -/
theorem bexpr_eval_congr (env : List Shape) (hp : AllPos env) (e₁ e₂ : BExpr)
    (hv₁ : ∀ i ∈ e₁.leaves, i < env.length) (hv₂ : ∀ i ∈ e₂.leaves, i < env.length)
    (h : ∀ i, i ∈ e₁.leaves ↔ i ∈ e₂.leaves) : e₁.eval env = e₂.eval env := by
  have h₁ := List.mapM_getElem?_of_lt env _ hv₁
  have h₂ := List.mapM_getElem?_of_lt env _ hv₂
  rw [bexpr_eval_eq_fold env hp e₁ _ h₁, bexpr_eval_eq_fold env hp e₂ _ h₂]
  apply broadcast_fold_set _ _ (sel_spec hp h₁).1 (sel_spec hp h₂).1
    (sel_spec hp h₁).2
  intro s
  simp only [List.mem_iff_of_mapM_eq_some h₁ s, List.mem_iff_of_mapM_eq_some h₂ s, h]

/-- the shape returned by `shape_broadcast_to` is the target; an axis is free iff it is prepended or stretched -/
theorem shapeBroadcastTo_spec (src dst sh : Shape) (free : List Bool) (h : shapeBroadcastTo src dst = some (sh, free)) :
    sh = dst ∧ free = List.replicate (dst.length - src.length) true ++
      List.zipWith (fun a b => decide (a ≠ b)) src (dst.drop (dst.length - src.length)) := by
  obtain ⟨h1, pre, dst', fs, rfl, hfs, rfl⟩ := shapeBroadcastTo_some h
  rw [List.length_append, hfs.length.1, Nat.add_sub_cancel, List.drop_left, ← hfs.flags_eq]
  exact ⟨h1, rfl⟩

/-- component form of the element rule: `src_idx[k] = if src[k] = 1 then 0 else d[k + (dim d − dim src)]` -/
theorem specBroadcastIdx_getElem (src : Shape) (d : Idx) (hl : src.length ≤ d.length) (k : Nat) (hk : k < src.length) :
    (specBroadcastIdx src d)[k]? =
      some (if src[k] = 1 then 0 else d[k + (d.length - src.length)]'(by omega)) := by
  unfold specBroadcastIdx
  rw [List.getElem?_zipWith]
  have h1 : src[k]? = some src[k] := List.getElem?_eq_getElem hk
  have h2 : (d.drop (d.length - src.length))[k]? = some (d[k + (d.length - src.length)]'(by omega)) := by
    rw [List.getElem?_drop, Nat.add_comm]
    exact List.getElem?_eq_getElem (by omega)
  rw [h1, h2]

/-! ### the container kind of the operands does not matter (the resolver model of Index/BroadcastKinds.lean, which the
driver answers the mixed-kind harness with) -/

/-- **the result container is never too small**: for well-formed operands of ANY kinds (constant, clipped with any
    bounds ≥ the values, fixed, bounded, dynamic, None) whose values broadcast to `r`, the container
    `meta::resolve_optype` picks for the result holds `r` without clamping a clipped integer and without exceeding a
    bounded vector (in particular the call compiles: `hne` follows from the other hypotheses) -/
theorem broadcast_container_fits (a b : KShape) (ha : a.WF) (hb : b.WF) (r : Shape)
    (hr : broadcastShape2 a.vals b.vals = some r) (hne : resolveBroadcast a b ≠ .error) :
    (resolveBroadcast a b).Fits r ∧ (resolveBroadcast a b).store r = (r, 0, 0) :=
  ⟨resolveBroadcast_fits ha.holds hb.holds hr, RType.store_of_fits (resolveBroadcast_fits ha.holds hb.holds hr)⟩

/-- a call that does not compile (both shapes compile-time constants, incompatible) is a refusal of the rule too -/
theorem broadcast_compile_error_is_refusal (a b : KShape) (ha : a.WF) (hb : b.WF)
    (he : resolveBroadcast a b = .error) : broadcastShape2 a.vals b.vals = none :=
  resolveBroadcast_error ha.holds hb.holds he

/-- **two well-formed operands, any kinds**: the kinded call either does not compile — then the shapes are
    incompatible — or returns exactly the kind-blind `broadcastShape2` of the values (same shape / Nothing) with no hook
    event -/
theorem kBroadcast2_kind_independent (a b : KShape) (ha : a.WF) (hb : b.WF) :
    (kBroadcast2 a b = none → broadcastShape2 a.vals b.vals = none) ∧
    (∀ o, kBroadcast2 a b = some o → o.val = broadcastShape2 a.vals b.vals ∧ o.clamps = 0 ∧ o.overflows = 0) :=
  (kPair_faithful a.out b.out (KShape.out_good ha) (KShape.out_good hb)).events

/-- **any nest of calls over well-formed operands, any kinds** (every order and grouping, intermediate results in the
    containers the library gave them): either some call of the nest does not compile — then the kind-blind nest is a
    refusal — or the value is the kind-blind one, with no clamp and no capacity event anywhere in the nest.  Together
    with `bexpr_eval_congr` the result of a kinded nest depends only on WHICH operands occur in it. -/
theorem keval_kind_independent (env : List KShape) (henv : ∀ a ∈ env, a.WF) (e : BExpr) :
    (e.keval env = none → e.eval (env.map (·.vals)) = none) ∧
    (∀ o, e.keval env = some o → o.val = e.eval (env.map (·.vals)) ∧ o.clamps = 0 ∧ o.overflows = 0) :=
  (keval_faithful env henv e).events

/-- the operands the driver builds for the kind matrix satisfy the hypothesis (`"sv"` is the harness's
    `static_vector<_, 8>`) -/
theorem ofKind_wf (kind : String) (vals bounds : List Nat) (a : KShape)
    (h : KShape.ofKind kind vals bounds = some a) (hp : Pos vals) (hb : kind = "cl" → LeL vals bounds)
    (hn : kind = "none" → vals = []) (hsv : kind = "sv" → vals.length ≤ 8) : a.WF := by
  revert h
  fun_cases KShape.ofKind kind vals bounds
  all_goals rintro ⟨⟩
  · cases hn rfl; exact KShape.wf_none
  · exact KShape.wf_ct hp
  · exact KShape.wf_cl false hp (hb rfl)
  · exact KShape.wf_arr hp
  · exact KShape.wf_arr hp
  · exact KShape.wf_dyn hp
  · exact KShape.wf_sv hp (hsv rfl)
  · exact KShape.wf_sv hp (Nat.le_refl _)

-- non-vacuity: well-formed operands of mixed kinds, the container chosen, both outcomes
example : KShape.WF ⟨KInfo.ct 2, [3, 1]⟩ := ofKind_wf "ct" [3, 1] [] _ rfl (by decide) (by simp) (by simp) (by simp)
example : KShape.WF ⟨KInfo.cl [4, 2], [3, 1]⟩ :=
  ofKind_wf "cl" [3, 1] [4, 2] _ rfl (by decide) (fun _ => by decide) (by simp) (by simp)
example : KShape.WF ⟨KInfo.arr 2, [3, 5]⟩ := ofKind_wf "a" [3, 5] [] _ rfl (by decide) (by simp) (by simp) (by simp)
example : resolveBroadcast ⟨KInfo.ct 2, [3, 1]⟩ ⟨KInfo.arr 2, [3, 5]⟩ = .arr 2 := by decide
example : resolveBroadcast ⟨KInfo.ct 2, [3, 2]⟩ ⟨KInfo.arr 2, [3, 1]⟩ = .clippedT [3, 2] := by decide
example : resolveBroadcast ⟨KInfo.ct 2, [3, 2]⟩ ⟨KInfo.sv 2, [2]⟩ = .clippedArr 3 2 := by decide
example : resolveBroadcast ⟨KInfo.cl [4, 2], [3, 1]⟩ ⟨KInfo.ct 2, [3, 2]⟩ = .arr 2 := by decide
example : resolveBroadcast ⟨KInfo.ct 2, [2, 3]⟩ ⟨KInfo.ct 2, [3, 2]⟩ = .error := by decide
example : (kBroadcast2 ⟨KInfo.ct 2, [3, 1]⟩ ⟨KInfo.arr 2, [3, 5]⟩).map (·.val) = some (some [3, 5]) := by decide
example : (BExpr.pair (.leaf 0) (.pair (.leaf 0) (.leaf 1))).keval [⟨KInfo.ct 2, [3, 1]⟩, ⟨KInfo.sv 8, [3, 5]⟩]
    = some { ty := .svec 8, val := some [3, 5] } := by decide
/-- why the resolver must bail out on an extent 1 of a constant shape (the seeded change `I > 0` for `I > 1`,
    broadcast_shape.hpp:378): with the bounds (3,1) taken from the constant operand (3,1) the broadcast (3,5) with a
    run-time operand is clamped to (3,1), one clamp event -/
example : (RType.clippedT [3, 1]).store [3, 5] = ([3, 1], 1, 0) := by decide

/-! ### zero extents (outside the property's quantifier, inside "NumPy's rules") -/

/-- **all extents, zero included**: unless some axis pairs a 0 with a 1, `broadcast_shape` is NumPy's rule -/
theorem broadcast2_eq_numpy_of_not_zeroWithOne (a b : Shape) (h : ZeroWithOne a b = false) :
    broadcastShape2 a b = npBroadcast2 a b := by
  unfold broadcastShape2 npBroadcast2
  rw [bcRev_eq_npRev _ _ h]

private theorem zeroOneRev_of_pos {x y : List Nat} (hx : Pos x) (hy : Pos y) : zeroOneRev x y = false := by
  fun_induction zeroOneRev x y with
  | case1 v vs w ws ih =>
    have := hx.head; have := hy.head
    simp only [ih hx.tail hy.tail, Bool.or_false, Bool.or_eq_false_iff, Bool.and_eq_false_imp, beq_iff_eq,
      beq_eq_false_iff_ne]
    omega
  | case2 => rfl

/-- so the rule for positive shapes is NumPy's without a side condition -/
theorem not_zeroWithOne_of_pos (a b : Shape) (ha : Pos a) (hb : Pos b) : ZeroWithOne a b = false :=
  zeroOneRev_of_pos ha.reverse hb.reverse

/-- the unchanged code breaks NumPy's rule on a zero extent paired with 1 (known finding
    C06.broadcast-zero-extent-with-one; replayed on the real headers: `broadcast_shape((0,0),(1,0))` = (1,0); repaired in
    /repo by f45d8fe, the model `bc1` keeps the unrepaired maximum) -/
theorem broadcast_zero_extent_counterexample :
    broadcastShape2 [0, 0] [1, 0] = some [1, 0] ∧ npBroadcast2 [0, 0] [1, 0] = some [0, 0] ∧ ZeroWithOne [0, 0] [1, 0] = true := by decide

/-- the smallest instance: the implementation's `max` gives `[1]`, NumPy gives `[0]` -/
example : broadcastShape2 [0] [1] = some [1] := by decide
example : ZeroWithOne [2, 0] [0] = false := by decide
example : broadcastShape2 [2, 0] [0] = some [2, 0] ∧ npBroadcast2 [2, 0] [0] = some [2, 0] := by decide
example : ZeroWithOne [2, 0] [3, 1] = true := by decide
example : Pos [2, 1, 3] ∧ Pos [4, 1] := by decide

/-! ### the None source (shape of a number) with a clipped target: the one place found where the container kind of
a shape changes a result of the broadcasting index functions (known finding C06.sbt-none-clipped-target) -/

/-- the None overload of `shape_broadcast_to` returns the clipped target unchanged exactly as long as every extent
    fits the bound of the LAST element; an extent above it comes back clamped -/
theorem sbtNoneClipped_eq_iff (bounds vals : List Nat) (m : Nat) (hm : bounds.getLast? = some m) :
    sbtNoneClipped bounds vals = vals ↔ ∀ v ∈ vals, v ≤ m := by
  unfold sbtNoneClipped
  rw [hm]
  exact map_min_eq_iff

/-- the direction of `sbtNoneClipped_eq_iff` under which the property holds -/
theorem sbtNoneClipped_eq_of_le (bounds vals : List Nat) (m : Nat) (hm : bounds.getLast? = some m)
    (h : ∀ v ∈ vals, v ≤ m) : sbtNoneClipped bounds vals = vals :=
  (sbtNoneClipped_eq_iff bounds vals m hm).2 h

/-- the unchanged code breaks the property here: the target `"3:[5]","2:[2]"` (extents (3,2), bounds (5,2)) comes
    back as (2,2), while `shape_broadcast_to` of the empty shape to (3,2) is (3,2) for every other container kind.
    Replayed on the real headers (known_findings.json: C06.sbt-none-clipped-target, request `k6 … op=sbt shapes=[];3,2
    kinds=none/cl`; repaired in /repo by 28ac131, the model keeps the unrepaired code). -/
theorem sbtNoneClipped_counterexample :
    sbtNoneClipped [5, 2] [3, 2] = [2, 2] ∧ (shapeBroadcastTo [] [3, 2]).map (·.1) = some [3, 2] := by decide

example : sbtNoneClipped [3, 3] [3, 2] = [3, 2] := by decide
example : ([5, 2] : List Nat).getLast? = some 2 := by decide
example : ¬ ∀ v ∈ ([3, 2] : List Nat), v ≤ 2 := by decide

/-! ### non-vacuity: the hypotheses are satisfiable on non-trivial values, both outcomes occur -/

example : broadcastShape [[2, 1, 3], [4, 1], [1]] = some [2, 4, 3] := by decide
example : broadcastShape [[2, 1, 3], [4, 2]] = none := by decide
example : AllPos [[2, 1, 3], [4, 1], [1]] := by decide
example : Compatible [[2, 1, 3], [4, 1], [1]] :=
  (broadcast_isSome_iff_compatible _ (by simp) (by decide)).1 (by decide)
example : ¬ Compatible [[2, 1, 3], [4, 2]] :=
  fun h => absurd ((broadcast_isSome_iff_compatible _ (by simp) (by decide)).2 h) (by decide)
example : (broadcastShape2 [2, 1, 3] [4, 1]).bind (fun p => broadcastShape2 p [5, 1, 1, 1]) = some [5, 2, 4, 3] := by decide
example : (broadcastShape2 [4, 1] [5, 1, 1, 1]).bind (fun q => broadcastShape2 [2, 1, 3] q) = some [5, 2, 4, 3] := by decide
example : (shapeBroadcastTo [3, 1] [2, 3, 4]).map (·.2) = some [true, false, true] := by decide
example : (broadcastToView [3, 1] [2, 3, 4]).bind (fun v => v.map [1, 2, 3]) = some [2, 0] := by decide
example : specBroadcastIdx [3, 1] [1, 2, 3] = [2, 0] := by decide
example : InShape [1, 2, 3] [2, 3, 4] := by decide
example : (broadcastToView [2, 3] [3]).isSome = false := by decide
example : (broadcastArraysViews [[2, 1], [3], []]).map (·.map (·.dst)) = some [[2, 3], [2, 3], [2, 3]] := by decide

-- nests of calls: value, the hypotheses of `bexpr_eval_congr` on a non-trivial instance, and its conclusion
example : (BExpr.pair (.pair (.leaf 0) (.leaf 1)) (.leaf 2)).eval [[2, 1, 3], [4, 1], [5, 1, 1, 1]] = some [5, 2, 4, 3] := by decide
example : (BExpr.tri (.leaf 2) (.leaf 0) (.leaf 1)).eval [[2, 1, 3], [4, 1], [5, 1, 1, 1]] = some [5, 2, 4, 3] := by decide
example : (BExpr.pair (.leaf 0) (.pair (.leaf 0) (.leaf 1))).leaves.mapM (fun i => [[3, 1], [3, 5]][i]?) = some [[3, 1], [3, 1], [3, 5]] := by decide
example : (BExpr.pair (.leaf 0) (.pair (.leaf 0) (.leaf 1))).eval [[3, 1], [3, 5]] = (BExpr.pair (.leaf 1) (.leaf 0)).eval [[3, 1], [3, 5]] :=
  bexpr_eval_congr _ (by decide) _ _ (by decide) (by decide) (by intro i; simp [BExpr.leaves]; omega)
example : (BExpr.pair (.leaf 1) (.leaf 0)).eval [[3, 1], [3, 5]] = some [3, 5] := by decide
example : (BExpr.pair (.leaf 0) (.leaf 1)).eval [[2, 3], [3, 2]] = none := by decide
example : broadcastShape [[3, 1], [3, 5], [3, 1]] = broadcastShape [[3, 5], [3, 1]] :=
  broadcast_fold_set _ _ (by simp) (by simp) (by decide) (by intro s; simp; grind)
example : BExpr.parse "*0*01" = some (BExpr.pair (.leaf 0) (.pair (.leaf 0) (.leaf 1))) := by decide

end NmVerif.Props.C06
