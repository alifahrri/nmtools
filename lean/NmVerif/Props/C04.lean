import NmVerif.Props.C04Gen
import NmVerif.Lemmas.Tile
import NmVerif.Lemmas.Pad
import NmVerif.Lemmas.Take
import NmVerif.Lemmas.Repeat
import NmVerif.Lemmas.Concatenate
import NmVerif.Lemmas.Roll
import NmVerif.Lemmas.Resize
import NmVerif.Lemmas.Diagonal
import NmVerif.Lemmas.SlidingWindow
import NmVerif.Lemmas.Split
import NmVerif.Lemmas.Expand
import NmVerif.Index.Stack
/-
  C04 — selecting / replicating / joining / generating views equal their reference result.  `where` and the generators:
  Props/C04Gen.lean (same namespace).
-/
namespace NmVerif.Props.C04
open NmVerif NmVerif.Index

/-! ### tile -/

/-- `view::tile` never answers Nothing, keeps the source shape, and its result shape is NumPy's
    (ranks aligned on the right, missing entries are 1, extents multiplied). -/
theorem tile_shape (s r : List Nat) :
    ∃ v, tileView s r = some v ∧ v.src = s ∧ v.dst = tileShapeSpec s r :=
  ⟨_, rfl, rfl, shapeTile_eq_spec s r⟩

/-- element `d` of the tile view is the source element at `d mod shape` (prepended axes dropped): NumPy's element. -/
theorem tile_elem (s r : List Nat) (v : IxView) (hv : tileView s r = some v) (d : Idx) (hd : InShape d v.dst) :
    v.map d = some (tileIdxSpec s d) := by
  cases hv
  exact congrArg some (indexTile_eq_spec s d (length_le_of_inShape_shapeTile hd))

/-- no access of a tile view leaves the source (C02 obligation of this view kind) -/
theorem tile_inBounds (s r : List Nat) (v : IxView) (hv : tileView s r = some v) (hs : Pos s) : v.InBounds := by
  cases hv
  exact IxView.inBounds_of_total (indexTile_inShape s r hs)

example : tileShapeSpec [2, 3] [2, 1, 2] = [2, 2, 6] := by decide
example : (tileView [2, 3] [2, 1, 2]).map (·.map [1, 1, 5]) = some (some [1, 2]) := by decide
/-- hypotheses of `tile_elem` / `tile_inBounds` -/
example : InShape [1, 1, 5] (tileShapeSpec [2, 3] [2, 1, 2]) ∧ Pos [2, 3] := by decide

/-! ### pad (constant fill; widths `before ++ after`, one entry per axis and side) -/

/-- accepted widths: the view exists and has the documented shape `s + before + after` -/
theorem pad_shape (s before after : List Nat) (hb : before.length = s.length) (ha : after.length = s.length) :
    ∃ v, padView s (before ++ after) = some v ∧ v.src = s ∧ v.dst = padShapeSpec s before after := by
  simp only [padView, shapePad_eq_spec s before after hb ha, Option.map_some]
  exact ⟨_, rfl, rfl, rfl⟩

/-- a width list that does not have two entries per axis is refused (Nothing) -/
theorem pad_nothing (s w : List Nat) (h : 2 * s.length ≠ w.length) : padView s w = none := by
  simp [padView, shapePad_none s w h]

/-- inside the box `before ≤ d < before + s` the element is the source element at `d - before`, elsewhere the fill value -/
theorem pad_elem (s before after : List Nat) (hb : before.length = s.length) (ha : after.length = s.length)
    (v : IxView) (hv : padView s (before ++ after) = some v) (d : Idx) (hd : InShape d v.dst) :
    v.map d = padIdxSpec d s before := by
  simp only [padView, shapePad_eq_spec s before after hb ha, Option.map_some, Option.some.injEq] at hv
  subst hv
  have hl := hd.length_eq
  simp only [padShapeSpec, List.length_zipWith, hb, ha, Nat.min_self] at hl
  exact indexPadLoop_eq_spec d s before after hl hb

theorem pad_inBounds (s before after : List Nat) (hb : before.length = s.length) (ha : after.length = s.length)
    (v : IxView) (hv : padView s (before ++ after) = some v) : v.InBounds := by
  intro d hd i hi
  rw [pad_elem s before after hb ha v hv d hd] at hi
  obtain ⟨w, hw, hsrc, _⟩ := pad_shape s before after hb ha
  cases hv.symm.trans hw
  exact hsrc ▸ padIdxSpec_inShape hi

example : padShapeSpec [2, 3] [1, 0] [0, 2] = [3, 5] := by decide
example : (padView [2, 3] [1, 0, 0, 2]).map (fun v => (v.map [1, 2], v.map [0, 2], v.map [1, 4])) =
    some (some [0, 2], none, none) := by decide

/-! ### take (every accepted axis incl. negative and None; index entries in `[-extent, extent)` incl. negative and
    repeated ones — NumPy's `np.take`).  The missing normalisation of negative axes / entries was repaired in /repo
    ("take.negative-axis", "take.negative-index"); the model follows the repaired code. -/

/-- NumPy's shape `s[:k] ++ [len ind] ++ s[k+1:]` for the normalised axis `k`; the view is never Nothing -/
theorem take_shape (s : Shape) (ind : List Int) (axis : Int) (k : Nat) (hk : normalizeAxis1 axis s.length = some k) :
    ∃ v, takeView s ind (some axis) = some v ∧ v.src = s ∧ v.dst = takeShapeSpec s ind.length k := by
  rw [takeView_axis_normalize s ind axis k hk]
  exact ⟨_, rfl, rfl, shapeTake_eq_spec s ind.length k (normalizeAxis1_some axis _ k hk).1⟩

/-- `out[…, x, …] = a[…, ind[x], …]`, a negative entry counting from the end of the axis (`normIndex`) -/
theorem take_elem (s : Shape) (ind : List Int) (axis : Int) (k : Nat) (hk : normalizeAxis1 axis s.length = some k)
    (v : IxView) (hv : takeView s ind (some axis) = some v) (d : Idx)
    (x n : Nat) (e : Int) (j : Nat) (hx : d[k]? = some x) (hn : s[k]? = some n) (he : ind[x]? = some e)
    (hj : normIndex n e = some j) :
    v.map d = some (d.set k j) := by
  rw [takeView_axis_normalize s ind axis k hk] at hv
  cases hv
  simp only [indexTake_eq d s ind k x n e j hx hn he hj]

/-- entries inside `[-s[k], s[k])` ⇒ every read is inside the source -/
theorem take_inBounds (s : Shape) (ind : List Int) (axis : Int) (k : Nat) (hk : normalizeAxis1 axis s.length = some k)
    (n : Nat) (hn : s[k]? = some n) (hind : ∀ e ∈ ind, -(n : Int) ≤ e ∧ e < (n : Int)) (v : IxView)
    (hv : takeView s ind (some axis) = some v) : v.InBounds := by
  have hkn := (normalizeAxis1_some axis _ k hk).1
  obtain ⟨w, hw, h1, h2⟩ := take_shape s ind axis k hk
  cases hv.symm.trans hw
  refine inBounds_of_axis hkn h1 h2 ?_
  intro d x i hx hxm hi
  have hmem := hind ind[x] (List.getElem_mem hxm)
  obtain ⟨j, hj, hjn⟩ := normIndex_of_range n ind[x] hmem.1 hmem.2
  rw [take_elem s ind axis k hk v hv d x n ind[x] j hx hn (List.getElem?_eq_getElem hxm) hj, Option.some.injEq] at hi
  obtain ⟨_, e⟩ := List.getElem?_eq_some_iff.1 hn
  exact ⟨j, e ▸ hjn, hi.symm⟩

/-- axis None: shape `[len ind]`, never Nothing -/
theorem takeNone_shape (s : Shape) (ind : List Int) :
    ∃ v, takeView s ind none = some v ∧ v.src = s ∧ v.dst = [ind.length] := ⟨_, rfl, rfl, rfl⟩

/-- axis None: `out[x] = flat(a)[ind[x]]`, a negative entry counting from the end of the flattened array -/
theorem takeNone_elem (s : Shape) (ind : List Int) (v : IxView) (hv : takeView s ind none = some v)
    (x : Nat) (e : Int) (j : Nat) (he : ind[x]? = some e) (hj : normIndex (prod s) e = some j) :
    v.map [x] = some (ndindex s j) := by
  cases hv
  simp only [indexTakeNone, takeEntry_norm ind (prod s) x e j he hj, ndindex]

theorem takeNone_inBounds (s : Shape) (hs : Pos s) (ind : List Int) (v : IxView) (hv : takeView s ind none = some v) :
    v.InBounds := by
  cases hv
  exact IxView.inBounds_of_total fun | _ :: _, _ => indices_inShape hs _

example : takeShapeSpec [2, 3, 4] 5 1 = [2, 5, 4] := by decide
example : (takeView [2, 3] [2, 0, 0] (some 1)).map (·.map [1, 0]) = some (some [1, 2]) := by decide
example : normIndex 3 (-1) = some 2 := by decide
/-- negative entry and negative axis (regression guards for the repaired defects) -/
example : (takeView [3] [-1] (some 0)).bind (·.map [0]) = some [2] := by decide
example : (takeView [2, 3] [-1, 0] (some (-1))).map (fun v => (v.dst, v.map [1, 0])) = some ([2, 2], some [1, 2]) := by decide
example : (takeView [2, 3] [-2] none).bind (·.map [0]) = some [1, 1] := by decide

/-! ### repeat (every accepted axis: stated for the normalised position `k`; `repeat_axis_normalize` /
    `repeatList_axis_normalize` transfer each statement to every accepted axis incl. negative ones — the missing
    normalisation in `index::repeat` was repaired in /repo, "repeat.negative-axis"; axis None) -/

theorem repeat_axis_normalize (s : Shape) (r : Nat) (axis : Int) (k : Nat) (hk : normalizeAxis1 axis s.length = some k) :
    repeatView s r (some axis) = repeatView s r (some (k : Int)) := by
  simp only [repeatView, shapeRepeat, indexRepeat, atPy_of_normalizeAxis1 s axis k hk,
    setPy_of_normalizeAxis1 s axis k _ hk, atPy_nat, setPy_nat, normAxis_of_normalizeAxis1 axis _ k hk, normAxis_nat]

theorem repeatList_axis_normalize (s : Shape) (rs : List Nat) (axis : Int) (k : Nat)
    (hk : normalizeAxis1 axis s.length = some k) :
    repeatListView s rs axis = repeatListView s rs (k : Int) := by
  simp only [repeatListView, shapeRepeatList, indexRepeatList, atPy_of_normalizeAxis1 s axis k hk,
    setPy_of_normalizeAxis1 s axis k _ hk, atPy_nat, setPy_nat, normAxis_of_normalizeAxis1 axis _ k hk, normAxis_nat]

/-- scalar repeats along axis `k`: NumPy's shape (extent `s[k]·r`), never Nothing -/
theorem repeat_shape (s : Shape) (r k : Nat) (hk : k < s.length) :
    ∃ v, repeatView s r (some (k : Int)) = some v ∧ v.src = s ∧ v.dst = replaceExtent s k (s[k] * r) := by
  simp only [repeatView, shapeRepeat_eq_spec s r k hk, Option.map_some]
  exact ⟨_, rfl, rfl, rfl⟩

/-- `out[…, x, …] = a[…, x / r, …]` -/
theorem repeat_elem (s : Shape) (r k : Nat) (hk : k < s.length) (v : IxView)
    (hv : repeatView s r (some (k : Int)) = some v) (d : Idx) (x : Nat) (hx : d[k]? = some x) :
    v.map d = some (d.set k (x / r)) := by
  obtain ⟨_, -, rfl⟩ := Option.map_eq_some_iff.1 hv
  exact congrArg some (indexRepeat_eq s r k x d hx)

theorem repeat_inBounds (s : Shape) (r k : Nat) (hk : k < s.length) (v : IxView)
    (hv : repeatView s r (some (k : Int)) = some v) : v.InBounds := by
  obtain ⟨w, hw, h1, h2⟩ := repeat_shape s r k hk
  cases hv.symm.trans hw
  refine inBounds_of_axis hk h1 h2 ?_
  intro d x i hx hxm hi
  rw [repeat_elem s r k hk v hv d x hx, Option.some.injEq] at hi
  exact ⟨x / r, Nat.div_lt_of_lt_mul (Nat.mul_comm _ _ ▸ hxm), hi.symm⟩

/-- axis None: shape `[size·r]`, `out[x] = flat(a)[x / r]` -/
theorem repeatNone_shape (s : Shape) (r : Nat) :
    ∃ v, repeatView s r none = some v ∧ v.src = s ∧ v.dst = [prod s * r] := ⟨_, rfl, rfl, rfl⟩

theorem repeatNone_elem (s : Shape) (r : Nat) (v : IxView) (hv : repeatView s r none = some v) (x : Nat) :
    v.map [x] = some (ndindex s (x / r)) := by
  cases hv
  simp only [indexRepeatNone, ndindex]

theorem repeatNone_inBounds (s : Shape) (hs : Pos s) (r : Nat) (v : IxView) (hv : repeatView s r none = some v) :
    v.InBounds := by
  cases hv
  exact IxView.inBounds_of_total fun | _ :: _, _ => indices_inShape hs _

/-- one count per entry: NumPy's shape (extent `sum rs`).  Stated for ANY `rs`: the model does not refuse `len rs ≠ s[k]`
    (NumPy does, and so does repeat.hpp:63 at /repo HEAD) -/
theorem repeatList_shape (s : Shape) (rs : List Nat) (k : Nat) (hk : k < s.length) :
    ∃ v, repeatListView s rs (k : Int) = some v ∧ v.src = s ∧ v.dst = replaceExtent s k (sum rs) := by
  simp only [repeatListView, shapeRepeatList_eq_spec s rs k hk, Option.map_some]
  exact ⟨_, rfl, rfl, rfl⟩

/-- position `x` of the axis reads source position `np.repeat(arange(len rs), rs)[x]` -/
theorem repeatList_elem (s : Shape) (rs : List Nat) (k : Nat) (hk : k < s.length) (v : IxView)
    (hv : repeatListView s rs (k : Int) = some v) (d : Idx) (hd : InShape d v.dst) :
    ∃ x j, d[k]? = some x ∧ (repeatSrc rs 0)[x]? = some j ∧ j < rs.length ∧ v.map d = some (d.set k j) := by
  simp only [repeatListView, shapeRepeatList_eq_spec s rs k hk, Option.map_some, Option.some.injEq] at hv
  subst hv
  obtain ⟨x, hx, hxm, _⟩ := coord_of_inShape hk hd
  have := repeatSrc_getElem rs 0 x hxm
  refine ⟨x, firstAbove rs x, hx, Nat.zero_add (firstAbove rs x) ▸ this.1, this.2, ?_⟩
  simp only [indexRepeatList_eq s rs k x d hx]

theorem repeatList_inBounds (s : Shape) (rs : List Nat) (k : Nat) (hk : k < s.length) (hrs : rs.length = s[k])
    (v : IxView) (hv : repeatListView s rs (k : Int) = some v) : v.InBounds := by
  simp only [repeatListView, shapeRepeatList_eq_spec s rs k hk, Option.map_some, Option.some.injEq] at hv
  subst hv
  refine inBounds_of_axis hk rfl rfl ?_
  intro d x i hx hxm hi
  simp only [Option.some.injEq, indexRepeatList_eq s rs k x d hx] at hi
  exact ⟨_, hrs ▸ (repeatSrc_getElem rs 0 x hxm).2, hi.symm⟩

/-- negative axis (regression guard for the repaired defect) -/
example : (repeatView [1, 2] 2 (some (-1))).map (fun v => (v.dst, v.map [0, 3])) = some ([1, 4], some [0, 1]) := by decide

example : replaceExtent [2, 3, 4] 1 6 = [2, 6, 4] := by decide
example : repeatSrc [1, 2, 0, 3] 0 = [0, 1, 1, 3, 3, 3] := by decide
example : (repeatListView [2, 3] [1, 2, 0] 1).map (fun v => (v.dst, v.map [1, 2])) = some ([2, 3], some [1, 1]) := by decide

/-! ### concatenate (two operands; every accepted axis: stated for the normalised position `k`,
    `concatenate_axis_normalize` transfers each statement to every accepted axis incl. negative ones — the missing
    normalisation was repaired in /repo, "concatenate.negative-axis"; axis None).  Incompatible operands are not covered: the
    model's view ignores `success`, view/concatenate.hpp:129 at /repo HEAD answers Nothing. -/

theorem concatenate_axis_normalize (a b : Shape) (axis : Int) (k : Nat) (hk : normalizeAxis1 axis a.length = some k) :
    concatenateView a b (some axis) = concatenateView a b (some (k : Int)) := by
  dsimp only [concatenateView, shapeConcatenate, indexConcatenate]
  rw [normAxis_of_normalizeAxis1 axis _ k hk, normAxis_nat]

/-- compatible operands: `shape_concatenate` succeeds (`.1`: its `success` flag) with NumPy's shape (extent `a[k] + b[k]`) -/
theorem concatenate_shape (a b : Shape) (k : Nat) (h : ConcatCompatible a b k) :
    ∃ v x y, concatenateView a b (some (k : Int)) = some v ∧ a[k]? = some x ∧ b[k]? = some y ∧
      (shapeConcatenate a b (k : Int)).1 = true ∧ v.srcA = a ∧ v.srcB = b ∧ v.dst = replaceExtent a k (x + y) := by
  obtain ⟨x, y, hx, hy, hs⟩ := shapeConcatenate_eq_spec a b k h
  exact ⟨_, x, y, rfl, hx, hy, by rw [hs], rfl, rfl, by simp [hs]⟩

/-- `out[d] = a[d]` when `d[k] < a[k]`, else `b[d with d[k] - a[k]]` -/
theorem concatenate_elem (a b : Shape) (k : Nat) (h : ConcatCompatible a b k) (v : IxView2)
    (hv : concatenateView a b (some (k : Int)) = some v) (d : Idx) (hd : InShape d v.dst) :
    ∃ x aa, d[k]? = some x ∧ a[k]? = some aa ∧
      v.map d = if x < aa then some (false, d) else some (true, d.set k (x - aa)) := by
  cases hv
  -- `v.map d` reduced to the model's call first: against the unreduced projection `exact` unfolds `indexConcatenate`
  dsimp only
  obtain ⟨x, aa, hx, ha, hm, _⟩ := indexConcatenate_spec a b k h d hd
  exact ⟨x, aa, hx, ha, hm⟩

theorem concatenate_inBounds (a b : Shape) (k : Nat) (h : ConcatCompatible a b k) (v : IxView2)
    (hv : concatenateView a b (some (k : Int)) = some v) : v.InBounds := by
  cases hv
  intro d hd fl i hi
  dsimp only at hi
  obtain ⟨x, aa, _, _, hm, hin⟩ := indexConcatenate_spec a b k h d hd
  replace hi := hm.symm.trans hi
  split at hi <;> cases hi
  · exact (if_pos ‹_›).mp hin
  · exact (if_neg ‹_›).mp hin

/-- axis None: shape `[size a + size b]` -/
theorem concatenateNone_shape (a b : Shape) :
    ∃ v, concatenateView a b none = some v ∧ v.srcA = a ∧ v.srcB = b ∧ v.dst = [prod a + prod b] :=
  ⟨_, rfl, rfl, rfl, rfl⟩

/-- axis None: the flattened left operand followed by the flattened right operand -/
theorem concatenateNone_elem (a b : Shape) (v : IxView2) (hv : concatenateView a b none = some v) (x : Nat)
    (hx : x < prod a + prod b) :
    v.map [x] = if x < prod a then some (false, ndindex a x) else some (true, ndindex b (x - prod a)) := by
  cases hv
  dsimp only
  exact ite_congr rfl (fun _ => rfl) fun _ => if_pos hx

theorem concatenateNone_inBounds (a b : Shape) (ha : Pos a) (hb : Pos b) (v : IxView2)
    (hv : concatenateView a b none = some v) : v.InBounds := by
  cases hv
  intro d _ fl i
  dsimp only
  fun_cases indexConcatenateNone a b d with
  | case1 => rintro ⟨⟩; exact indices_inShape ha _
  | case2 => rintro ⟨⟩; exact indices_inShape hb _
  | case3 => nofun
  | case4 => nofun

/-- negative axis (regression guard for the repaired defect) -/
example : (concatenateView [1] [1] (some (-1))).map (·.dst) = some [2] := by decide

example : ConcatCompatible [2, 3] [2, 1] 1 := ⟨rfl, by decide, by intro j hj; cases j with | zero => rfl | succ j => cases j with | zero => exact absurd rfl hj | succ j => rfl⟩
example : (concatenateView [2, 3] [2, 1] (some 1)).map (fun v => (v.dst, v.map [1, 2], v.map [1, 3])) =
    some ([2, 4], some (false, [1, 2]), some (true, [1, 0])) := by decide

/-! ### roll (every shift sign and magnitude; accepted axes incl. negative; axis None; several axes, repeats included).
    The single-wrap defect (DESIGN F5) was repaired in /repo ("fix: roll wraps shifts larger than the extent"):
    `normalize_roll_index` is `index % n` (+ `n` if negative), the mathematical modulo for `n > 0` (`normalizeRollIndex_eq`).
    Shifts are the model's unbounded `Int`; the C++ computes `d[axis] - shift` in `nm_index_t`. -/

/-- several axes: accepted (each in `[-dim, dim)`) ⇒ the view exists with the source shape -/
theorem rollAxes_shape (s : Shape) (shifts axes : List Int) (ks : List Nat) (hk : AxesNorm s.length axes ks) :
    ∃ v, rollAxesView s shifts axes = some v ∧ v.src = s ∧ v.dst = s := by
  simp only [rollAxesView, shapeRoll_of_axesNorm s axes ks hk, Option.map_some]
  exact ⟨_, rfl, rfl, rfl⟩

/-- several accepted axes (negative and REPEATED ones included), one shift each (any magnitude): coordinate `j` reads
    `(d[j] - Σ shifts of axis j) mod s[j]` — NumPy's rule (`shiftSum` is 0 for an axis that is not listed, and
    `rollSrc n x 0 = x`) -/
theorem rollAxes_elem (s : Shape) (shifts axes : List Int) (ks : List Nat) (hk : AxesNorm s.length axes ks)
    (hlen : shifts.length = axes.length)
    (v : IxView) (hv : rollAxesView s shifts axes = some v) (d : Idx) (hd : InShape d s) :
    ∃ r, v.map d = some r ∧ r.length = d.length ∧
      ∀ j, j < d.length → ∃ n x : Nat, s[j]? = some n ∧ d[j]? = some x ∧
        r[j]? = some (rollSrc n x (shiftSum ks shifts j)) := by
  obtain ⟨_, -, rfl⟩ := Option.map_eq_some_iff.1 hv
  refine ⟨_, congrArg some (by rw [indexRollU, indexRollLoop_eq s d axes ks shifts d hk hlen hd]; rfl),
    List.length_mapIdx, fun j hj => ?_⟩
  have hn := List.getElem?_eq_getElem (hd.length_eq ▸ hj : j < s.length)
  exact ⟨_, _, hn, List.getElem?_eq_getElem hj, by rw [List.getElem?_mapIdx, List.getElem?_eq_getElem hj, hn]; rfl⟩

theorem rollAxes_inBounds (s : Shape) (shifts axes : List Int) (ks : List Nat) (hk : AxesNorm s.length axes ks)
    (hlen : shifts.length = axes.length)
    (v : IxView) (hv : rollAxesView s shifts axes = some v) : v.InBounds := by
  simp only [rollAxesView, shapeRoll_of_axesNorm s axes ks hk, Option.map_some, Option.some.injEq] at hv
  subst hv
  refine IxView.inBounds_of_total fun d hd => ?_
  rw [indexRollU, indexRollLoop_eq s d axes ks shifts d hk hlen hd]
  refine inShape_mapIdx _ (fun _ e => e) ((mapIdx_eq_self _ s fun _ _ _ => rfl).symm ▸ hd) fun p x n hn hxm => ?_
  rw [hn]
  exact rollSrc_lt n x _ (Nat.zero_lt_of_lt hxm)

/-- an axis in `[-dim, dim)` is accepted and the shape is unchanged (NumPy) -/
theorem roll_shape (s : Shape) (shift axis : Int) (k : Nat) (hk : normalizeAxis1 axis s.length = some k) :
    ∃ v, rollView s shift axis = some v ∧ v.src = s ∧ v.dst = s :=
  rollAxes_shape s [shift] [axis] [k] (.cons hk .nil)

/-- `out[…, x, …] = a[…, (x - shift) mod n, …]` for every accepted axis (negative ones included) and EVERY shift -/
theorem roll_elem (s : Shape) (shift axis : Int) (k : Nat) (hk : normalizeAxis1 axis s.length = some k)
    (v : IxView) (hv : rollView s shift axis = some v) (d : Idx) (hd : InShape d s)
    (n x : Nat) (hn : s[k]? = some n) (hx : d[k]? = some x) :
    v.map d = some (d.set k (rollSrc n x shift)) := by
  obtain ⟨_, -, rfl⟩ := Option.map_eq_some_iff.1 hv
  simp only [indexRollU_single s d shift axis k hk hd n x hn hx, Option.getD_some]

theorem roll_inBounds (s : Shape) (shift axis : Int) (k : Nat) (hk : normalizeAxis1 axis s.length = some k)
    (v : IxView) (hv : rollView s shift axis = some v) : v.InBounds :=
  rollAxes_inBounds s [shift] [axis] [k] (.cons hk .nil) rfl v hv

/-- axis None: same shape, never Nothing -/
theorem rollNone_shape (s : Shape) (shift : Int) :
    ∃ v, rollNoneView s shift = some v ∧ v.src = s ∧ v.dst = s := by
  obtain ⟨r, hr, _, _⟩ := roll_shape [prod s] shift 0 0 rfl
  simp only [rollNoneView, hr, Option.map_some]
  exact ⟨_, rfl, rfl, rfl⟩

/-- axis None: `out.flat[j] = a.flat[(j - shift) mod size]` for every shift -/
theorem rollNone_elem (s : Shape) (shift : Int)
    (v : IxView) (hv : rollNoneView s shift = some v) (d : Idx) (hd : InShape d s) :
    v.map d = some (ndindex s (rollSrc (prod s) (computeOffset d (strides s)) shift)) := by
  obtain ⟨r, hr, _, _⟩ := roll_shape [prod s] shift 0 0 rfl
  have hmap := roll_elem [prod s] shift 0 0 rfl r hr [computeOffset d (strides s)] ⟨offset_lt hd, trivial⟩
    (prod s) (computeOffset d (strides s)) rfl rfl
  simp only [rollNoneView, hr, Option.map_some, Option.some.injEq] at hv
  subst hv
  simp only [IxView.comp, reshapeViewRaw, Option.bind_some, reshapeIdx_to_flat hd, hmap, List.set_cons_zero,
    reshapeIdx_of_flat]

theorem rollNone_inBounds (s : Shape) (hs : Pos s) (shift : Int)
    (v : IxView) (hv : rollNoneView s shift = some v) : v.InBounds :=
  IxView.inBounds_of_shape (rollNone_shape s shift) hv fun d hd i hi => by
    rw [rollNone_elem s shift v hv d hd, Option.some.injEq] at hi
    exact hi ▸ indices_inShape hs _

/-- a repeated axis adds its shifts up (regression guard for the repaired defect) -/
example : (rollAxesView [3] [1, 1] [0, -1]).bind (·.map [0]) = some [rollSrc 3 0 (1 + 1)] := by decide
example : shiftSum [0, 1, 0] [1, 5, 2] 0 = 3 := by decide

/-- shifts beyond the extent wrap (regression guard for the repaired single-wrap defect) -/
example : (rollView [3] 7 0).bind (·.map [0]) = some [rollSrc 3 0 7] := by decide
example : (rollView [3] (-8) 0).bind (·.map [1]) = some [0] := by decide
/-- hypotheses `hk` of `roll_*` / `rollAxes_*` -/
example : normalizeAxis1 (-1) 2 = some 1 := by decide
example : AxesNorm 2 [-1, 0] [1, 0] := .cons (by decide) (.cons (by decide) .nil)
example : (rollAxesView [2, 3] [1, -2] [-1, 0]).map (·.map [1, 2]) = some (some [1, 1]) := by decide
example : (rollView [2, 3] (-1) (-1)).map (·.map [1, 2]) = some (some [1, 0]) := by decide
example : rollSrc 3 2 (-1) = 0 := by decide
example : (rollNoneView [2, 3] 1).map (·.map [1, 0]) = some (some [0, 2]) := by decide

/-! ### resize (nearest-neighbour sampling: documented definition `src index = ⌊d · src / dst⌋` per axis; the `float(…)`
    round trip of resize.hpp:74 is left out of the model: exact below 2^24) -/

/-- equal rank and positive target extents: the view exists and has the requested shape -/
theorem resize_shape (s t : Shape) (hl : s.length = t.length) (ht : Pos t) :
    ∃ v, resizeView s t = some v ∧ v.src = s ∧ v.dst = t :=
  ⟨_, resizeView_eq_some.2 ⟨⟨hl, ht⟩, rfl⟩, rfl, rfl⟩

/-- a rank mismatch or a non-positive target extent is refused -/
theorem resize_nothing (s t : Shape) (h : s.length ≠ t.length ∨ ¬ Pos t) : resizeView s t = none :=
  Option.eq_none_iff_forall_ne_some.2 fun _ hv =>
    h.elim (· (resizeView_eq_some.1 hv).1.1) (· (resizeView_eq_some.1 hv).1.2)

theorem resize_elem (s t : Shape) (v : IxView) (hv : resizeView s t = some v) (d : Idx) :
    v.map d = some (resizeIdxSpec d s t) := by
  obtain ⟨_, rfl⟩ := resizeView_eq_some.1 hv
  exact congrArg some (indexResize_eq_spec d s t)

theorem resize_inBounds (s t : Shape) (hs : Pos s) (v : IxView) (hv : resizeView s t = some v) : v.InBounds := by
  obtain ⟨⟨hl, _⟩, rfl⟩ := resizeView_eq_some.1 hv
  exact IxView.inBounds_of_total fun d => indexResize_inShape d s t hl hs

example : (resizeView [2, 3] [4, 2]).map (fun v => (v.dst, v.map [3, 1])) = some ([4, 2], some [1, 1]) := by decide

/-! ### compress (`compress(cond, a, axis) = take(a, nonzero(cond), axis)`; every accepted axis incl. negative
    (repaired in /repo: "compress.negative-axis").  Axis None is not restated: `compressView s cond none` unfolds to
    `takeView s … none`, to which `takeNone_*` apply) -/

/-- every kept position is the position of a non-zero condition entry (that every such position is kept, once and in
    order, is not stated) -/
theorem compress_positions (cond : List Int) :
    ∀ j ∈ nonzeroIdx cond, j < cond.length ∧ ∃ c, cond[j]? = some c ∧ c ≠ 0 := by
  intro j hj
  obtain ⟨p, rfl, c, h3, h4⟩ := nonzeroIdxAux_spec 0 cond j hj
  rw [Nat.zero_add]
  exact ⟨(List.getElem?_eq_some_iff.1 h3).1, c, h3, h4⟩

theorem compress_axis_normalize (s : Shape) (cond : List Int) (axis : Int) (k : Nat)
    (hk : normalizeAxis1 axis s.length = some k) :
    compressView s cond (some axis) = compressView s cond (some (k : Int)) :=
  takeView_axis_normalize s _ axis k hk

/-- NumPy's shape: the axis keeps as many entries as the condition has non-zero ones -/
theorem compress_shape (s : Shape) (cond : List Int) (axis : Int) (k : Nat) (hk : normalizeAxis1 axis s.length = some k) :
    ∃ v, compressView s cond (some axis) = some v ∧ v.src = s ∧
      v.dst = takeShapeSpec s (nonzeroIdx cond).length k := by
  obtain ⟨v, hv, h1, h2⟩ := take_shape s ((nonzeroIdx cond).map Int.ofNat) axis k hk
  exact ⟨v, hv, h1, by simpa using h2⟩

/-- entry `x` of the axis reads the `x`-th non-zero position of the condition -/
theorem compress_elem (s : Shape) (cond : List Int) (axis : Int) (k : Nat) (hk : normalizeAxis1 axis s.length = some k)
    (v : IxView) (hv : compressView s cond (some axis) = some v) (d : Idx)
    (x j : Nat) (hx : d[k]? = some x) (hj : (nonzeroIdx cond)[x]? = some j) :
    v.map d = some (d.set k j) := by
  rw [compress_axis_normalize s cond axis k hk] at hv
  cases hv
  exact congrArg some (indexTake_eq_nat d s _ k x j hx (by rw [List.getElem?_map, hj]; rfl))

/-- a condition no longer than the axis never reads outside the source -/
theorem compress_inBounds (s : Shape) (cond : List Int) (axis : Int) (k : Nat) (hk : normalizeAxis1 axis s.length = some k)
    (n : Nat) (hn : s[k]? = some n) (hc : cond.length ≤ n)
    (v : IxView) (hv : compressView s cond (some axis) = some v) : v.InBounds := by
  refine take_inBounds s _ axis k hk n hn (fun e he => ?_) v hv
  obtain ⟨j, hj, rfl⟩ := List.mem_map.1 he
  -- a kept position is a position of `cond`: `-n ≤ 0 ≤ j < len cond ≤ n`
  exact ⟨Int.le_trans (Int.neg_nonpos_of_nonneg (Int.natCast_nonneg n)) (Int.natCast_nonneg j),
    Int.ofNat_lt.2 (Nat.lt_of_lt_of_le (compress_positions cond j hj).1 hc)⟩

example : nonzeroIdx [0, 1, 0, 1] = [1, 3] := by decide
example : (compressView [2, 4] [0, 1, 0, 1] (some 1)).map (fun v => (v.dst, v.map [1, 1])) = some ([2, 2], some [1, 3]) := by decide
example : (compressView [2, 4] [0, 1, 0, 1] (some (-1))).map (fun v => (v.dst, v.map [1, 1])) = some ([2, 2], some [1, 3]) := by decide

/-! ### expand (spacing insertion with a fill value: documented definition — extent `n + (n-1)·spacing` on the axis,
    source entry `q` at position `q·(spacing+1)`, fill elsewhere).  `expand_*`: one axis (any accepted sign);
    `expandAxes_*`: any list of accepted axes (any sign, repeats allowed) with one spacing per entry (a scalar spacing is
    the constant list).  Extents `≥ 1` are meant: on an extent 0 the C++ `(n-1)·spacing` wraps in `nm_size_t`, the model's
    `n - 1` truncates to 0. -/

theorem expand_shape (s : Shape) (axis : Int) (sp k e : Nat) (hk : normalizeAxis1 axis s.length = some k)
    (he : s[k]? = some e) :
    ∃ v, expandView s [axis] [sp] = some v ∧ v.src = s ∧ v.dst = replaceExtent s k (e + (e - 1) * sp) := by
  simp only [expandView, normalizeAxes, mapM_normalizeAxis1_of_axesNorm _ _ _ (.cons hk .nil), Option.map_some, shapeExpand, he,
    replaceExtent_eq_set s k _ (normalizeAxis1_some axis _ k hk).1]
  exact ⟨_, rfl, rfl, rfl⟩

/-- position `x` of the axis holds source entry `x / (sp+1)` when `sp+1` divides `x`, the fill value otherwise -/
theorem expand_elem (s : Shape) (axis : Int) (sp k : Nat) (hk : normalizeAxis1 axis s.length = some k)
    (v : IxView) (hv : expandView s [axis] [sp] = some v) (d : Idx) (x : Nat) (hx : d[k]? = some x) :
    v.map d = if x % (sp + 1) = 0 then some (d.set k (x / (sp + 1))) else none := by
  simp only [expandView, normalizeAxes, mapM_normalizeAxis1_of_axesNorm _ _ _ (.cons hk .nil), Option.map_some, Option.some.injEq] at hv
  subst hv
  simp only [indexExpand, hx, gt_iff_lt, Nat.pos_iff_ne_zero, ite_not]

example : (expandView [2, 3] [-1] [2]).map (fun v => (v.dst, v.map [1, 3], v.map [1, 4])) =
    some ([2, 7], some [1, 1], none) := by decide

/-- several axes: the factor of an axis that is listed once is its `spacing + 1`, of an axis that is not listed 1
    (so the statements below are the documented per-axis definition; a repeated axis multiplies its factors, which is
    what inserting the spacings one after the other gives) -/
theorem expandAxes_factor (ks sps : List Nat) (hn : ks.Nodup) :
    (∀ (i k sp : Nat), ks[i]? = some k → sps[i]? = some sp → expandFactor ks sps k = sp + 1) ∧
    (∀ j, j ∉ ks → expandFactor ks sps j = 1) :=
  ⟨expandFactor_nodup ks sps hn, expandFactor_not_mem ks sps⟩

/-- accepted axes (each in `[-dim, dim)`), one spacing per axis: the view exists, keeps the rank, and axis `j` has extent
    `n + (n-1)·(factor j - 1)` — `n + (n-1)·spacing` on a listed axis, `n` elsewhere.
    (`hl` is the documented domain; none of `expandAxes_*` needs it: loops and `expandFactor` stop at the shorter list.) -/
theorem expandAxes_shape (s : Shape) (axes : List Int) (sps ks : List Nat) (hk : AxesNorm s.length axes ks)
    (hl : sps.length = axes.length) :
    ∃ v, expandView s axes sps = some v ∧ v.src = s ∧ v.dst.length = s.length ∧
      ∀ j (hj : j < s.length), v.dst[j]? = some (s[j] + (s[j] - 1) * (expandFactor ks sps j - 1)) := by
  refine ⟨⟨s, shapeExpand s ks sps, fun d => indexExpand d ks sps⟩, ?_, rfl, ?_, fun j hj => ?_⟩
  · simp only [expandView, normalizeAxes, mapM_normalizeAxis1_of_axesNorm _ _ _ hk, Option.map_some]
  · simp only [shapeExpand_eq ks sps s hk.lt, List.length_mapIdx]
  · simp only [shapeExpand_eq ks sps s hk.lt, List.getElem?_mapIdx, List.getElem?_eq_getElem hj, Option.map_some]

/-- the fill value wherever some coordinate is not a multiple of its factor; otherwise the source element whose
    coordinates are the destination coordinates divided by their factors -/
theorem expandAxes_elem (s : Shape) (axes : List Int) (sps ks : List Nat) (hk : AxesNorm s.length axes ks)
    (hl : sps.length = axes.length) (v : IxView) (hv : expandView s axes sps = some v) (d : Idx)
    (hd : d.length = s.length) :
    ((∃ j x, d[j]? = some x ∧ x % expandFactor ks sps j ≠ 0) → v.map d = none) ∧
    ((∀ j x, d[j]? = some x → x % expandFactor ks sps j = 0) →
      ∃ q, v.map d = some q ∧ q.length = d.length ∧ ∀ j x, d[j]? = some x → q[j]? = some (x / expandFactor ks sps j)) := by
  simp only [expandView, normalizeAxes, mapM_normalizeAxis1_of_axesNorm _ _ _ hk, Option.map_some, Option.some.injEq] at hv
  subst hv
  have key := fun q => indexExpand_eq ks sps d q (by rw [hd]; exact hk.lt)
  exact ⟨fun ⟨j, x, hx, hne⟩ => Option.eq_none_iff_forall_ne_some.2 fun q h => hne (((key q).1 h).1 j x hx),
    fun hall => ⟨_, (key _).2 ⟨hall, rfl⟩, List.length_mapIdx, fun j x hx => by rw [List.getElem?_mapIdx, hx]; rfl⟩⟩

theorem expandAxes_inBounds (s : Shape) (axes : List Int) (sps ks : List Nat) (hk : AxesNorm s.length axes ks)
    (hl : sps.length = axes.length) (v : IxView) (hv : expandView s axes sps = some v) : v.InBounds := by
  simp only [expandView, normalizeAxes, mapM_normalizeAxis1_of_axesNorm _ _ _ hk, Option.map_some, Option.some.injEq] at hv
  subst hv
  intro d hd i hi
  change InShape d (shapeExpand s ks sps) at hd
  rw [shapeExpand_eq ks sps s hk.lt] at hd
  have hdl : d.length = s.length := by rw [hd.length_eq, List.length_mapIdx]
  obtain ⟨_, rfl⟩ := (indexExpand_eq ks sps d i (by rw [hdl]; exact hk.lt)).1 hi
  exact inShape_mapIdx _ _ hd fun p x n _ hxm => expand_quot_lt n _ x (expandFactor_pos ks sps p) hxm

theorem expand_inBounds (s : Shape) (axis : Int) (sp k : Nat) (hk : normalizeAxis1 axis s.length = some k)
    (v : IxView) (hv : expandView s [axis] [sp] = some v) : v.InBounds :=
  expandAxes_inBounds s [axis] [sp] [k] (.cons hk .nil) rfl v hv

example : AxesNorm 2 [-1, 0] [1, 0] ∧ expandFactor [1, 0] [2, 1] 1 = 3 ∧ expandFactor [1, 0] [2, 1] 0 = 2 :=
  ⟨.cons (by decide) (.cons (by decide) .nil), by decide, by decide⟩
example : (expandView [2, 3] [-1, 0] [2, 1]).map (fun v => (v.dst, v.map [2, 3], v.map [1, 3], v.map [2, 4])) =
    some ([3, 7], some [1, 1], none, none) := by decide
/-- a repeated axis multiplies its factors -/
example : expandFactor [0, 0] [1, 2] 0 = 6 ∧
    (expandView [3] [0, -1] [1, 2]).map (fun v => (v.dst, v.map [6], v.map [3])) = some ([13], some [1], none) := by decide

/-! ### tril / triu (NumPy: `out[…, i, j] = m[…, i, j]` if `j ≤ i + k` (tril) / `j ≥ i + k` (triu), else 0;
    a rank-1 `m` is used as every row of an `n × n` result) -/

theorem tril_shape (s : Shape) (k : Int) : ∃ v, trilView s k = some v ∧ v.src = s ∧ v.dst = shapeTri s :=
  ⟨_, rfl, rfl, rfl⟩

theorem triu_shape (s : Shape) (k : Int) : ∃ v, triuView s k = some v ∧ v.src = s ∧ v.dst = shapeTri s :=
  ⟨_, rfl, rfl, rfl⟩

private theorem triView_elem (f : Int → Int → Bool) (s : Shape) (v : IxView) (hv : triView f s = some v) (d : Idx)
    (i0 i1 : Nat) (hd : lastTwo d = some (i0, i1)) :
    v.map d = if f i0 i1 then none else if s.length > 1 then some d else some [i1] := by
  cases hv
  simp only [hd]

theorem tril_elem (s : Shape) (k : Int) (v : IxView) (hv : trilView s k = some v) (d : Idx) (i0 i1 : Nat)
    (hd : lastTwo d = some (i0, i1)) :
    v.map d = if (i1 : Int) ≤ (i0 : Int) + k then (if s.length > 1 then some d else some [i1]) else none := by
  simp only [triView_elem _ s v hv d i0 i1 hd, decide_eq_true_eq, gt_iff_lt, ← Int.not_le, ite_not]

theorem triu_elem (s : Shape) (k : Int) (v : IxView) (hv : triuView s k = some v) (d : Idx) (i0 i1 : Nat)
    (hd : lastTwo d = some (i0, i1)) :
    v.map d = if (i0 : Int) + k ≤ (i1 : Int) then (if s.length > 1 then some d else some [i1]) else none := by
  simp only [triView_elem _ s v hv d i0 i1 hd, decide_eq_true_eq, gt_iff_lt, ← Int.not_le, ite_not,
    ← Int.add_le_iff_le_sub]

private theorem triView_inBounds (f : Int → Int → Bool) (s : Shape) (v : IxView) (hv : triView f s = some v) : v.InBounds := by
  cases hv
  intro d hd i hi
  cases hlt : lastTwo d with
  | none => simp only [hlt] at hi; cases hi
  | some p =>
    simp only [hlt] at hi
    split at hi
    · cases hi
    · -- the three shapes of `shapeTri`: no element, a vector used as every row, rank ≥ 2 read in place
      rcases s with _ | ⟨n, _ | ⟨m, s⟩⟩
      · cases d with
        | nil => cases hlt
        | cons => exact hd.elim
      · obtain ⟨a, b, rfl, _, hb⟩ := inShape_pair hd
        cases hlt; cases hi; exact ⟨hb, trivial⟩
      · cases hi; exact hd

theorem tril_inBounds (s : Shape) (k : Int) (v : IxView) (hv : trilView s k = some v) : v.InBounds :=
  triView_inBounds _ s v hv

theorem triu_inBounds (s : Shape) (k : Int) (v : IxView) (hv : triuView s k = some v) : v.InBounds :=
  triView_inBounds _ s v hv

example : (trilView [3, 3] (-1)).map (fun v => (v.map [1, 0], v.map [1, 1])) = some (some [1, 0], none) := by decide
example : (triuView [3] 1).map (fun v => (v.dst, v.map [0, 2], v.map [1, 1])) = some ([3, 3], some [2], none) := by decide

/-! ### diagflat (NumPy: the flattened input on the `k`-th diagonal of an `(n+|k|)²` zero matrix:
    `out[i, i+k] = flat[i]` for `k ≥ 0`, `out[i-k, i] = flat[i]` for `k < 0`, i.e. source = `min(row, col)`) -/

theorem diagflat_shape (s : Shape) (k : Int) :
    ∃ v, diagflatView s k = some v ∧ v.src = s ∧ v.dst = [prod s + k.natAbs, prod s + k.natAbs] := by
  have habs : (if k ≥ 0 then k else -k) = ((k.natAbs : Nat) : Int) := by
    by_cases h : k ≥ 0
    · rw [if_pos h, Int.natAbs_of_nonneg h]
    · rw [if_neg h, Int.ofNat_natAbs_of_nonpos (Int.le_of_lt (Int.not_le.1 h))]
  refine ⟨_, rfl, rfl, ?_⟩
  simp only [habs, ← Int.natCast_add, i2u_nat]

theorem diagflat_elem (s : Shape) (k : Int) (v : IxView) (hv : diagflatView s k = some v) (i0 i1 : Nat) :
    v.map [i0, i1] = if (i1 : Int) = (i0 : Int) + k then some (ndindex s (min i0 i1)) else none := by
  cases hv
  refine ite_congr rfl (fun h => ?_) fun _ => rfl
  -- on the diagonal the flat source position `i0 + min(k,0)` is the smaller of row and column
  have : i2u ((i0 : Int) + (if k > 0 then 0 else k)) = min i0 i1 := by
    by_cases hk : k > 0
    · rw [if_pos hk, Int.add_zero, i2u_nat, Nat.min_eq_left (by omega)]
    · rw [if_neg hk, ← h, i2u_nat, Nat.min_eq_right (by omega)]
  rw [this, reshapeIdx_of_flat]

theorem diagflat_inBounds (s : Shape) (hs : Pos s) (k : Int) (v : IxView) (hv : diagflatView s k = some v) : v.InBounds :=
  IxView.inBounds_of_shape (diagflat_shape s k) hv fun d hd i hi => by
    obtain ⟨i0, i1, rfl, _⟩ := inShape_pair hd
    rw [diagflat_elem s k v hv i0 i1] at hi
    split at hi
    · exact Option.some.inj hi ▸ indices_inShape hs _
    · cases hi

example : (diagflatView [2, 2] (-1)).map (fun v => (v.dst, v.map [1, 0], v.map [4, 3], v.map [2, 2])) =
    some ([5, 5], some [0, 0], some [1, 1], none) := by decide

/-! ### sliding_window (scalar window on one axis — NumPy `sliding_window_view(a, w, axis=k)`: extent `e - w + 1` on the
    axis, a trailing window axis of extent `w`, `out[i…, o] = a[i with i[k] + o]`).  Window lists with axis lists / axis
    None: `slidingWindowList_*`, `slidingWindowNone_*`, `slidingWindowScalarNone_rank1` below. -/

theorem slidingWindow_shape (s : Shape) (w : Nat) (axis : Int) (k e : Nat) (hk : normalizeAxis1 axis s.length = some k)
    (he : s[k]? = some e) :
    ∃ v, slidingWindowView s [w] (some [axis]) true = some v ∧ v.src = s ∧
      v.dst = replaceExtent s k (e - (w - 1)) ++ [w] := by
  simp only [slidingWindowView, shapeSlidingWindow, mapM_normalizeAxis1_of_axesNorm _ _ _ (.cons hk .nil),
    Option.map_some, shrinkAxes, he, replaceExtent_eq_set s k _ (normalizeAxis1_some axis _ k hk).1]
  exact ⟨_, rfl, rfl, rfl⟩

theorem slidingWindow_elem (s : Shape) (w : Nat) (axis : Int) (k : Nat) (hk : normalizeAxis1 axis s.length = some k)
    (v : IxView) (hv : slidingWindowView s [w] (some [axis]) true = some v)
    (i : Idx) (o x : Nat) (hi : i.length = s.length) (hx : i[k]? = some x) :
    v.map (i ++ [o]) = some (i.set k (x + o)) := by
  obtain ⟨_, -, rfl⟩ := Option.map_eq_some_iff.1 hv
  simp only [indexSlidingWindow_append i [o] _ hi, addWindowOffsets, atPy_of_normalizeAxis1 i axis k (hi ▸ hk), hx,
    setPy_of_normalizeAxis1 i axis k _ (hi ▸ hk), Option.getD_some]

example : (slidingWindowView [2, 4] [2] (some [-1]) true).map (fun v => (v.dst, v.map [1, 2, 1])) =
    some ([2, 3, 2], some [1, 3]) := by decide

/-! ### sliding_window with a window LIST and an axis LIST (NumPy `sliding_window_view(a, window_shape, axis)`,
    `len(window_shape) = len(axis)`, axes may be negative and may repeat): SPEC `swShape` / `swIndex` in
    Lemmas/SlidingWindow.lean. -/

/-- shape = NumPy's: every listed axis trimmed by `w - 1` (a repeated axis by the total), window extents appended;
    for ANY window sizes (truncated subtraction) -/
theorem slidingWindowList_shape_any (s ws : List Nat) (axes : List Int) (ks : List Nat) (hk : AxesNorm s.length axes ks) :
    ∃ v, slidingWindowView s ws (some axes) false = some v ∧ v.src = s ∧ v.dst = swShape s ks ws := by
  simp only [slidingWindowView, shapeSlidingWindow, mapM_normalizeAxis1_of_axesNorm _ _ _ hk, Option.map_some]
  exact ⟨_, rfl, rfl, by rw [shrinkAxes_eq s ks ws hk.lt]; rfl⟩

/-- `hw` / `hfit` delimit NumPy's domain (windows `≥ 1`, total trim within the extent), on which the subtractions in
    `swShape` are exact and the `size_t` arithmetic of the C++ does not wrap (the equation itself needs none of them). -/
theorem slidingWindowList_shape (s ws : List Nat) (axes : List Int) (ks : List Nat) (hk : AxesNorm s.length axes ks)
    (hl : ws.length = axes.length) (hw : ∀ w ∈ ws, 1 ≤ w)
    (hfit : ∀ p e, s[p]? = some e → winSum ks (ws.map (· - 1)) p ≤ e) :
    ∃ v, slidingWindowView s ws (some axes) false = some v ∧ v.src = s ∧ v.dst = swShape s ks ws :=
  slidingWindowList_shape_any s ws axes ks hk

/-- element `(i…, o…)` reads the source at `i[p] + Σ_{axis j = p} o[j]` (NumPy's strides: one window axis per listed
    axis, a repeated axis accumulates) -/
theorem slidingWindowList_elem (s ws : List Nat) (axes : List Int) (ks : List Nat) (hk : AxesNorm s.length axes ks)
    (v : IxView) (hv : slidingWindowView s ws (some axes) false = some v) (i o : Idx) (hi : i.length = s.length) :
    v.map (i ++ o) = some (swIndex i ks o) := by
  obtain ⟨_, -, rfl⟩ := Option.map_eq_some_iff.1 hv
  simp only [indexSlidingWindow_append i o _ hi, addWindowOffsets_eq i axes ks o hi hk, Option.getD_some]

/-- no access leaves the source, for ANY window sizes (where the window does not fit the trimmed extent is 0 and there is no
    destination index) -/
theorem slidingWindowList_inBounds_any (s ws : List Nat) (axes : List Int) (ks : List Nat) (hk : AxesNorm s.length axes ks)
    (v : IxView) (hv : slidingWindowView s ws (some axes) false = some v) : v.InBounds := by
  refine IxView.inBounds_of_shape (slidingWindowList_shape_any s ws axes ks hk) hv fun d hd r hr => ?_
  obtain ⟨i, o, rfl, hd1, hd2⟩ := Shape.inShape_append_split.1 hd
  rw [slidingWindowList_elem s ws axes ks hk v hv i o (by rw [hd1.length_eq, List.length_mapIdx]),
    Option.some.injEq] at hr
  subst hr
  exact swIndex_inShape s ks ws _ _ hd1 hd2

/-- `hw` / `hfit` are the domain on which the model mirrors the C++ (`size_t` arithmetic without wrap-around; NumPy's own
    domain is slightly smaller: it also refuses a trimmed extent of 0); the bound needs neither -/
theorem slidingWindowList_inBounds (s ws : List Nat) (axes : List Int) (ks : List Nat) (hk : AxesNorm s.length axes ks)
    (hw : ∀ w ∈ ws, 1 ≤ w) (hfit : ∀ p e, s[p]? = some e → winSum ks (ws.map (· - 1)) p ≤ e)
    (v : IxView) (hv : slidingWindowView s ws (some axes) false = some v) : v.InBounds :=
  slidingWindowList_inBounds_any s ws axes ks hk v hv

/-- scalar window on one axis: the instance `[w]`, `[axis]` (with an axis list the model does not look at the scalar flag).
    `hw1` / `hw2`: NumPy's domain; the bound needs neither -/
theorem slidingWindow_inBounds (s : Shape) (w : Nat) (axis : Int) (k e : Nat) (hk : normalizeAxis1 axis s.length = some k)
    (he : s[k]? = some e) (hw1 : 1 ≤ w) (hw2 : w ≤ e)
    (v : IxView) (hv : slidingWindowView s [w] (some [axis]) true = some v) : v.InBounds :=
  slidingWindowList_inBounds_any s [w] [axis] [k] (.cons hk .nil) v hv

example : AxesNorm 2 [-1, 0, 1] [1, 0, 1] ∧ (∀ w ∈ [2, 2, 2], 1 ≤ w) ∧ swShape [3, 4] [1, 0, 1] [2, 2, 2] = [2, 2, 2, 2, 2] ∧
    swIndex [1, 1] [1, 0, 1] [1, 0, 1] = [1, 3] := by
  refine ⟨.cons (by decide) (.cons (by decide) (.cons (by decide) .nil)), by decide, by decide, by decide⟩
/-- repeated axis (negative and positive spelling of axis 1): the two window coordinates add up -/
example : (slidingWindowView [3, 4] [2, 2, 2] (some [-1, 0, 1]) false).map (fun v => (v.dst, v.map [1, 1, 1, 0, 1])) =
    some ([2, 2, 2, 2, 2], some [1, 3]) := by decide

/-- the domain hypotheses `hfit` hold on the example above (total trim 1 on axis 0, 2 on axis 1) -/
example : ∀ p e, ([3, 4] : List Nat)[p]? = some e → winSum [1, 0, 1] (([2, 2, 2] : List Nat).map (· - 1)) p ≤ e := by
  intro p e h
  rcases p with _ | _ | p
  · cases h; decide
  · cases h; decide
  · cases h

/-! axis None with a window list: one window per axis (NumPy: `axis = range(ndim)`, `len(window_shape) = ndim`).
    `hw` / `hfit` again delimit the domain on which the model mirrors the C++ (no `size_t` wrap-around). -/

theorem slidingWindowNone_shape (s ws : List Nat) (hl : ws.length = s.length) (hw : ∀ w ∈ ws, 1 ≤ w)
    (hfit : ∀ (p e w : Nat), s[p]? = some e → ws[p]? = some w → w ≤ e + 1) :
    ∃ v, slidingWindowView s ws none false = some v ∧ v.src = s ∧
      v.dst = List.zipWith (fun e w => e - (w - 1)) s ws ++ ws := by
  refine ⟨_, rfl, rfl, ?_⟩
  simp [shrinkAll, hl]

theorem slidingWindowNone_elem (s ws : List Nat) (v : IxView) (hv : slidingWindowView s ws none false = some v)
    (i o : Idx) (hi : i.length = s.length) (ho : o.length = s.length) :
    v.map (i ++ o) = some (List.zipWith (· + ·) i o) := by
  obtain ⟨_, -, rfl⟩ := Option.map_eq_some_iff.1 hv
  simp [indexSlidingWindow_append i o _ hi, ho]

theorem slidingWindowNone_inBounds (s ws : List Nat) (hl : ws.length = s.length) (hw : ∀ w ∈ ws, 1 ≤ w)
    (hfit : ∀ (p e w : Nat), s[p]? = some e → ws[p]? = some w → w ≤ e + 1) (v : IxView)
    (hv : slidingWindowView s ws none false = some v) : v.InBounds := by
  refine IxView.inBounds_of_shape (slidingWindowNone_shape s ws hl hw hfit) hv fun d hd r hr => ?_
  obtain ⟨i, o, rfl, hd1, hd2⟩ := Shape.inShape_append_split.1 hd
  rw [slidingWindowNone_elem s ws v hv i o (by rw [hd1.length_eq, List.length_zipWith, hl, Nat.min_self])
    (hd2.length_eq.trans hl), Option.some.injEq] at hr
  subst hr
  exact zipWith_add_inShape s ws _ _ hl hd1 hd2

example : (slidingWindowView [3, 4] [2, 3] none false).map (fun v => (v.dst, v.map [1, 1, 1, 2])) =
    some ([2, 2, 2, 3], some [2, 3]) := by decide

example : ∀ (p e w : Nat), ([3, 4] : List Nat)[p]? = some e → ([2, 3] : List Nat)[p]? = some w → w ≤ e + 1 := by
  intro p e w h1 h2
  rcases p with _ | _ | p
  · cases h1; cases h2; decide
  · cases h1; cases h2; decide
  · cases h1

/-- scalar window with axis None: NumPy accepts it for rank 1 only, where it is the one-axis case
    (`hw1` / `hw2`: the domain on which the model mirrors the C++, no `size_t` wrap-around) -/
theorem slidingWindowScalarNone_rank1 (n w : Nat) (hw1 : 1 ≤ w) (hw2 : w ≤ n + 1) :
    ∃ v, slidingWindowView [n] [w] none true = some v ∧ v.src = [n] ∧ v.dst = [n - (w - 1), w] ∧
      ∀ i o, v.map [i, o] = some [i + o] := by
  refine ⟨_, rfl, rfl, rfl, ?_⟩
  intro i o
  simp [indexSlidingWindow]

example : (slidingWindowView [4] [2] none true).map (fun v => (v.dst, v.map [2, 1])) = some ([3, 2], some [3]) := by decide

/-! ### split into `N` equal sections along axis `k` (NumPy `np.split(a, N, axis=k)`, `N ∣ extent`): `N` parts of
    extent `n / N`, part `i` reads `a[…, x + i·(n/N), …]`.  Cut-point lists: `splitIdx_*` below (cut points beyond the
    extent were a defect of the original code, "split.index-beyond-extent", repaired in /repo). -/

theorem split_parts (s : Shape) (N k n : Nat) (hn : s[k]? = some n) :
    ∃ ps, splitViews s (some N) [] (k : Int) = some ps ∧ ps.length = N := by
  obtain ⟨hk, _⟩ := List.getElem?_eq_some_iff.1 hn
  exact ⟨_, splitViews_eq s (some N) [] k k n (normalizeAxis1_nat k _ hk) hn,
    by simp only [List.length_map, splitBoundsSections, List.length_range]⟩

/-- `hdiv`: NumPy's domain; the statement holds for the truncated `n / N` whatever `N` -/
theorem split_elem (s : Shape) (N k n : Nat) (hn : s[k]? = some n) (hdiv : N ∣ n) (ps : List IxView)
    (hps : splitViews s (some N) [] (k : Int) = some ps) (i : Nat) (v : IxView) (hv : ps[i]? = some v) :
    i < N ∧ v.src = s ∧ v.dst = replaceExtent s k (n / N) ∧
      ∀ d x, d[k]? = some x → v.map d = some (d.set k (x + i * (n / N))) := by
  obtain ⟨hk, _⟩ := List.getElem?_eq_some_iff.1 hn
  rw [splitViews_eq s (some N) [] k k n (normalizeAxis1_nat k _ hk) hn, Option.some.injEq] at hps
  subst hps
  rw [List.getElem?_map, Option.map_eq_some_iff] at hv
  obtain ⟨p, hp, rfl⟩ := hv
  obtain ⟨hi, rfl, hle⟩ := splitBoundsSections_getElem? n N i p hp
  refine ⟨hi, rfl, ?_, fun d x hx => by simp only [splitPart, hx]⟩
  -- the stop `(i+1)·(n/N)` is within the extent, so the clamp is inactive
  rw [replaceExtent_eq_set s k _ hk]
  show s.set k (min (i * (n / N) + n / N) n - i * (n / N)) = _
  rw [Nat.min_eq_left hle, Nat.add_sub_cancel_left]

theorem split_inBounds (s : Shape) (N k n : Nat) (hn : s[k]? = some n) (hdiv : N ∣ n) (ps : List IxView)
    (hps : splitViews s (some N) [] (k : Int) = some ps) (i : Nat) (v : IxView) (hv : ps[i]? = some v) : v.InBounds := by
  obtain ⟨hk, _⟩ := List.getElem?_eq_some_iff.1 hn
  exact splitViews_inBounds s (some N) [] k k (normalizeAxis1_nat k _ hk) ps hps i v hv

example : (splitViews [2, 6] (some 3) [] 1).map (fun ps => ps.map (fun v => (v.dst, v.map [1, 1]))) =
    some [([2, 2], some [1, 1]), ([2, 2], some [1, 3]), ([2, 2], some [1, 5])] := by decide

/-! ### split at a LIST of cut points (NumPy `np.split(a, [i1, i2, …], axis)`): `len + 1` parts, part `i` = `a[lo:hi]` on
    the axis with `lo = ([0] + cuts)[i]`, `hi = (cuts + [n])[i]`; every accepted axis incl. negative; cut points beyond
    the extent are clamped (empty trailing parts), repeated cut points give empty parts.  Domain: cut points `≥ 0`
    (a negative cut point means "from the end" in NumPy and wraps to a huge `size_t` in the C++: outside the domain);
    the partition statement additionally needs them sorted (NumPy's documented domain). -/

/-- a cut list of length `m` gives `m + 1` parts, whatever the cut points (the C++ never refuses) -/
theorem splitIdx_parts (s : Shape) (cuts : List Int) (axis : Int) (k : Nat)
    (hk : normalizeAxis1 axis s.length = some k) :
    ∃ ps, splitViews s none cuts axis = some ps ∧ ps.length = cuts.length + 1 :=
  ⟨_, splitViews_eq s none cuts axis k _ hk (List.getElem?_eq_getElem (normalizeAxis1_some axis _ k hk).1),
    by rw [List.length_map, splitBoundsIndices_length]⟩

/-- part `i` is NumPy's `a[…, lo:hi, …]` with `lo = ([0] + cuts)[i]`, `hi = (cuts + [n])[i]` (Python slice semantics for
    non-negative bounds: both clamped to the extent `n`, length `max(0, stop - start)`), element `x ↦ x + start` -/
theorem splitIdx_elem (s : Shape) (cuts : List Int) (axis : Int) (k n : Nat)
    (hk : normalizeAxis1 axis s.length = some k) (hn : s[k]? = some n) (hnn : ∀ c ∈ cuts, 0 ≤ c)
    (ps : List IxView) (hps : splitViews s none cuts axis = some ps) (i : Nat) (v : IxView) (hv : ps[i]? = some v)
    (lo hi : Nat) (hlo : (0 :: cuts.map Int.toNat)[i]? = some lo) (hhi : (cuts.map Int.toNat ++ [n])[i]? = some hi) :
    v.src = s ∧ v.dst = replaceExtent s k (min hi n - min lo n) ∧
      ∀ d x, d[k]? = some x → v.map d = some (d.set k (x + min lo n)) := by
  rw [splitViews_eq s none cuts axis k n hk hn, Option.some.injEq] at hps
  subst hps
  rw [List.getElem?_map, splitBoundsIndices_getElem? n cuts hnn i lo hi hlo hhi, Option.map_some,
    Option.some.injEq] at hv
  subst hv
  refine ⟨rfl, ?_, fun d x hx => by simp only [splitPart, hx]⟩
  rw [replaceExtent_eq_set s k _ (normalizeAxis1_some axis _ k hk).1]
  show s.set k (min (min hi n) n - min lo n) = _
  rw [Nat.min_assoc, Nat.min_self]

/-- no part reads outside the source, whatever the (non-negative) cut points: beyond the extent ⇒ empty part -/
theorem splitIdx_inBounds (s : Shape) (cuts : List Int) (axis : Int) (k : Nat)
    (hk : normalizeAxis1 axis s.length = some k) (hnn : ∀ c ∈ cuts, 0 ≤ c)
    (ps : List IxView) (hps : splitViews s none cuts axis = some ps) (i : Nat) (v : IxView) (hv : ps[i]? = some v) :
    v.InBounds :=
  splitViews_inBounds s none cuts axis k hk ps hps i v hv

/-- sorted non-negative cut points: the parts PARTITION the axis — reading every part along the axis, one part after the
    other, visits every source position `0 … n-1` exactly once and in order (all other coordinates unchanged, `d`) -/
theorem splitIdx_partition (s : Shape) (cuts : List Int) (axis : Int) (k n : Nat)
    (hk : normalizeAxis1 axis s.length = some k) (hn : s[k]? = some n) (hnn : ∀ c ∈ cuts, 0 ≤ c)
    (hsorted : cuts.Pairwise (· ≤ ·))
    (ps : List IxView) (hps : splitViews s none cuts axis = some ps) (d : Idx) (hd : d.length = s.length) :
    ps.flatMap (fun v => axisReads v k d) = (List.range n).map some := by
  have hkn := (normalizeAxis1_some axis _ k hk).1
  rw [splitViews_eq s none cuts axis k n hk hn, Option.some.injEq] at hps
  subst hps
  rw [List.flatMap_map]
  simp only [axisReads_splitPart s k n _ d hkn hd]
  simp only [splitBoundsIndices, splitCuts_of_nonneg n cuts hnn]
  rw [← List.map_flatMap, flatMap_zip_ranges n _ 0]
  · simp [List.range_eq_range']
  · rw [List.pairwise_map, List.pairwise_map]
    refine hsorted.imp_of_mem ?_
    intro a b _ _ hab
    have := Int.toNat_le_toNat hab
    omega
  · intro c hc
    simp only [List.mem_map] at hc
    obtain ⟨c', _, rfl⟩ := hc
    exact ⟨Nat.zero_le _, Nat.min_le_right _ _⟩

/-- hypotheses of `splitIdx_elem` / `splitIdx_partition` -/
example : normalizeAxis1 (-1) 2 = some 1 ∧ (∀ c ∈ [1, 1, 7], (0 : Int) ≤ c) ∧ ([1, 1, 7] : List Int).Pairwise (· ≤ ·) := by decide
/-- cut points `[1, 1, 7]` on an axis of extent 4 (negative axis): parts `[0,1) [1,1) [1,4) [4,4)` -/
example : (splitViews [2, 4] none [1, 1, 7] (-1)).map (fun ps => ps.map (fun v => (v.dst, v.map [1, 0]))) =
    some [([2, 1], some [1, 0]), ([2, 0], some [1, 1]), ([2, 3], some [1, 1]), ([2, 0], some [1, 4])] := by decide
example : (splitViews [2, 4] none [1, 1, 7] (-1)).map (fun ps => ps.flatMap (fun v => axisReads v 1 [1, 0])) =
    some [some 0, some 1, some 2, some 3] := by decide

/-! ### stack / hstack / vstack / dstack / column_stack = concatenate of the two operands reshaped to a promoted shape
    (`joinReshaped a b a' b' axis`).  Reshaping keeps the flat (C-order) position, so the element theorems of
    concatenate carry over through `joinReshaped_elem_flat`; for positive extents no read leaves either operand, whatever the
    promotion. -/

/-- the joined view has the shape of the concatenation of the promoted shapes and reads, from the same operand, the
    element with the same FLAT position as the concatenation reads from the promoted operand -/
theorem joinReshaped_elem_flat (a b a' b' : Shape) (axis : Int) (ha : Pos a) (hb : Pos b)
    (hpa : prod a' = prod a) (hpb : prod b' = prod b)
    (c : IxView2) (hc : concatenateView a' b' (some axis) = some c) (hcb : c.InBounds)
    (v : IxView2) (hv : joinReshaped a b a' b' axis = some v) (d : Idx) (hd : InShape d c.dst)
    (fl : Bool) (i : Idx) (hi : c.map d = some (fl, i)) :
    v.dst = c.dst ∧ ∃ j, v.map d = some (fl, j) ∧
      (if fl then InShape j b ∧ computeOffset j (strides b) = computeOffset i (strides b')
       else InShape j a ∧ computeOffset j (strides a) = computeOffset i (strides a')) := by
  have hin := hcb d hd fl i hi
  cases hc; cases hv
  dsimp only at hi ⊢
  refine ⟨rfl, _, congrArg (Option.map _) hi, ?_⟩
  cases fl
  · exact reshapeIdx_spec ha hpa hin
  · exact reshapeIdx_spec hb hpb hin

/-- positive extents: a joined view never reads outside its operands (covers all five stack routines) -/
theorem joinReshaped_inBounds (a b a' b' : Shape) (axis : Int) (ha : Pos a) (hb : Pos b)
    (v : IxView2) (hv : joinReshaped a b a' b' axis = some v) : v.InBounds := by
  cases hv
  intro d _ fl i hi
  obtain ⟨⟨_ | _, _⟩, _, hp⟩ := Option.map_eq_some_iff.1 hi <;> cases hp
  · exact indices_inShape ha _
  · exact indices_inShape hb _

/-- the promotions mirror NumPy's for rank ≥ 1 (`vstack` → `atleast_2d` (row), `dstack` → `atleast_3d`, `column_stack` →
    column; rank 0 is left as it is, NumPy promotes it too).  Proved: each keeps the number of elements, which is what
    `joinReshaped_elem_flat` asks for -/
theorem promote_prod (s : Shape) : prod (promoteV s) = prod s ∧ prod (promoteD s) = prod s ∧ prod (promoteC s) = prod s := by
  refine ⟨?_, ?_, ?_⟩
  · fun_cases promoteV s <;> simp [prod]
  · fun_cases promoteD s <;> simp [prod]
  · fun_cases promoteC s <;> simp [prod]

theorem expandDims_prod (s : Shape) (axis : Int) (s' : Shape) (h : shapeExpandDims s axis = some s') : prod s' = prod s := by
  obtain ⟨k, _, rfl⟩ := Option.map_eq_some_iff.1 h
  rw [prod_mid, Nat.mul_one, ← prod_append, List.take_append_drop]

/-- compatible operands: hstack is concatenate along axis 0 (rank-1 left operand) or 1 — same shape, same read at every index
    inside it (`ha`, `hb` are not needed) -/
theorem hstack_is_concatenate (a b : Shape) (ha : Pos a) (hb : Pos b) (k : Nat) (hk : k = if a.length = 1 then 0 else 1)
    (h : ConcatCompatible a b k) (c : IxView2) (hc : concatenateView a b (some (k : Int)) = some c)
    (v : IxView2) (hv : hstackView a b = some v) (d : Idx) (hd : InShape d c.dst) :
    v.dst = c.dst ∧ v.map d = c.map d := by
  have hax : (if a.length = 1 then (0 : Int) else 1) = (k : Int) := by subst hk; split <;> rfl
  have hcb := concatenate_inBounds a b k h c hc
  rw [hstackView, hax, joinReshaped, hc] at hv
  cases hv
  refine ⟨rfl, ?_⟩
  -- no promotion: the reshape back to the same shape is the identity on an index inside it
  show (c.map d).map _ = c.map d
  cases hm : c.map d with
  | none => rfl
  | some p =>
    obtain ⟨fl, i⟩ := p
    have hin := hcb d hd fl i hm
    cases hc
    cases fl with
    | false => exact congrArg (fun j => some (false, j)) (indices_offset (s := a) hin)
    | true => exact congrArg (fun j => some (true, j)) (indices_offset (s := b) hin)

example : (stackView [2] [2] 1).map (fun v => (v.dst, v.map [1, 0], v.map [1, 1])) =
    some ([2, 2], some (false, [1]), some (true, [1])) := by decide
example : (vstackView [3] [2, 3]).map (fun v => (v.dst, v.map [0, 2], v.map [2, 1])) =
    some ([3, 3], some (false, [2]), some (true, [1, 1])) := by decide

/-! ### stack with a negative axis: `expand_dims` and the repaired `concatenate` normalise against the same rank `dim+1` -/

theorem stack_axis_normalize (a b : Shape) (axis : Int) (k : Nat) (hk : normalizeAxis1 axis (a.length + 1) = some k)
    (hb : b.length = a.length) :
    stackView a b axis = stackView a b (k : Int) := by
  have hk' : normalizeAxis1 (k : Int) (a.length + 1) = some k :=
    normalizeAxis1_nat k _ (normalizeAxis1_some axis _ k hk).1
  simp only [stackView, shapeExpandDims, hk, hk', hb, Option.map_some, joinReshaped]
  rw [concatenate_axis_normalize _ _ axis k (by rw [List.length_take_append_cons_drop]; exact hk)]

example : (stackView [1] [1] (-1)).map (·.dst) = some [1, 2] := by decide

/-! ### diagonal (NumPy `np.diagonal(a, offset, axis1, axis2)`): for every rank, every accepted axis pair (negative
    spellings included) whose normalised positions `a1 ≠ a2`, and EVERY offset (negative, beyond the extent: empty),
    `dst = (shape without axes a1, a2) ++ [max(0, min(s[a1] + min(off,0), s[a2] - max(off,0)))]` and
    `out[o…, j] = a[r]` where `r[a1] = j + max(-off,0)`, `r[a2] = j + max(off,0)` and `r` without the two axes is `o`
    (`diagonal_shape`, `diagonal_elem`, `diagonal_inBounds`).  The matrix case `diagonal2d_*_partial` is the instance
    rank 2, axes (0,1) (complete statements: `_partial` is name only).
    The two defects of the original code (negative offset, offset beyond the extent) were repaired in /repo. -/

theorem diagonal_shape (s : Shape) (off axis1 axis2 : Int) (a1 a2 n1 n2 : Nat)
    (h1 : normalizeAxis1 axis1 s.length = some a1) (h2 : normalizeAxis1 axis2 s.length = some a2) (hne : a1 ≠ a2)
    (hn1 : s[a1]? = some n1) (hn2 : s[a2]? = some n2) :
    ∃ v, diagonalView s off axis1 axis2 = some v ∧ v.src = s ∧ v.dst = removeTwo s a1 a2 ++ [diagLen n1 n2 off] := by
  simp only [diagonalView, h1, h2, shapeDiagonal_eq s off a1 a2 n1 n2 hne hn1 hn2, Option.map_some]
  exact ⟨_, rfl, rfl, rfl⟩

/-- NumPy's `out[o…, j] = a[…, j - min(off,0), …, j + max(off,0), …]` -/
theorem diagonal_elem (s : Shape) (off axis1 axis2 : Int) (a1 a2 : Nat)
    (h1 : normalizeAxis1 axis1 s.length = some a1) (h2 : normalizeAxis1 axis2 s.length = some a2) (hne : a1 ≠ a2)
    (v : IxView) (hv : diagonalView s off axis1 axis2 = some v) (o : Idx) (j : Nat) (ho : o.length + 2 = s.length) :
    ∃ r, v.map (o ++ [j]) = some r ∧ r.length = s.length ∧
      r[a1]? = some (j + (max (-off) 0).toNat) ∧ r[a2]? = some (j + (max off 0).toNat) ∧ removeTwo r a1 a2 = o := by
  simp only [diagonalView, h1, h2, Option.map_eq_some_iff] at hv
  obtain ⟨dst, _, rfl⟩ := hv
  obtain ⟨r, hr, hspec⟩ := indexDiagonal_spec s o j off a1 a2 hne (normalizeAxis1_some axis1 _ a1 h1).1
    (normalizeAxis1_some axis2 _ a2 h2).1 ho
  exact ⟨r, by simp only [hr, Option.getD_some], hspec⟩

/-- no access of a diagonal view leaves the source (any extents: an empty diagonal has no element to read) -/
theorem diagonal_inBounds (s : Shape) (off axis1 axis2 : Int) (a1 a2 : Nat)
    (h1 : normalizeAxis1 axis1 s.length = some a1) (h2 : normalizeAxis1 axis2 s.length = some a2) (hne : a1 ≠ a2)
    (v : IxView) (hv : diagonalView s off axis1 axis2 = some v) : v.InBounds := by
  have hk1 := (normalizeAxis1_some axis1 _ a1 h1).1
  have hk2 := (normalizeAxis1_some axis2 _ a2 h2).1
  have hn1 : s[a1]? = some s[a1] := List.getElem?_eq_getElem hk1
  have hn2 : s[a2]? = some s[a2] := List.getElem?_eq_getElem hk2
  refine IxView.inBounds_of_shape (diagonal_shape s off axis1 axis2 a1 a2 _ _ h1 h2 hne hn1 hn2) hv fun d hd i hi => ?_
  obtain ⟨o, _, rfl, hd1, hd2⟩ := Shape.inShape_append_split.1 hd
  obtain ⟨j, rfl, hj⟩ := inShape_singleton hd2
  obtain ⟨r, hr, hl, hr1, hr2, hrest⟩ := diagonal_elem s off axis1 axis2 a1 a2 h1 h2 hne v hv o j
    (hd1.length_eq ▸ removeTwo_length s a1 a2 hne hk1 hk2)
  cases hr.symm.trans hi
  obtain ⟨hj1, hj2⟩ := lt_of_lt_diagLen hj
  refine inShape_of_othersAux a1 a2 0 i s hl (fun k x e hk hx he => ?_)
    (by rw [othersAux_eq_removeTwo a1 a2 _ hne, othersAux_eq_removeTwo a1 a2 _ hne, hrest]; exact hd1)
  rw [Nat.zero_add] at hk
  rcases hk with rfl | rfl
  · cases hr1.symm.trans hx; cases hn1.symm.trans he; exact hj1
  · cases hr2.symm.trans hx; cases hn2.symm.trans he; exact hj2

theorem diagonal2d_shape_partial (n1 n2 : Nat) (off : Int) :
    ∃ v, diagonalView [n1, n2] off 0 1 = some v ∧ v.src = [n1, n2] ∧ v.dst = [diagLen n1 n2 off] :=
  diagonal_shape [n1, n2] off 0 1 0 1 n1 n2 rfl rfl (by decide) rfl rfl

/-- `out[j] = a[j + max(-off,0), j + max(off,0)]`: NumPy's `(j, j+off)` for `off ≥ 0`, `(j-off, j)` for `off < 0` -/
theorem diagonal2d_elem_partial (n1 n2 : Nat) (off : Int) (v : IxView)
    (hv : diagonalView [n1, n2] off 0 1 = some v) (j : Nat) :
    v.map [j] = some [j + (max (-off) 0).toNat, j + (max off 0).toNat] := by
  obtain ⟨r, hr, hl, hr1, hr2, _⟩ := diagonal_elem [n1, n2] off 0 1 0 1 rfl rfl (by decide) v hv [] j rfl
  obtain ⟨x, t, rfl⟩ := List.exists_cons_of_length_eq_add_one hl
  obtain ⟨y, rfl⟩ := List.length_eq_one_iff.1 (Nat.succ.inj hl)
  cases hr1
  cases hr2
  exact hr

theorem diagonal2d_inBounds_partial (n1 n2 : Nat) (off : Int) (v : IxView)
    (hv : diagonalView [n1, n2] off 0 1 = some v) : v.InBounds :=
  diagonal_inBounds [n1, n2] off 0 1 0 1 rfl rfl (by decide) v hv

/-- negative offset and empty diagonal (regression guards for the repaired defects) -/
example : (diagonalView [2, 1] (-1) 0 1).bind (·.map [0]) = some [1, 0] := by decide
example : (diagonalView [1, 1] 2 0 1).map (·.dst) = some [0] := by decide
example : diagLen 3 4 (-1) = 2 ∧ diagLen 3 4 5 = 0 := by decide

example : (diagonalView [3, 4] 1 0 1).map (fun v => (v.dst, v.map [2])) = some ([3], some [2, 3]) := by decide

/-- hypotheses of `diagonal_shape` / `diagonal_elem` -/
example : normalizeAxis1 (-1) 3 = some 2 ∧ normalizeAxis1 0 3 = some 0 ∧ removeTwo [2, 3, 4] 2 0 = [3] ∧
    diagLen 4 2 (-1) = 2 := by decide
example : (diagonalView [2, 3, 4] (-1) (-1) 0).map (fun v => (v.dst, v.map [2, 0], v.map [1, 1])) =
    some ([3, 2], some [0, 2, 1], some [1, 1, 2]) := by decide

/-! ### tri / eye / identity (generators; NumPy: `tri[i,j] = 1 iff j ≤ i + k`, `eye[i,j] = 1 iff j = i + k`) -/

theorem tri_shape (n : Nat) (m : Option Nat) (k : Int) :
    (triGen n m k).dst = [n, match m with | some m => m | none => n] := by cases m <;> rfl

theorem tri_elem (n : Nat) (m : Option Nat) (k : Int) (i j : Nat) :
    (triGen n m k).elem [i, j] = if (j : Int) ≤ (i : Int) + k then 1 else 0 := rfl

theorem eye_shape (n : Nat) (m : Option Nat) (k : Int) :
    (eyeGen n m k).dst = [n, match m with | some m => m | none => n] := by cases m <;> rfl

theorem eye_elem (n : Nat) (m : Option Nat) (k : Int) (i j : Nat) :
    (eyeGen n m k).elem [i, j] = if (j : Int) = (i : Int) + k then 1 else 0 := rfl

theorem identity_elem (n i j : Nat) : (identityGen n).dst = [n, n] ∧ (identityGen n).elem [i, j] = if j = i then 1 else 0 := by
  refine ⟨rfl, (eye_elem n none 0 i j).trans ?_⟩
  simp only [Int.add_zero, Int.natCast_inj]

example : (triGen 3 (some 4) (-1)).elem [2, 1] = 1 ∧ (triGen 3 (some 4) (-1)).elem [2, 2] = 0 := by decide

end NmVerif.Props.C04
