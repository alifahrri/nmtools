import NmVerif.Basic
import NmVerif.Arr
import NmVerif.Linalg
import NmVerif.Lemmas.LinalgMatmul
import NmVerif.Lemmas.LinalgDot
import NmVerif.Lemmas.LinalgTrace
import NmVerif.Lemmas.LinalgTensordot
import NmVerif.Lemmas.LinalgSmall
import NmVerif.Lemmas.LinalgKron
import NmVerif.Lemmas.LinalgChecked
/-
  C16 — Linear-algebra routines equal their mathematical definitions.
  The property statements (+ non-vacuity examples, regression instances); what several of them rest on is in
  Lemmas/Linalg*.lean, a proof that serves one statement only stands under it.  MODEL and SPEC: NmVerif/Linalg.lean, Index/Matmul.lean, Index/MatmulBroadcast.lean.

  Results are *symbolic*: a routine returns, for every destination index, the list of product terms
  `(lhs index, rhs index)` it sums, in fold order; `valueAt` evaluates such a list on concrete data.
-/
namespace NmVerif.Props.C16
open NmVerif.MB
open NmVerif NmVerif.Linalg

/-! ### matmul -/

/-- `index::shape_matmul` is NumPy's rule for every pair of operand shapes of rank ≥ 1 (accepted or refused):
    `Nothing` exactly when the contracted extents differ or the batch parts do not broadcast; otherwise
    broadcast(batch) ++ [m] (lhs not 1-d) ++ [n] (rhs not 1-d). -/
theorem shapeMatmul_eq_numpy (sa sb : Shape) (ha : 1 ≤ sa.length) (hb : 1 ≤ sb.length) :
    shapeMatmul sa sb = specMatmulShape sa sb := shapeMatmul_eq_spec sa sb ha hb

example : shapeMatmul [2, 1, 3, 4] [5, 4, 2] = some [2, 5, 3, 2] := by decide
example : shapeMatmul [4] [3, 4, 2] = some [3, 2] := by decide
example : shapeMatmul [2, 3] [4, 2] = none := by decide

/-- `view::matmul` (slicing implementation), every pair of operand shapes of rank ≥ 1 that NumPy accepts — any batch ranks /
    broadcast pattern, 1-d promotion on either side (fix C16-matmul-1d-operand: a 1-d lhs is the row, a 1-d rhs the column,
    the result has no coordinate for it): the shape is NumPy's and the terms summed for `out[β…, i, j]` are exactly
    `a[β_a…, i, k] · b[β_b…, k, j]` for `k = 0, …, K-1`, in this order (the `i` / `j` coordinate absent for a 1-d lhs /
    rhs); no element access leaves the result index (`some`). -/
theorem matmul_elem_eq_sum (sa sb dst : Shape) (ha : 1 ≤ sa.length) (hb : 1 ≤ sb.length)
    (hacc : specMatmulShape sa sb = some dst) :
    ∃ r, matmulV1 sa sb = some r ∧ r.shape = dst ∧
      ∀ d, InShape d dst → r.get d = some (specMatmulTerms sa sb d) :=
  matmulV1_eq_spec_all sa sb dst ha hb hacc

example : specMatmulShape [2, 1, 2, 3] [4, 3, 2] = some [2, 4, 2, 2] := by decide
example : specMatmulTerms [2, 1, 2, 3] [4, 3, 2] [1, 3, 0, 1] =
    [([1, 0, 0, 0], [3, 0, 1]), ([1, 0, 0, 1], [3, 1, 1]), ([1, 0, 0, 2], [3, 2, 1])] := by decide
-- 1-d promotion on either side
example : specMatmulShape [3] [2, 3, 2] = some [2, 2] ∧ specMatmulShape [2, 2, 3] [3] = some [2, 2] ∧ specMatmulShape [3] [3] = some [] := by decide
example : specMatmulTerms [2, 2, 3] [3] [1, 0] = [([1, 0, 0], [0]), ([1, 0, 1], [1]), ([1, 0, 2], [2])] := by decide

/-- `view::matmulv2` (tile / reshape / transpose / reshape / multiply / sum pipeline) is NumPy's matmul on every accepted
    pair of operand shapes of rank ≥ 1 with positive extents — batch broadcasting and 1-d promotion on either side
    included: NumPy's shape and, for every element, exactly the terms `a[β_a…, i, k] · b[β_b…, k, j]`, `k = 0 … K-1`,
    in order (the `i` / `j` coordinate absent for a 1-d lhs / rhs). -/
theorem matmulv2_eq_def (sa sb dst : Shape) (ha : 1 ≤ sa.length) (hb : 1 ≤ sb.length) (hpa : Pos sa) (hpb : Pos sb)
    (hacc : specMatmulShape sa sb = some dst) :
    ∃ r, matmulV2C sa sb = some r ∧ r.shape = dst ∧ ∀ d, InShape d dst → r.get d = specMatmulTerms sa sb d :=
  (matmulV2C_equiv sa sb ha hb hpa hpb).2 ⟨dst, specMatmulTerms sa sb⟩ (by rw [specMatmul, hacc]; rfl)

example : specMatmulShape [3] [2, 3, 2] = some [2, 2] ∧ Pos [3] ∧ Pos [2, 3, 2] := by decide
example : specMatmulTerms [3] [2, 3, 2] [1, 0] = [([0], [1, 0, 0]), ([1], [1, 1, 0]), ([2], [1, 2, 0])] := by decide

/-- both implementations sum the same terms in the same order on every accepted pair of operand shapes of rank ≥ 1 with
    positive extents -/
theorem matmulv2_eq_matmul (sa sb dst : Shape) (ha : 1 ≤ sa.length) (hb : 1 ≤ sb.length) (hpa : Pos sa) (hpb : Pos sb)
    (hacc : specMatmulShape sa sb = some dst) :
    ∃ r1 r2, matmulV1 sa sb = some r1 ∧ matmulV2C sa sb = some r2 ∧ r1.shape = r2.shape ∧
      ∀ d, InShape d dst → r1.get d = some (r2.get d) := by
  obtain ⟨r1, h1, s1, g1⟩ := matmulV1_eq_spec_all sa sb dst ha hb hacc
  obtain ⟨r2, h2, s2, g2⟩ := matmulv2_eq_def sa sb dst ha hb hpa hpb hacc
  exact ⟨r1, r2, h1, h2, s1.trans s2.symm, fun d hd => by rw [g1 d hd, g2 d hd]⟩

example : specMatmulShape [3] [2, 3, 2] = some [2, 2] ∧ Pos [3] ∧ Pos [2, 3, 2] := by decide

/-- value form: for any integer operand data the element of `matmulv2` is `Σ_k A[…]·B[…]` over NumPy's terms -/
theorem matmulv2_value (sa sb dst : Shape) (ha : 1 ≤ sa.length) (hb : 1 ≤ sb.length) (hpa : Pos sa) (hpb : Pos sb)
    (hacc : specMatmulShape sa sb = some dst) (A B : Idx → Int) :
    ∃ r, matmulV2C sa sb = some r ∧ ∀ d, InShape d dst →
      valueAt A B (r.get d) = valueAt A B (specMatmulTerms sa sb d) := by
  obtain ⟨r, h, _, g⟩ := matmulv2_eq_def sa sb dst ha hb hpa hpb hacc
  exact ⟨r, h, fun d hd => by rw [g d hd]⟩

/-- value form for `view::matmul`: for any integer operand data the element is `Σ_k A[…]·B[…]` over NumPy's terms -/
theorem matmul_value (sa sb dst : Shape) (ha : 1 ≤ sa.length) (hb : 1 ≤ sb.length)
    (hacc : specMatmulShape sa sb = some dst) (A B : Idx → Int) :
    ∃ r, matmulV1 sa sb = some r ∧ ∀ d, InShape d dst →
      (r.get d).map (valueAt A B) = some (valueAt A B (specMatmulTerms sa sb d)) := by
  obtain ⟨r, h, _, g⟩ := matmulV1_eq_spec_all sa sb dst ha hb hacc
  exact ⟨r, h, fun d hd => by rw [g d hd]; rfl⟩

example : specMatmulShape [2, 3] [3] = some [2] ∧ specMatmulTerms [2, 3] [3] [1] = [([1, 0], [0]), ([1, 1], [1]), ([1, 2], [2])] := by decide

/-- regression instance of the repaired defect matmul.v1-1d-operand (fix C16-matmul-1d-operand): `view::matmul` of two 1-d
    operands reads `Σ_k a[k]·b[k]` (the defect: `at(indices,-2)` of an empty index, every element access out of range) -/
theorem matmul_v1_1d_regression :
    (matmulV1 [3] [3]).map (fun r => r.get []) = some (some [([0], [0]), ([1], [1]), ([2], [2])]) ∧
    (specMatmul [3] [3]).map (fun r => r.get []) = some [([0], [0]), ([1], [1]), ([2], [2])] ∧
    (matmulV1 [3] [3, 2]).map (fun r => r.get [1]) = some (some [([0], [0, 1]), ([1], [1, 1]), ([2], [2, 1])]) ∧
    (matmulV1 [2, 3] [3]).map (fun r => r.get [1]) = some (some [([1, 0], [0]), ([1, 1], [1]), ([1, 2], [2])]) :=
  ⟨by decide, by decide, by decide, by decide⟩

/-! ### refusals: operand pairs NumPy does not accept -/

/-- `view::matmul` answers a view exactly on the operand pairs (ranks ≥ 1) `np.matmul` accepts: `Nothing` for mismatching
    contracted extents (also 1 against n: not broadcast) and for batch axes that do not broadcast -/
theorem matmul_isSome_iff (sa sb : Shape) (ha : 1 ≤ sa.length) (hb : 1 ≤ sb.length) :
    (matmulV1 sa sb).isSome ↔ (specMatmulShape sa sb).isSome := by
  rw [← shapeMatmul_eq_spec sa sb ha hb]
  unfold matmulV1
  cases shapeMatmul sa sb <;> exact Iff.rfl

example : (matmulV1 [2, 1] [3, 2]).isSome = false ∧ (specMatmulShape [2, 1] [3, 2]).isSome = false ∧
    (matmulV1 [2, 3] [3, 2]).isSome = true := by decide

/-- `view::dot` answers a value exactly on the operand pairs (ranks ≥ 1, positive extents) `np.dot` accepts: the reshape of
    the tiled lhs has the element count `… k·n` against `… n·k'`, equal only for `k = k'` -/
theorem dot_isSome_iff (sa sb : Shape) (ha : 1 ≤ sa.length) (hb : 1 ≤ sb.length) (hpa : Pos sa) (hpb : Pos sb) :
    (dot sa sb).isSome ↔ (specDot sa sb).isSome := (dot_equiv sa sb ha hb hpa hpb).1

example : (dot [2, 1] [3, 2]).isSome = false ∧ (specDot [2, 1] [3, 2]).isSome = false ∧ (dot [2, 3] [4, 3, 2]).isSome = true ∧
    Pos [2, 1] ∧ Pos [3, 2] := by decide

/-- `view::matmulv2` (repaired, fix C15-contraction-extent: `index::shape_matmul` is asked, as in `view::matmul`) answers a
    value exactly on the operand pairs (ranks ≥ 1, positive extents) `np.matmul` accepts -/
theorem matmulv2_isSome_iff (sa sb : Shape) (ha : 1 ≤ sa.length) (hb : 1 ≤ sb.length) (hpa : Pos sa) (hpb : Pos sb) :
    (matmulV2C sa sb).isSome ↔ (specMatmulShape sa sb).isSome :=
  (matmulV2C_equiv sa sb ha hb hpa hpb).1.trans (by rw [specMatmul, Option.isSome_map])

example : (matmulV2C [2, 1] [3, 2]).isSome = false ∧ (matmulV2C [2, 3] [3, 2]).isSome = true ∧ Pos [2, 1] ∧ Pos [3, 2] := by decide

/-- `view::inner` (repaired) answers a value exactly on the operand pairs (ranks ≥ 1, positive rhs extents) `np.inner` accepts:
    equal last extents — a last extent 1 is not broadcast against its partner -/
theorem inner_isSome_iff (sa sb : Shape) (ha : 1 ≤ sa.length) (hb : 1 ≤ sb.length) (hpb : Pos sb) :
    (innerC sa sb).isSome ↔ (specInner sa sb).isSome := (innerC_equiv sa sb ha hb hpb).1

example : (innerC [2, 1] [2, 3]).isSome = false ∧ (innerC [2, 3] [4, 3]).isSome = true ∧ Pos [2, 3] := by decide

/-- `view::vecdot` (repaired) answers a value exactly on the operand pairs (ranks ≥ 1) `np.vecdot` accepts: equal last
    extents and leading axes that broadcast -/
theorem vecdot_isSome_iff (sa sb : Shape) (ha : 1 ≤ sa.length) (hb : 1 ≤ sb.length) :
    (vecdotC sa sb).isSome ↔ (specVecdot sa sb).isSome := (vecdotC_equiv sa sb ha hb).1

example : (vecdotC [2, 1] [2, 3]).isSome = false ∧ (vecdotC [2, 1, 3] [4, 3]).isSome = true ∧ (vecdotC [2, 3] [3, 3]).isSome = false := by decide

/-- `view::tensordot(a, b, n)` (repaired), positive rhs extents, answers a value exactly when `n` exceeds neither rank and the
    last `n` extents of `a` ARE the first `n` extents of `b` (NumPy's rule; no broadcasting of a contracted extent 1, `Nothing`
    instead of an out-of-range read for `n` beyond a rank) -/
theorem tensordot_int_isSome_iff (sa sb : Shape) (n : Nat) (hpb : Pos sb) :
    (tensordotIntC sa sb n).isSome ↔ (n ≤ sa.length ∧ n ≤ sb.length ∧ sa.drop (sa.length - n) = sb.take n) := by
  -- with `sa = FA ++ CA`, `sb = CB ++ FB`, `|CA| = |CB| = n`, the closing check is `decide (CA = CB)` (`tensordotAligned_of`)
  constructor
  · intro h
    unfold tensordotIntC at h
    split at h
    · rename_i hn
      refine ⟨hn.1, hn.2, ?_⟩
      obtain ⟨FA, CA, rfl, hCA⟩ := exists_append_of_le_length sa hn.1
      obtain ⟨CB, FB, rfl, rfl⟩ : ∃ CB FB, sb = CB ++ FB ∧ CB.length = n :=
        ⟨sb.take n, sb.drop n, (List.take_append_drop _ _).symm, List.length_take_of_le hn.2⟩
      have := tensordotAligned_of _ _ _ _ FA FB CA CB (List.mapM_getElem?_range (FA ++ CA)) (moveToEnd_prefix_mapM CB FB) hCA
      rw [hCA, (bind_guard_isSome.1 h).2] at this
      rw [List.take_left' rfl, List.length_append, hCA, Nat.add_sub_cancel, List.drop_left' rfl]
      exact of_decide_eq_true this.symm
    · simp at h
  · rintro ⟨h1, h2, h3⟩
    obtain ⟨FA, CA, rfl, hCA⟩ := exists_append_of_le_length sa h1
    rw [List.length_append, hCA, Nat.add_sub_cancel, List.drop_left' rfl] at h3
    have hsb : sb = CA ++ sb.drop n := by rw [h3]; exact (List.take_append_drop _ _).symm
    obtain ⟨r, hr, -, -⟩ := tensordotIntC_elem FA (sb.drop n) CA fun x hx => hpb x (List.mem_of_mem_drop hx)
    rw [← hsb, hCA] at hr
    simp [hr]

example : (tensordotIntC [2, 1] [3, 2] 1).isSome = false ∧ (tensordotIntC [2] [2, 2] 2).isSome = false ∧
    (tensordotIntC [2, 3, 4] [3, 4, 5] 2).isSome = true ∧ Pos [3, 4, 5] := by decide

/-- `view::tensordot(a, b, (lhs_axes, rhs_axes))` (repaired) with valid axis lists (in range — normalisation succeeds —, no
    axis listed twice, equal counts) and positive rhs extents answers a value exactly when `np.tensordot` accepts: the paired
    extents are equal -/
theorem tensordot_isSome_iff (sa sb : Shape) (la ra : List Int) (la' ra' : List Nat)
    (hla : la.mapM (normAxis · sa.length) = some la') (hra : ra.mapM (normAxis · sb.length) = some ra')
    (hnda : la'.Nodup) (hndb : ra'.Nodup) (hlen : la.length = ra.length) (hpb : Pos sb) :
    (tensordotAxesC sa sb la ra).isSome ↔ (specTensordot sa sb la' ra').isSome :=
  (tensordotAxesC_equiv sa sb la ra la' ra' hla hra hnda hndb hlen hpb).1

example : [(-1 : Int)].mapM (normAxis · 2) = some [1] ∧ [(0 : Int)].mapM (normAxis · 2) = some [0] ∧
    (tensordotAxesC [2, 1] [3, 2] [-1] [0]).isSome = false ∧ (tensordotAxesC [2, 3] [3, 2] [-1] [0]).isSome = true := by decide

/-- regression instance of the repaired defect matmulv2.contraction-extent-broadcast (fix C15-contraction-extent): the
    pipeline alone pairs the contracted extent 1 with 3, the view refuses like NumPy and `view::matmul` -/
theorem matmulv2_contraction_regression :
    (matmulV2 [2, 1] [3, 2]).map (·.shape) = some [2, 2] ∧ matmulV2C [2, 1] [3, 2] = none ∧
    specMatmulShape [2, 1] [3, 2] = none ∧ (matmulV1 [2, 1] [3, 2]).isSome = false := by decide

/-- regression instances of the repaired defect C16.contraction-extent-broadcast (= C15.contraction-extent-broadcast) and
    of C15.tensordot-axes-beyond-rank: `view::inner`, `view::vecdot`, `view::tensordot` (integer and explicit axes) refuse
    a contracted extent 1 against another extent, and an integer `n` beyond a rank -/
theorem contraction_extent_regression :
    (innerC [2, 1] [2, 3] = none ∧ (specInner [2, 1] [2, 3]).isSome = false) ∧
    (vecdotC [2, 1] [2, 3] = none ∧ (specVecdot [2, 1] [2, 3]).isSome = false) ∧
    (tensordotIntC [2, 1] [3, 2] 1 = none ∧ (specTensordot [2, 1] [3, 2] [1] [0]).isSome = false) ∧
    (tensordotAxesC [2, 1] [3, 2] [-1] [0] = none) ∧ (tensordotIntC [2] [2, 2] 2 = none) :=
  ⟨by decide, by decide, by decide, by decide, by decide⟩

/-! ### dot / inner / outer / vecdot

  Each theorem: whenever NumPy accepts the operand shapes (`specX sa sb = some s`, ranks ≥ 1, positive extents), the
  nmtools pipeline yields a result of NumPy's shape whose every element sums exactly NumPy's terms, in order. -/

/-- `view::dot` = `np.dot`: `dot(a,b)[i…, j…, m] = Σ_k a[i…, k]·b[j…, k, m]` (1-d rhs: `Σ_k a[i…,k]·b[k]`),
    shape `a.shape[:-1] ++ b.shape[:-2] ++ b.shape[-1:]` -/
theorem dot_eq_def (sa sb : Shape) (s : Arr (List Term)) (ha : 1 ≤ sa.length) (hb : 1 ≤ sb.length) (hpb : Pos sb)
    (hacc : specDot sa sb = some s) :
    ∃ r, dot sa sb = some r ∧ r.shape = s.shape ∧ ∀ d, InShape d s.shape → r.get d = s.get d :=
  dot_eq_spec sa sb s ha hb hpb hacc

example : (specDot [2, 3] [4, 3, 5]).map (·.shape) = some [2, 4, 5] := by decide
example : (specDot [2, 3] [4, 3, 5]).map (·.get [1, 2, 4]) =
    some [([1, 0], [2, 0, 4]), ([1, 1], [2, 1, 4]), ([1, 2], [2, 2, 4])] := by decide

/-- `view::inner` = `np.inner`: `inner(a,b)[i…, j…] = Σ_k a[i…, k]·b[j…, k]`, shape `a.shape[:-1] ++ b.shape[:-1]` -/
theorem inner_eq_def (sa sb : Shape) (s : Arr (List Term)) (ha : 1 ≤ sa.length) (hb : 1 ≤ sb.length) (hpb : Pos sb)
    (hacc : specInner sa sb = some s) :
    ∃ r, innerC sa sb = some r ∧ r.shape = s.shape ∧ ∀ d, InShape d s.shape → r.get d = s.get d :=
  (innerC_equiv sa sb ha hb hpb).2 s hacc

example : (specInner [2, 3] [4, 2, 3]).map (·.shape) = some [2, 4, 2] := by decide
example : (specInner [2, 3] [4, 2, 3]).map (·.get [1, 3, 0]) =
    some [([1, 0], [3, 0, 0]), ([1, 1], [3, 0, 1]), ([1, 2], [3, 0, 2])] := by decide

/-- `view::outer` = `np.outer`: shape `(size a, size b)`, `out[x, y] = a.ravel()[x]·b.ravel()[y]`, any operand ranks -/
theorem outer_eq_def (sa sb : Shape) (hpa : Pos sa) (hpb : Pos sb) :
    ∃ r, outer sa sb = some r ∧ r.shape = (specOuter sa sb).shape ∧
      ∀ d, InShape d (specOuter sa sb).shape → r.get d = (specOuter sa sb).get d :=
  outer_eq_spec sa sb hpb

example : (specOuter [2, 3] [2]).shape = [6, 2] ∧ (specOuter [2, 3] [2]).get [4, 1] = ([1, 1], [1]) := by decide

/-- `view::vecdot` = `np.vecdot`: the last axes are contracted, the leading axes broadcast:
    `out[β…] = Σ_k a[β_a…, k]·b[β_b…, k]` -/
theorem vecdot_eq_def (sa sb : Shape) (s : Arr (List Term)) (ha : 1 ≤ sa.length) (hb : 1 ≤ sb.length)
    (hacc : specVecdot sa sb = some s) :
    ∃ r, vecdotC sa sb = some r ∧ r.shape = s.shape ∧ ∀ d, InShape d s.shape → r.get d = s.get d :=
  (vecdotC_equiv sa sb ha hb).2 s hacc

example : (specVecdot [2, 1, 3] [4, 3]).map (·.shape) = some [2, 4] := by decide
example : (specVecdot [2, 1, 3] [4, 3]).map (·.get [1, 2]) =
    some [([1, 0, 0], [2, 0]), ([1, 0, 1], [2, 1]), ([1, 0, 2], [2, 2])] := by decide

/-! ### trace -/

/-- `view::trace(a, offset, axis1, axis2)` = `np.trace` for every rank ≥ 2, every pair of distinct axes (negative
    spellings included) and every offset of either sign (stated for `-extent(axis1) < offset < extent(axis2)`; `trace_eq_spec` needs no bound):
    the two axes are removed from the shape and
    `out[rest] = Σ_i a[rest; axis1 = i + max(-offset,0), axis2 = i + max(offset,0)]`,
    `i = 0 … min(n1 - max(-offset,0), n2 - max(offset,0)) - 1` in order; every read is inside the operand.
    (Model elements are the buffer positions read, `some (row-major offset)`.)  The model is the repaired
    `index::diagonal` / `index::shape_diagonal` (fix commits C04-diagonal.negative-offset, C04-diagonal.offset-beyond-extent). -/
theorem trace_eq_def (s : Shape) (off : Int) (a1 a2 : Int) (ax1 ax2 n1 n2 : Nat)
    (hax1 : normAxis a1 s.length = some ax1) (hax2 : normAxis a2 s.length = some ax2)
    (h12 : ax1 ≠ ax2) (hn1 : s[ax1]? = some n1) (hn2 : s[ax2]? = some n2)
    (hlo : -(n1 : Int) < off) (hhi : off < n2) :
    ∃ r sp, trace s off a1 a2 = some r ∧ specTrace s off ax1 ax2 = some sp ∧ r.shape = sp.shape ∧
      ∀ d, InShape d sp.shape →
        r.get d = (sp.get d).map (fun i => some (computeOffset i (strides s))) ∧ ∀ i ∈ sp.get d, InShape i s :=
  trace_eq_spec s off a1 a2 ax1 ax2 n1 n2 hax1 hax2 h12 hn1 hn2

example : normAxis (-1) 3 = some 2 ∧ normAxis 0 3 = some 0 ∧ [2, 3, 4][2]? = some 4 ∧ [2, 3, 4][0]? = some 2 := by decide
example : (specTrace [2, 3, 4] 1 2 0).map (·.shape) = some [3] := by decide
example : (specTrace [2, 3, 4] 1 2 0).map (·.get [2]) = some [[1, 2, 0]] := by decide
example : (specTrace [3, 4] 1 0 1).map (·.get []) = some [[0, 1], [1, 2], [2, 3]] := by decide
-- negative offset: rows shifted
example : (specTrace [3, 4] (-1) 0 1).map (·.get []) = some [[1, 0], [2, 1]] := by decide
example : (trace [2, 3, 3] (-1) 1 2).map (fun r => (r.shape, r.get [0], r.get [1])) =
    some ([2], [some 3, some 7], [some 12, some 16]) := by decide

/-! ### tensordot -/

/-- `view::tensordot(a, b, n)` with an integer `n` (any ranks, any `0 ≤ n ≤ min rank`; `n = 0` is the outer product):
    for `a` of shape `FA ++ C` and `b` of shape `C ++ FB` (`|C| = n`, positive extents) the result has NumPy's shape
    `FA ++ FB` and `out[p…, q…] = Σ_c a[p…, c…] · b[c…, q…]`, `c` running over exactly the contracted block `C` in
    row-major order — the last `n` axes of `a` paired in order with the first `n` axes of `b`. -/
theorem tensordot_int_eq_def (FA FB C : Shape) (hpb : Pos FB) :
    ∃ r, tensordotIntC (FA ++ C) (C ++ FB) C.length = some r ∧ r.shape = FA ++ FB ∧
      ∀ p q, InShape p FA → InShape q FB →
        r.get (p ++ q) = (allIdx C).map (fun c => (p ++ c, c ++ q)) :=
  tensordotIntC_elem FA FB C hpb

example : (tensordotIntC [2, 3, 4] [3, 4, 5] 2).map (fun r => (r.shape, r.get [1, 4])) =
    some ([2, 5], (allIdx [3, 4]).map (fun c => ([1] ++ c, c ++ [4]))) := by decide

/-- `view::tensordot(a, b, (lhs_axes, rhs_axes))` = `np.tensordot` for every operand rank, every pair of axis lists that
    NumPy accepts (equal counts, distinct in-range axes after normalising negative spellings, equal paired extents), positive
    rhs extents: the shape is (free extents of a) ++ (free extents of b) and
    `out[i_free…, j_free…] = Σ_c a[i_free on the free axes, c[t] on lhs_axes[t]] · b[j_free on the free axes, c[t] on rhs_axes[t]]`,
    `c` running over exactly the contracted extents in row-major order of the listed axes. -/
theorem tensordot_eq_def (sa sb : Shape) (la ra : List Int) (la' ra' : List Nat) (s : Arr (List Term))
    (hla : la.mapM (normAxis · sa.length) = some la') (hra : ra.mapM (normAxis · sb.length) = some ra')
    (hpb : Pos sb) (hacc : specTensordot sa sb la' ra' = some s) :
    ∃ r, tensordotAxesC sa sb la ra = some r ∧ r.shape = s.shape ∧ ∀ d, InShape d s.shape → r.get d = s.get d :=
  have ⟨hl, hnda, hndb⟩ := specTensordot_isSome_valid (hacc ▸ rfl : (specTensordot sa sb la' ra').isSome)
  (tensordotAxesC_equiv sa sb la ra la' ra' hla hra hnda hndb
    (by rw [← List.length_of_mapM_eq_some hla, ← List.length_of_mapM_eq_some hra, hl]) hpb).2 s hacc

example : [(-3 : Int), 2].mapM (normAxis · 3) = some [0, 2] ∧ [(2 : Int), -2].mapM (normAxis · 3) = some [2, 1] ∧ Pos [5, 4, 2] ∧
    (specTensordot [2, 3, 4] [5, 4, 2] [0, 2] [2, 1]).map (fun s => (s.shape, (s.get [1, 3]).take 3)) =
      some ([3, 5], [([0, 1, 0], [3, 0, 0]), ([0, 1, 1], [3, 1, 0]), ([0, 1, 2], [3, 2, 0])]) := by decide

/-- auxiliary form, about the pipeline of `view::tensordot` (`tensordotAxes`, before its closing extent check): shape and
    term structure with the two transposes still in `scatter` form -/
theorem tensordot_axes_term_structure (sa sb : Shape) (la ra : List Int) (la' ra' : List Nat) (FA FB C : Shape)
    (hla : la.mapM (normAxis · sa.length) = some la') (hra : ra.mapM (normAxis · sb.length) = some ra')
    (hta : (moveToEnd sa.length la').mapM (fun k => sa[k]?) = some (FA ++ C))
    (htb : (moveToEnd sb.length ra').mapM (fun k => sb[k]?) = some (FB ++ C))
    (hn : la.length = C.length) (hlb : sb.length = FB.length + C.length) (hpb : Pos FB) :
    ∃ r, tensordotAxes sa sb la ra = some r ∧ r.shape = FA ++ FB ∧
      ∀ p q, InShape p FA → InShape q FB →
        r.get (p ++ q) = (allIdx C).map (fun c =>
          (scatter (p ++ c) (moveToEnd sa.length la'), scatter (q ++ c) (moveToEnd sb.length ra'))) :=
  tensordotAxes_elem_scatter sa sb la ra la' ra' FA FB C hla hra hta htb hn hlb hpb

example : [(-3 : Int), 2].mapM (normAxis · 3) = some [0, 2] ∧ (moveToEnd 3 [0, 2]).mapM (fun k => [2, 3, 4][k]?) = some ([3] ++ [2, 4])
    ∧ (moveToEnd 3 [2, 1]).mapM (fun k => [5, 4, 2][k]?) = some ([5] ++ [2, 4]) := by decide
example : scatter ([1] ++ [0, 3]) (moveToEnd 3 [0, 2]) = placeIdx [0, 2] [0, 3] (List.range 3) [1] := by decide

/-- cross-check of `tensordot_eq_def` by kernel evaluation, on the pipeline `tensordotAxes` (its closing extent check is not
    evaluated): every pair of operand shapes of rank 1 or 2 with extents 1..2, every ordered choice of contracted axes that
    NumPy accepts — NumPy's shape and exactly NumPy's terms at every index -/
theorem tensordot_axes_small_scope (sa sb : Shape) (ha : sa ∈ smallShapes) (hb : sb ∈ smallShapes) :
    tensordotAgrees sa sb = true := tensordot_small sa ha sb hb

example : [2, 2] ∈ smallShapes ∧
    (specTensordot [2, 2] [2, 2] [1, 0] [0, 1]).map (fun s => (s.shape, s.get [])) =
      some ([], [([0, 0], [0, 0]), ([1, 0], [0, 1]), ([0, 1], [1, 0]), ([1, 1], [1, 1])]) := by decide

/-! ### kron -/

/-- `view::kron` = `np.kron` for every pair of operand ranks and positive rhs extents: the shapes are right-aligned (the
    shorter one padded with leading ones), `out.shape[t] = a'[t]·b'[t]` and
    `out[d] = a[d[t] / b'[t] …] · b[d[t] % b'[t] …]` — one product term per element.  (Behind it: the closed form of
    `kron_dst_transpose` for all ranks — `kronDstTranspose_eq` —, the interleaving transpose and the reshape that merges each pair `(i_t, j_t)` into `i_t·b_t + j_t`.) -/
theorem kron_eq_def (sa sb : Shape) (hpb : Pos sb) :
    ∃ r, kron sa sb = some r ∧ r.shape = (specKron sa sb).shape ∧
      ∀ d, InShape d (specKron sa sb).shape → r.get d = (specKron sa sb).get d := by
  by_cases hle : sa.length ≤ sb.length
  · obtain ⟨Lb, Rb, rfl, hRl⟩ := exists_append_of_le_length sb hle
    obtain ⟨e, he, hesh, heget⟩ := kron_elem [] sa Lb Rb hRl.symm (.inl rfl) (Shape.pos_append.1 hpb).2
    have hshape := (specKron_shape sa (Lb ++ Rb)).trans (kronDstReshape_le sa Lb Rb hRl.symm)
    refine ⟨e, he, by rw [hesh, hshape]; rfl, ?_⟩
    intro d hd
    rw [hshape] at hd
    obtain ⟨yl, yr, rfl, hyl, hyr⟩ := Shape.inShape_append_split.1 hd
    rw [specKron_get_le sa Lb Rb yl yr hRl.symm hyl]
    exact heget [] yl yr trivial hyl hyr
  · obtain ⟨La, Ra, rfl, hRl⟩ := exists_append_of_le_length sa (Nat.le_of_not_le hle)
    obtain ⟨e, he, hesh, heget⟩ := kron_elem La Ra [] sb hRl (.inr rfl) hpb
    have hshape := (specKron_shape (La ++ Ra) sb).trans (kronDstReshape_ge La Ra sb hRl)
    refine ⟨e, he, by rw [hesh, hshape, List.append_nil], ?_⟩
    intro d hd
    rw [hshape] at hd
    obtain ⟨yl, yr, rfl, hyl, hyr⟩ := Shape.inShape_append_split.1 hd
    rw [specKron_get_ge La Ra sb yl yr hRl hyl.length_eq]
    have := heget yl [] yr hyl trivial hyr
    rwa [List.append_nil] at this

/-- the transposition axes `kron_dst_transpose` computes (a recursion on the rank difference with pairwise swaps) are,
    for all ranks: the leading axes of the longer operand, then the axes of both operands interleaved -/
theorem kron_dst_transpose_closed_form (l r : Nat) :
    kronDstTranspose (l + r + 1) l r = (List.range (l + r)).map (kronAxis l r) :=
  kronDstTranspose_eq _ l r (by omega) (by omega)

example : (List.range 5).map (kronAxis 1 4) = [1, 2, 3, 0, 4] ∧ (List.range 5).map (kronAxis 3 2) = [0, 1, 3, 2, 4] := by decide

/-- cross-check of `kron_eq_def` by kernel evaluation on a small scope (ranks 1 and 2 / extents ≤ 2, and ranks (1,3), (3,1)) -/
theorem kron_small_scope (sa sb : Shape)
    (h : (sa ∈ smallShapes ∧ sb ∈ smallShapes) ∨ (sa ∈ shapesOfRank 1 2 ∧ sb ∈ shapesOfRank 3 2)
       ∨ (sa ∈ shapesOfRank 3 2 ∧ sb ∈ shapesOfRank 1 2)) :
    kronAgrees sa sb = true := by
  rcases h with ⟨ha, hb⟩ | ⟨ha, hb⟩ | ⟨ha, hb⟩
  · exact kron_small sa ha sb hb
  · exact kron_small_13 sa ha sb hb
  · exact kron_small_31 sa ha sb hb

example : [2, 2] ∈ smallShapes ∧ [2] ∈ smallShapes ∧ (specKron [2, 2] [2]).shape = [2, 4] ∧
    (specKron [2, 2] [2]).get [1, 3] = ([1, 1], [1]) := by decide

end NmVerif.Props.C16
