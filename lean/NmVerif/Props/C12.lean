import NmVerif.Simd.Loop
import NmVerif.Simd.LoopLemmas
import NmVerif.Simd.ReduceLemmas
import NmVerif.Simd.EnumLemmas
import NmVerif.Simd.HorizLemmas
import NmVerif.Simd.VertLemmas
import NmVerif.Simd.OuterLemmas
import NmVerif.Simd.AxisLemmas
import NmVerif.Simd.MatmulLemmas
import NmVerif.Simd.IntLanesLemmas
import NmVerif.Simd.FloatLanes
/-
  C12 — SIMD evaluation equals scalar evaluation for every size, shape and layout.

  The reference notions of the right-hand sides (`rowOf`, `stepLen`, `laneOff`, `bcastOff`, `OperandOK`, `outerLen`, `rowUpd`,
  `vloop`, `axisCell`, `matmulCell`, `matmulRef`, `IsCommMonoid.msum`) are defined next to their lemmas in Simd/*Lemmas.lean;
  `bcastCell` (a cell of the broadcast result) stands here.

  Assumption made explicit (never an axiom): the intrinsic wrappers are lane-wise,
  `LaneWise1 lanes packF f` / `LaneWise2 lanes packF f` — "`op.eval` on a register of `lanes`
  elements is the scalar functor applied to each lane".  It is validated on this CPU by the
  bit-identical differential run of ./check C12.
-/
namespace NmVerif.Props.C12
open NmVerif NmVerif.Simd

variable {α β : Type}

/-- `_mm256_sqrt_ps` & co.: a unary packed op is the scalar functor on each lane -/
def LaneWise1 (lanes : Nat) (packF : List α → List β) (f : α → β) : Prop :=
  ∀ xs, xs.length = lanes → packF xs = xs.map f

/-- `_mm256_add_ps` & co.: a binary packed op is the scalar functor on each pair of lanes -/
def LaneWise2 (lanes : Nat) (packF : List α → List α → List β) (f : α → α → β) : Prop :=
  ∀ xs ys, xs.length = lanes → ys.length = lanes → packF xs ys = List.zipWith f xs ys

example (lanes : Nat) (packF : List α → List α → List β) (f : α → α → β) :
    LaneWise2 lanes packF f ↔ LaneOp2 lanes packF f := Iff.rfl

/-! ## packed loop + scalar tail: index structure (all `n`, all `lanes > 0`) -/

theorem packedStarts_closed (lanes n : Nat) (hl : 0 < lanes) :
    packedStarts lanes n = (List.range (n / lanes)).map (· * lanes) := packedStarts_eq lanes n hl

theorem packed_access_in_bounds (lanes n : Nat) (hl : 0 < lanes) (i : Nat) (hi : i ∈ packedStarts lanes n) :
    i + lanes ≤ n := by
  rw [packedStarts_eq lanes n hl] at hi
  obtain ⟨k, hk, rfl⟩ := List.mem_map.1 hi
  exact chunk_le (List.mem_range.1 hk)

/-- packed loop, then leftover loop: every output cell is written exactly once, in order, none outside the buffer -/
theorem packed_tail_partition (lanes n : Nat) (hl : 0 < lanes) :
    (packedStarts lanes n).flatMap (fun i => List.range' i lanes) ++ tailIdx lanes n = List.range n := by
  have h := (packedStarts_contig lanes n hl).blocks
  simp only [id, Nat.sub_zero] at h
  have := List.range'_append (s := 0) (m := n / lanes * lanes) (n := n - n / lanes * lanes) (step := 1)
  rw [Nat.add_sub_cancel' (Nat.div_mul_le_self n lanes), Nat.one_mul, Nat.zero_add] at this
  rw [h, tailIdx, this, List.range_eq_range']

/-! ## eval_unary -/

/-- **SIMD unary = scalar evaluator**, every shape / element count, every `lanes > 0`,
    row-major operand (the layout the packed loop assumes). -/
theorem simdUnary_eq_scalar (lanes : Nat) (hl : 0 < lanes) (packF : List α → List β) (f : α → β)
    (hpf : LaneWise1 lanes packF f)
    (a : NDA α) (hw : a.WF) (hr : a.colMajor = false)
    (out : List β) (ho : out.length = prod a.shape) :
    simdUnary lanes packF f a out = scalarUnary f a := by
  have hw' : a.data.length = prod a.shape := hw
  have hn : (a.data.map f).length = prod a.shape := by rw [List.length_map]; exact hw
  rw [scalarUnary, logical_rowMajor a hw hr]
  refine packed_then_tail (a.data.map f) out lanes (prod a.shape) hl _ _ hn ho ?_ ?_
  · intro k o hk
    rw [← hw'] at hk
    rw [loadu_eq hk]
    simp only [Option.bind_eq_bind, Option.bind_some]
    rw [hpf _ (length_take_drop hk)]
    simp [List.map_take, List.map_drop]
  · intro i o hi _
    have hi' : i < prod a.shape := by rw [← hn]; exact hi
    dsimp only
    rw [NDA.get?_ndindex_rowMajor a hr i hi',
        Shape.offset_ndindex hi', List.getElem_map,
        List.getElem?_eq_getElem (by rw [hw']; exact hi')]
    rfl

/-- … and the result is `some _`: no access leaves a buffer -/
theorem simdUnary_eq_map (lanes : Nat) (hl : 0 < lanes) (packF : List α → List β) (f : α → β)
    (hpf : LaneWise1 lanes packF f)
    (a : NDA α) (hw : a.WF) (hr : a.colMajor = false) (hs : Pos a.shape)
    (out : List β) (ho : out.length = prod a.shape) :
    simdUnary lanes packF f a out = some (a.data.map f) := by
  rw [simdUnary_eq_scalar lanes hl packF f hpf a hw hr out ho, scalarUnary, logical_rowMajor a hw hr]
  rfl

/-- **`operator()` on a unary view, operand of either layout = scalar evaluator**: a column-major operand is handed to
    the scalar evaluator (the packed loop would read `data()` linearly). -/
theorem simdEvalUnary_eq_scalar (lanes : Nat) (hl : 0 < lanes) (packF : List α → List β) (f : α → β)
    (hpf : LaneWise1 lanes packF f) (a : NDA α) (hw : a.WF)
    (out : List β) (ho : out.length = prod a.shape) :
    simdEvalUnary lanes packF f a out = scalarUnary f a := by
  unfold simdEvalUnary
  cases hc : a.colMajor with
  | true => rfl
  | false => exact simdUnary_eq_scalar lanes hl packF f hpf a hw hc out ho

/-! ## eval_binary, operands of equal shape -/

/-- **SIMD binary (same shape) = scalar evaluator**: every shape, every `lanes > 0`, row-major operands -/
theorem simdBinarySame_eq_scalar (lanes : Nat) (hl : 0 < lanes) (packF : List α → List α → List β) (f : α → α → β)
    (hpf : LaneWise2 lanes packF f)
    (a b : NDA α) (hwa : a.WF) (hwb : b.WF) (hra : a.colMajor = false) (hrb : b.colMajor = false)
    (hsh : b.shape = a.shape)
    (out : List β) (ho : out.length = prod a.shape) :
    simdBinarySame lanes packF f a b out = scalarBinarySame f a b := by
  have hwa' : a.data.length = prod a.shape := hwa
  have hwb' : b.data.length = prod a.shape := by rw [← hsh]; exact hwb
  have hn : (List.zipWith f a.data b.data).length = prod a.shape := by
    rw [List.length_zipWith, hwa', hwb', Nat.min_self]
  rw [scalarBinarySame, logical_rowMajor a hwa hra, logical_rowMajor b hwb hrb]
  refine packed_then_tail (List.zipWith f a.data b.data) out lanes (prod a.shape) hl _ _ hn ho ?_ ?_
  · intro k o hk
    have ha := hwa' ▸ hk
    have hb := hwb' ▸ hk
    rw [loadu_eq ha, loadu_eq hb]
    simp only [Option.bind_eq_bind, Option.bind_some]
    rw [hpf _ _ (length_take_drop ha) (length_take_drop hb), List.drop_zipWith, List.take_zipWith]
  · intro i o hi _
    have hi' : i < prod a.shape := by rw [← hn]; exact hi
    have hb := NDA.get?_ndindex_rowMajor b hrb i (by rw [hsh]; exact hi')
    rw [hsh] at hb
    dsimp only
    rw [NDA.get?_ndindex_rowMajor a hra i hi', hb,
        Shape.offset_ndindex hi', List.getElem_zipWith,
        List.getElem?_eq_getElem (by rw [hwa']; exact hi'), List.getElem?_eq_getElem (by rw [hwb']; exact hi')]
    rfl

/-- the layout test of `operator()` on two operands: the packed evaluator only has to agree for two row-major ones -/
theorem colMajor_fallback {γ : Type} (a b : NDA α) (x y : γ) (h : a.colMajor = false → b.colMajor = false → y = x) :
    (if a.colMajor || b.colMajor then x else y) = x := by
  by_cases hc : (a.colMajor || b.colMajor) = true
  · rw [if_pos hc]
  · rw [if_neg hc]
    simp only [Bool.or_eq_true, not_or, Bool.not_eq_true] at hc
    exact h hc.1 hc.2

/-- the same with operands of either layout (`operator()`: any column-major operand → scalar evaluator) -/
theorem simdEvalBinarySame_eq_scalar (lanes : Nat) (hl : 0 < lanes) (packF : List α → List α → List β) (f : α → α → β)
    (hpf : LaneWise2 lanes packF f)
    (a b : NDA α) (hwa : a.WF) (hwb : b.WF) (hsh : b.shape = a.shape)
    (out : List β) (ho : out.length = prod a.shape) :
    simdEvalBinarySame lanes packF f a b out = scalarBinarySame f a b := by
  exact colMajor_fallback a b _ _ fun ha hb => simdBinarySame_eq_scalar lanes hl packF f hpf a b hwa hwb ha hb hsh out ho

/-! ## eval_reduction, one output element (axis = None, 1-d operands, …) -/

/-- **full SIMD reduction = scalar left fold** over a commutative monoid `(op, e)`, for every non-empty row-major operand
    and every `lanes > 0`; the accumulator starts from `op.set1(view.op.identity())`, `e` (the binder `zero`) being that
    identity (0 for add, 1 for multiply). -/
theorem simdReduceAll_eq_fold (lanes : Nat) (hl : 0 < lanes) (packOp : List α → List α → List α)
    (op : α → α → α) (zero : α) (hm : IsCommMonoid op zero)
    (hp : LaneWise2 lanes packOp op)
    (a : NDA α) (hw : a.WF) (hr : a.colMajor = false) (hs : Pos a.shape) :
    simdReduceAll lanes packOp op zero a = scalarReduceAll op a := by
  have hn : 0 < a.data.length := by rw [hw]; exact prod_pos hs
  unfold scalarReduceAll
  rw [logical_rowMajor a hw hr]
  unfold simdReduceAll
  dsimp only
  rw [packedStarts_eq lanes _ hl]
  obtain ⟨reg, hf, hlen, hsum⟩ := packed_reduce_fold hm packOp lanes hp a.data (a.data.length / lanes)
    (Nat.div_mul_le_self _ _)
  rw [hf]
  simp only [Option.bind_eq_bind, Option.bind_some]
  obtain ⟨r0, rs, rfl⟩ := List.exists_cons_of_length_pos (hlen ▸ hl)
  obtain ⟨x, xs, hd⟩ := List.exists_cons_of_length_pos hn
  have ht := tail_reduce_fold op a.data _ (a.data.length / lanes * lanes) (rs.foldl op r0) rfl
  simp only [Option.bind_eq_bind, List.length_drop] at ht
  simp only
  rw [tailIdx, ht, ← hm.msum_cons_eq_foldl r0 rs, hsum, hm.foldl_eq, ← hm.msum_append, List.take_append_drop, hd,
      hm.msum_cons_eq_foldl x xs]
  rfl

/-- **`operator()` on a reduce view with `axis = None` = scalar left fold**, for non-empty operands of either layout and ops
    with or without `identity()`: column-major operands and identity-less ops (subtract) are handed to the scalar evaluator. -/
theorem simdEvalReduceAll_eq_fold (lanes : Nat) (hl : 0 < lanes) (packOp : List α → List α → List α)
    (op : α → α → α) (identity : Option α) (hm : ∀ e, identity = some e → IsCommMonoid op e)
    (hp : LaneWise2 lanes packOp op) (a : NDA α) (hw : a.WF) (hs : Pos a.shape) :
    simdEvalReduceAll lanes packOp op identity a = scalarReduceAll op a := by
  unfold simdEvalReduceAll
  cases hc : a.colMajor with
  | true => rfl
  | false =>
    cases hi : identity with
    | none => simp
    | some e => simpa using simdReduceAll_eq_fold lanes hl packOp op e (hm e hi) hp a hw hc hs

/-! ## eval_binary, two 2-d operands with broadcasting: the enumerator -/

/-- **every output cell is written exactly once, in order**: the output blocks of the successive steps of
    `binary_2d_simd_enumerator` (a register for PACKED, one cell for SCALAR) concatenate to `0 … R·oc − 1`,
    also when `oc` is not a multiple of `N`. -/
theorem binary2d_covers_once (N oc lr lc rr rc : Nat) (hN : 0 < N) :
    (List.range (binary2dSize N oc lr rr)).flatMap (fun i =>
        List.range' (binary2dAt N oc lr lc rr rc i).1.off (stepLen N (binary2dAt N oc lr lc rr rc i).1))
      = List.range ((binary2dShape N oc lr rr).1 * oc) := by
  have h := (binary2d_contig N oc lr lc rr rc (binary2dShape N oc lr rr).1).blocks
  simp only [Nat.sub_zero] at h
  rw [List.range_eq_range' (n := (binary2dShape N oc lr rr).1 * oc), ← h]
  rfl

/-- **operand offsets are the ones NumPy broadcasting prescribes**: at every step and every lane of it, the lhs / rhs
    buffer element that is combined into output cell `o` is `bcastOff` of `o`, for operands of shape `(R|1, oc|1)`
    (`OperandOK`; this includes a `(1,1)` operand under a multi-row result: it is read at element 0). -/
theorem binary2d_operand_offsets (N oc lr lc rr rc : Nat) (hN : 0 < N)
    (hl : OperandOK (binary2dShape N oc lr rr).1 oc lr lc) (hr : OperandOK (binary2dShape N oc lr rr).1 oc rr rc)
    (i : Nat) (hi : i < binary2dSize N oc lr rr) (j : Nat) (hj : j < stepLen N (binary2dAt N oc lr lc rr rc i).1) :
    laneOff (binary2dAt N oc lr lc rr rc i).2.1 j = bcastOff lr lc oc ((binary2dAt N oc lr lc rr rc i).1.off + j)
    ∧ laneOff (binary2dAt N oc lr lc rr rc i).2.2 j = bcastOff rr rc oc ((binary2dAt N oc lr lc rr rc i).1.off + j) := by
  obtain ⟨r, sc, hrr, hsc, rfl⟩ := exists_row_col (show i < (binary2dShape N oc lr rr).1 * cellSteps N oc from hi)
  rw [binary2dAt_row _ _ _ _ _ _ _ _ hsc] at hj ⊢
  rw [(binary2d_out ..).2] at hj
  rw [(binary2d_out ..).1]
  exact ⟨binary2dOperand_lane N r sc oc _ lr lc j hrr hsc hl hj,
         binary2dOperand_lane N r sc oc _ rr rc j hrr hsc hr hj⟩

/-- the broadcast-rule offset of every output cell lies inside the operand buffer; with `binary2d_covers_once` (the written
    cells are those of the output) and `binary2d_operand_offsets`, no step of the enumerator leaves a buffer -/
theorem bcastOff_in_bounds (R oc rows cols o : Nat) (hoc : 0 < oc) (hok : OperandOK R oc rows cols)
    (hrows : 0 < rows) (ho : o < R * oc) : bcastOff rows cols oc o < rows * cols := by
  obtain ⟨hc, hrw⟩ := hok
  unfold bcastOff
  refine Nat.mul_add_lt_mul ?_ ?_
  · by_cases h : rows = 1
    · rw [if_pos h]; exact hrows
    · rw [if_neg h, hrw.resolve_right h]; exact (Nat.div_lt_iff_lt_mul hoc).2 ho
  · by_cases h : cols = 1
    · rw [if_pos h, h]; exact Nat.one_pos
    · rw [if_neg h, hc.resolve_right h]; exact Nat.mod_lt _ hoc

def bcastCell (f : α → α → β) (lhs rhs : List α) (lr lc rr rc oc k : Nat) : Option β :=
  match lhs[bcastOff lr lc oc k]?, rhs[bcastOff rr rc oc k]? with
  | some x, some y => some (f x y)
  | _, _ => none

theorem loadOrSet1_ok (buf : List α) (t : TIdx) (N : Nat) (h : ∀ j, j < N → laneOff t j < buf.length) (hN : 0 < N) :
    ∃ L, loadOrSet1 buf t N = some L ∧ L.length = N ∧ ∀ j, j < N → L[j]? = buf[laneOff t j]? := by
  fun_cases loadOrSet1 buf t N
  next hp =>
    have hb : t.off + N ≤ buf.length := by
      have := h (N - 1) (by omega); simp only [laneOff, hp, if_true] at this; omega
    rw [loadu_eq hb]
    refine ⟨_, rfl, length_take_drop hb, ?_⟩
    intro j hj
    rw [List.getElem?_take, if_pos hj, List.getElem?_drop]
    simp [laneOff, hp]
  next hp =>
    have hb : t.off < buf.length := by
      have := h 0 hN; simp only [laneOff, hp, if_false] at this; exact this
    refine ⟨List.replicate N buf[t.off], by simp [readAt, List.getElem?_eq_getElem hb], by simp, ?_⟩
    intro j hj
    simp [laneOff, hp, hj, List.getElem?_eq_getElem hb]

/-- `eval_binary` BROADCASTED_2D on raw buffers fills the output with `bcastCell`.  The loop is `seq_blocks` over the tiling
    `binary2d_contig`; a step stores its block of the result because each of its lanes reads the operands at `bcastOff` of the
    cell it writes (`binary2d_operand_offsets`), inside the buffers (`bcastOff_in_bounds`). -/
theorem simdBinary2d_eq_cells (N : Nat) (hN : 0 < N) (packF : List α → List α → List β) (f : α → α → β)
    (hpf : LaneOp2 N packF f)
    (lhs rhs : List α) (lr lc rr rc oc R : Nat) (hR : (binary2dShape N oc lr rr).1 = R) (hoc : 0 < oc) (hlr : 0 < lr) (hrr : 0 < rr)
    (hl : OperandOK R oc lr lc) (hr : OperandOK R oc rr rc)
    (hll : lhs.length = lr * lc) (hrl : rhs.length = rr * rc)
    (out : List β) (ho : out.length = R * oc) :
    simdBinary2d N packF f lhs rhs lr lc rr rc oc out
      = allSome ((List.range (R * oc)).map (bcastCell f lhs rhs lr lc rr rc oc)) := by
  subst hR
  have hin : ∀ k, k < (binary2dShape N oc lr rr).1 * oc → ∃ x y, lhs[bcastOff lr lc oc k]? = some x ∧
      rhs[bcastOff rr rc oc k]? = some y ∧ bcastCell f lhs rhs lr lc rr rc oc k = some (f x y) := by
    intro k hk
    have h1 := hll ▸ bcastOff_in_bounds _ oc lr lc k hoc hl hlr hk
    have h2 := hrl ▸ bcastOff_in_bounds _ oc rr rc k hoc hr hrr hk
    refine ⟨_, _, List.getElem?_eq_getElem h1, List.getElem?_eq_getElem h2, ?_⟩
    rw [bcastCell, List.getElem?_eq_getElem h1, List.getElem?_eq_getElem h2]
  obtain ⟨res, hres, hlen, hcell⟩ := allSome_range (bcastCell f lhs rhs lr lc rr rc oc) _
    (fun k hk => by obtain ⟨_, _, _, _, h⟩ := hin k hk; rw [h]; rfl)
  rw [hres]
  unfold simdBinary2d
  have hcontig := binary2d_contig N oc lr lc rr rc (binary2dShape N oc lr rr).1
  have := seq_blocks res out (binary2dStep N packF f lhs rhs lr lc rr rc oc) (by rw [hlen, ho]) hcontig
    (by rw [ho]; exact Nat.le_refl _)
    (by
      intro i hi hb
      rw [ho] at hb
      have hoff := binary2d_operand_offsets N oc lr lc rr rc hN hl hr i (List.mem_range.1 hi)
      unfold binary2dStep
      simp only
      generalize binary2dAt N oc lr lc rr rc i = step at hoff hb ⊢
      obtain ⟨ot, lt, rt⟩ := step
      simp only at hoff hb ⊢
      have hlane : ∀ j, j < stepLen N ot → ∃ x y, lhs[laneOff lt j]? = some x ∧ rhs[laneOff rt j]? = some y ∧
          res[ot.off + j]? = some (f x y) := by
        intro j hj
        obtain ⟨x, y, hx, hy, h⟩ := hin _ (lane_lt hj hb)
        exact ⟨x, y, (hoff j hj).1 ▸ hx, (hoff j hj).2 ▸ hy, (hcell _ (lane_lt hj hb)).trans h⟩
      by_cases hp : ot.tag = Tag.PACKED
      · have hlen : stepLen N ot = N := if_pos hp
        rw [hlen] at hlane
        obtain ⟨L, hL, hLl, hLj⟩ := loadOrSet1_ok lhs lt N (fun j hj => by
          obtain ⟨_, _, hx, _, _⟩ := hlane j hj; exact (List.getElem?_eq_some_iff.1 hx).1) hN
        obtain ⟨Rr, hR, hRl, hRj⟩ := loadOrSet1_ok rhs rt N (fun j hj => by
          obtain ⟨_, _, _, hy, _⟩ := hlane j hj; exact (List.getElem?_eq_some_iff.1 hy).1) hN
        rw [if_pos hp, hL, hR, hlen]
        simp only [Option.bind_eq_bind, Option.bind_some]
        congr 1
        rw [hpf L Rr hLl hRl]
        apply List.ext_getElem?
        intro j
        rw [List.getElem?_zipWith, List.getElem?_take, List.getElem?_drop]
        by_cases hj : j < N
        · obtain ⟨x, y, hx, hy, h⟩ := hlane j hj
          rw [if_pos hj, h, hLj j hj, hRj j hj, hx, hy]
        · rw [if_neg hj, List.getElem?_eq_none (hLl ▸ Nat.le_of_not_lt hj : L.length ≤ j)]
      · have hlen : stepLen N ot = 1 := if_neg hp
        obtain ⟨x, y, hx, hy, h⟩ := hlane 0 (hlen ▸ Nat.one_pos)
        rw [laneOff_zero] at hx hy
        have hlt : ot.off < res.length := (List.getElem?_eq_some_iff.1 h).1
        rw [if_neg hp, hlen, readAt, readAt, hx, hy, List.drop_eq_getElem_cons hlt,
          ← Option.some.inj (h.symm.trans (List.getElem?_eq_getElem hlt))]
        exact writeAt_eq_storeu _ _ _)
  simp only [List.take_zero, List.nil_append, List.drop_zero] at this
  rw [List.take_of_length_le (Nat.le_of_eq hlen), List.drop_of_length_le (Nat.le_of_eq ho), List.append_nil] at this
  exact this

/-- **SIMD binary with 2-d broadcasting = NumPy broadcasting by the scalar evaluator**, at evaluator level:
    every lane count, every shape pair `(R|1, C|1)` (`OperandOK`, the `(1,1)` operand included),
    row-major operands.  (That both sides are `some _` — no load or store leaves a buffer — is `bcastOff_in_bounds`, not
    part of this statement.) -/
theorem simdBinary2d_eq_scalar (N : Nat) (hN : 0 < N) (packF : List α → List α → List β) (f : α → α → β)
    (hpf : LaneWise2 N packF f) (a b : NDA α) (lr lc rr rc : Nat)
    (ha : a.shape = [lr, lc]) (hb : b.shape = [rr, rc]) (hwa : a.WF) (hwb : b.WF)
    (hra : a.colMajor = false) (hrb : b.colMajor = false)
    (hlr : 0 < lr) (hlc : 0 < lc) (hrr : 0 < rr)
    (hl : OperandOK (max lr rr) (max lc rc) lr lc) (hr : OperandOK (max lr rr) (max lc rc) rr rc)
    (out : List β) (ho : out.length = max lr rr * max lc rc) :
    simdBinary2d N packF f a.data b.data lr lc rr rc (max lc rc) out = scalarBinary2d f a b lr lc rr rc := by
  have hR : (binary2dShape N (max lc rc) lr rr).1 = max lr rr := by
    unfold binary2dShape
    simp only
    by_cases h : rr = 1
    · rw [if_pos h, h]; exact (Nat.max_eq_left hlr).symm
    · rw [if_neg h]
      rcases hr.2 with h' | h'
      · exact h'
      · exact absurd h' h
  rw [simdBinary2d_eq_cells N hN packF f hpf a.data b.data lr lc rr rc (max lc rc) _ hR
    (Nat.lt_of_lt_of_le hlc (Nat.le_max_left lc rc)) hlr hrr hl hr (length_of_shape_2d hwa ha) (length_of_shape_2d hwb hb) out ho]
  symm
  unfold scalarBinary2d
  simp only
  apply allSome_congr
  intro k _
  unfold bcastCell bcastOff
  rw [get?_rowMajor_2d a lr lc _ _ ha hra, get?_rowMajor_2d b rr rc _ _ hb hrb]
  rfl

/-- the same with operands of either layout (`operator()`: any column-major operand → scalar evaluator) -/
theorem simdEvalBinary2d_eq_scalar (N : Nat) (hN : 0 < N) (packF : List α → List α → List β) (f : α → α → β)
    (hpf : LaneWise2 N packF f) (a b : NDA α) (lr lc rr rc : Nat)
    (ha : a.shape = [lr, lc]) (hb : b.shape = [rr, rc]) (hwa : a.WF) (hwb : b.WF)
    (hlr : 0 < lr) (hlc : 0 < lc) (hrr : 0 < rr)
    (hl : OperandOK (max lr rr) (max lc rc) lr lc) (hr : OperandOK (max lr rr) (max lc rc) rr rc)
    (out : List β) (ho : out.length = max lr rr * max lc rc) :
    simdEvalBinary2d N packF f a b lr lc rr rc (max lc rc) out = scalarBinary2d f a b lr lc rr rc := by
  exact colMajor_fallback a b _ _ fun hca hcb =>
    simdBinary2d_eq_scalar N hN packF f hpf a b lr lc rr rc ha hb hwa hwb hca hcb hlr hlc hrr hl hr out ho

/-! ## eval_reduction along the last axis (HORIZONTAL, identity padding) -/

/-- **horizontal SIMD reduction = monoid sum of every row** of the 2-d form `(R, C)` that `reduction_nd_reshape` gives the
    n-d operand, `C > 0` (when `C` is not a multiple of `N` the last register is padded with `e`); `(op, e)` a commutative
    monoid, `e` the value the code pads and resets with (`view.op.identity()`).
    The result is `some _`: no load or store leaves a buffer. -/
theorem simdReduceHorizontal_eq_fold (N : Nat) (hN : 0 < N) (packOp : List α → List α → List α)
    (op : α → α → α) (e : α) (hm : IsCommMonoid op e) (hp : LaneWise2 N packOp op)
    (inp : List α) (outShape inpShape : List Nat) (axis R C : Nat)
    (hRC : reductionNdReshape .horizontal inpShape axis = (R, C)) (hC : 0 < C)
    (hinp : inp.length = R * C) (out : List α) (hout : out.length = R) :
    simdReduceHorizontal N packOp op e inp outShape inpShape axis out
      = some ((List.range R).map (fun i => IsCommMonoid.msum op e (rowOf inp C i))) := by
  unfold simdReduceHorizontal reductionSize
  rw [hRC]
  show Option.map _ ((List.range (R * padSteps N C)).foldlM _ _) = _
  rw [foldlM_range_mul]
  obtain ⟨_, hf, rfl, -⟩ := foldlM_sim (fun (st : List α × List α) o => st = (o, List.replicate N e) ∧ o.length = R)
    (fun s i => (List.range (padSteps N C)).foldlM
      (fun s j => horizStep N packOp op e inp outShape inpShape axis s (i * padSteps N C + j)) s)
    (fun o i => o.set i (IsCommMonoid.msum op e (rowOf inp C i))) (List.range R) _ out ⟨rfl, hout⟩ (by
      rintro i hi _ o ⟨rfl, ho⟩
      exact ⟨_, horiz_row N packOp op e inp outShape inpShape axis R C hm hp hRC hN hC i (List.mem_range.1 hi) hinp o ho,
        rfl, by rw [List.length_set]; exact ho⟩)
  rw [hf, Option.map_some, foldl_set_range _ out R hout]

/-- what `simdReduceAxis` does on a row-major operand with an op that has an identity, once the (possibly
    negative) axis is normalised to `axis < dim` -/
theorem simdReduceAxis_rowMajor (N : Nat) (packOp : List α → List α → List α) (op : α → α → α) (e : α)
    (a : NDA α) (hr : a.colMajor = false) (axisI : Int) (axis : Nat) (hlt : axis < a.shape.length)
    (hax : axisI = (axis : Int) ∨ axisI = (axis : Int) - (a.shape.length : Int)) :
    simdReduceAxis N packOp op (some e) a axisI =
      if prod (keepShape a.shape axis) = 1 then (simdReduceAll N packOp op e a).map (fun r => [r])
      else if axis = a.shape.length - 1 then
        simdReduceHorizontal N packOp op e a.data (keepShape a.shape axis) a.shape axis
          (List.replicate (prod (keepShape a.shape axis)) e)
      else
        simdReduceVertical N packOp op a.data (keepShape a.shape axis) a.shape axis
          (List.replicate (prod (keepShape a.shape axis)) e) := by
  have hn := axis_norm a.shape.length axis hlt axisI hax
  unfold simdReduceAxis
  simp only [hn, hr]
  have h1 : ¬ ((axis : Int) < 0 ∨ (axis : Int) ≥ (a.shape.length : Int)) := by omega
  rw [if_neg h1]
  simp

/-- **negative axes**: `axis = k − dim` is evaluated exactly as `axis = k` (any layout, any op) -/
theorem simdReduceAxis_negative_axis (N : Nat) (packOp : List α → List α → List α) (op : α → α → α)
    (identity : Option α) (a : NDA α) (k : Nat) (hk : k < a.shape.length) :
    simdReduceAxis N packOp op identity a ((k : Int) - (a.shape.length : Int))
      = simdReduceAxis N packOp op identity a (k : Int) := by
  unfold simdReduceAxis
  simp only [axis_norm _ k hk _ (Or.inr rfl), axis_norm _ k hk _ (Or.inl rfl)]

/-- **column-major operands and ops without `identity()` (subtract) take the scalar evaluator** -/
theorem simdReduceAxis_fallback_eq_scalar (N : Nat) (packOp : List α → List α → List α) (op : α → α → α)
    (identity : Option α) (a : NDA α) (axis : Nat) (hlt : axis < a.shape.length)
    (h : a.colMajor = true ∨ identity = none) :
    simdReduceAxis N packOp op identity a (axis : Int) = scalarReduceAxis op a axis := by
  unfold simdReduceAxis
  simp only [axis_norm _ axis hlt _ (Or.inl rfl), Int.toNat_natCast]
  rw [if_neg (by omega)]
  rcases h with h | h
  · simp [h]
  · cases a.colMajor <;> simp [h]

/-- **n-d reduction over the last axis (written `dim−1` or `−1`): `eval_reduction` = the scalar reference**
    `scalarReduceAxis` on the n-d operand, for every rank, every extent `C > 0` of the reduced axis and every lane count,
    over a commutative monoid whose identity is the one the code pads with; row-major operand with more than one
    output element (one output element is the `out_size == 1` path, `simdReduceAll_eq_fold`). -/
theorem simdReduceAxis_lastAxis_eq_scalar (N : Nat) (hN : 0 < N) (packOp : List α → List α → List α)
    (op : α → α → α) (e : α) (hm : IsCommMonoid op e) (hp : LaneWise2 N packOp op)
    (a : NDA α) (pre : List Nat) (C : Nat) (hsh : a.shape = pre ++ [C]) (hw : a.WF) (hr : a.colMajor = false)
    (hC : 0 < C) (hout : prod pre ≠ 1)
    (axisI : Int) (hax : axisI = -1 ∨ axisI = (pre.length : Int)) :
    simdReduceAxis N packOp op (some e) a axisI = scalarReduceAxis op a pre.length := by
  have hlen : a.data.length = prod pre * C := (length_of_shape hw hsh).trans (prod_snoc pre C)
  have hdim : a.shape.length = pre.length + 1 := by rw [hsh]; simp
  have hkeep : keepShape a.shape pre.length = pre ++ [1] := by
    unfold keepShape; rw [hsh]; exact set_mid pre [] C 1
  have hRC : reductionNdReshape .horizontal a.shape pre.length = (prod pre, C) := hsh ▸ reductionNdReshape_h pre C _
  rw [simdReduceAxis_rowMajor N packOp op e a hr axisI pre.length (hdim ▸ Nat.lt_succ_self _)
        (by rcases hax with h | h
            · right; rw [h, hdim]; omega
            · left; exact h)]
  rw [hkeep, prod_snoc, Nat.mul_one, if_neg hout, if_pos (hdim ▸ rfl)]
  rw [simdReduceHorizontal_eq_fold N hN packOp op e hm hp a.data (pre ++ [1]) a.shape pre.length (prod pre) C hRC hC hlen
        (List.replicate (prod pre) e) (by simp)]
  rw [scalarReduceAxis_lastAxis op e hm a pre C hsh hw hr hC]

/-- the monoid sum of a non-empty row is the scalar evaluator's left fold from its first element -/
theorem msum_eq_scalar_fold (op : α → α → α) (e : α) (hm : IsCommMonoid op e) (x : α) (xs : List α) :
    IsCommMonoid.msum op e (x :: xs) = xs.foldl op x :=
  hm.msum_cons_eq_foldl x xs

/-! ## eval_reduction along an axis other than the last (VERTICAL) -/

/-- **vertical SIMD reduction = the lane-free scalar accumulation loop** `for i < R: out_row(i / A) ⊕= inp_row(i)`,
    for every lane count, every row length `C` (registers, then `C mod N` single cells), every `Ro > 0`, `A > 0`;
    `(R, C)` / `(Ro, C)` are the 2-d forms `reduction_nd_reshape` gives operand and (keepdims-shaped) output,
    `R = Ro·A` with `A` the reduced extent.  Needs no algebraic law at all; the result is `some _`:
    no load or store leaves a buffer. -/
theorem simdReduceVertical_eq_loop (N : Nat) (hN : 0 < N) (packOp : List α → List α → List α)
    (op : α → α → α) (hp : LaneWise2 N packOp op)
    (inp : List α) (outShape inpShape : List Nat) (axis R C Ro A : Nat)
    (hA : 0 < A) (hRo : 0 < Ro) (hR : R = Ro * A)
    (hRC : reductionNdReshape .vertical inpShape axis = (R, C))
    (hOut : reductionNdReshape .vertical outShape axis = (Ro, C))
    (hinp : inp.length = R * C) (out : List α) (hout : out.length = Ro * C) :
    simdReduceVertical N packOp op inp outShape inpShape axis out = some (vloop op inp C A out R) := by
  unfold simdReduceVertical reductionSize
  rw [hRC]
  show (List.range (R * cellSteps N C)).foldlM _ _ = _
  rw [foldlM_range_mul]
  obtain ⟨_, hf, rfl, -⟩ := foldlM_sim (fun (o o' : List α) => o = o' ∧ o'.length = Ro * C)
    (fun s i => (List.range (cellSteps N C)).foldlM
      (fun s j => vertStep N packOp op inp outShape inpShape axis s (i * cellSteps N C + j)) s)
    (fun o i => rowUpd op inp C o (i / A) i) (List.range R) out out ⟨rfl, hout⟩ (by
      rintro i hi o _ ⟨rfl, ho⟩
      obtain ⟨h1, h2⟩ := vert_row N packOp op inp outShape inpShape axis R C Ro A hp hN hA hRo hR hRC hOut i
        (List.mem_range.1 hi) hinp o ho
      exact ⟨_, h1, rfl, h2.trans ho⟩)
  exact hf

/-- **… and every output row is the column-wise left fold of the `A` input rows it reduces**, starting from the
    row the output was pre-filled with (the identity). -/
theorem simdReduceVertical_eq_fold (N : Nat) (hN : 0 < N) (packOp : List α → List α → List α)
    (op : α → α → α) (hp : LaneWise2 N packOp op)
    (inp : List α) (outShape inpShape : List Nat) (axis R C Ro A : Nat)
    (hA : 0 < A) (hRo : 0 < Ro) (hR : R = Ro * A)
    (hRC : reductionNdReshape .vertical inpShape axis = (R, C))
    (hOut : reductionNdReshape .vertical outShape axis = (Ro, C))
    (hinp : inp.length = R * C) (out : List α) (hout : out.length = Ro * C) :
    ∃ res, simdReduceVertical N packOp op inp outShape inpShape axis out = some res ∧ res.length = Ro * C ∧
      ∀ ρ, ρ < Ro → rowOf res C ρ
        = (List.range A).foldl (fun acc a => List.zipWith op acc (rowOf inp C (ρ * A + a))) (rowOf out C ρ) := by
  have hloop := simdReduceVertical_eq_loop N hN packOp op hp inp outShape inpShape axis R C Ro A hA hRo hR hRC hOut hinp out hout
  subst hR
  exact ⟨_, hloop, vloop_rows op inp C A Ro out hinp hout⟩

/-- a row pre-filled with a left identity absorbs the first input row unchanged: the fold above is then the scalar
    evaluator's "first element, then `op(acc, x)`" on every column -/
theorem zipWith_identity_row (op : α → α → α) (e : α) (hid : ∀ a, op e a = a) (row : List α) :
    List.zipWith op (List.replicate row.length e) row = row := by
  rw [List.zipWith_replicate_left, List.map_congr_left (fun a _ => hid a), List.map_id']

/-- **n-d reduction over a non-last axis through `eval_reduction`**: for an operand of shape `pre ++ [A] ++ post`
    (`post ≠ []`, any ranks, `A > 0`, `prod pre > 0`, more than one output cell) reduced over the axis of extent `A`, the
    dispatcher (it takes the VERTICAL path) never leaves a buffer, and row `ρ` of the result (row length `prod post`) is the
    column-wise left fold, from the identity row, of buffer rows `ρ·A … ρ·A + A − 1`. -/
theorem simdReduceAxis_nonLastAxis_eq_fold (N : Nat) (hN : 0 < N) (packOp : List α → List α → List α)
    (op : α → α → α) (e : α) (hp : LaneWise2 N packOp op)
    (a : NDA α) (pre post : List Nat) (A : Nat) (hsh : a.shape = pre ++ A :: post) (hpost : post ≠ []) (hw : a.WF)
    (hr : a.colMajor = false) (hA : 0 < A) (hpre : 0 < prod pre) (hout : prod pre * prod post ≠ 1) :
    ∃ res, simdReduceAxis N packOp op (some e) a (pre.length : Int) = some res ∧ res.length = prod pre * prod post ∧
      ∀ ρ, ρ < prod pre → rowOf res (prod post) ρ
        = (List.range A).foldl (fun acc k => List.zipWith op acc (rowOf a.data (prod post) (ρ * A + k)))
            (List.replicate (prod post) e) := by
  have hdim : a.shape.length = pre.length + 1 + post.length := by rw [hsh]; simp; omega
  have hpl : 0 < post.length := List.length_pos_iff.2 hpost
  have hlen : a.data.length = (prod pre * A) * prod post := (length_of_shape hw hsh).trans (prod_mid pre post A)
  have hkeep : keepShape a.shape pre.length = pre ++ 1 :: post := by rw [keepShape, hsh, set_mid]
  have hRC : reductionNdReshape .vertical a.shape pre.length = (prod pre * A, prod post) := by
    rw [hsh, reductionNdReshape_v pre post A hpost]
  have hOut : reductionNdReshape .vertical (pre ++ 1 :: post) pre.length = (prod pre, prod post) := by
    rw [reductionNdReshape_v pre post 1 hpost, Nat.mul_one]
  have hprodk : prod (pre ++ 1 :: post) = prod pre * prod post := by rw [prod_mid, Nat.mul_one]
  obtain ⟨res, h1, h2, h3⟩ := simdReduceVertical_eq_fold N hN packOp op hp a.data (pre ++ 1 :: post) a.shape pre.length
    (prod pre * A) (prod post) (prod pre) A hA hpre rfl hRC hOut hlen
    (List.replicate (prod pre * prod post) e) (by simp)
  refine ⟨res, ?_, h2, ?_⟩
  · rw [simdReduceAxis_rowMajor N packOp op e a hr (pre.length : Int) pre.length (by omega) (Or.inl rfl)]
    rw [hkeep, hprodk, if_neg hout, if_neg (by omega)]
    exact h1
  · intro ρ hρ
    rw [h3 ρ hρ, rowOf_replicate e _ _ ρ hρ]

/-- **n-d reduction over a non-last axis: `eval_reduction` = the scalar reference** `scalarReduceAxis` on the n-d operand
    (positive extents, more than one output cell), cell by cell: the row-wise column fold of `simdReduceAxis_nonLastAxis_eq_fold` is, through the mixed-radix decomposition
    of `ndindex (pre ++ 1 :: post)`, the left fold of `a[I, 0..A-1, J]` from its first element.  No re-association happens on
    this path: only `e ⊕ x = x` is used (weaker than the commutative-monoid hypothesis of the last axis). -/
theorem simdReduceAxis_nonLastAxis_eq_scalar (N : Nat) (hN : 0 < N) (packOp : List α → List α → List α)
    (op : α → α → α) (e : α) (hid : ∀ x, op e x = x) (hp : LaneWise2 N packOp op)
    (a : NDA α) (pre post : List Nat) (A : Nat) (hsh : a.shape = pre ++ A :: post) (hpost : post ≠ []) (hw : a.WF)
    (hr : a.colMajor = false) (hposPre : Pos pre) (hposPost : Pos post) (hA : 0 < A) (hout : prod pre * prod post ≠ 1) :
    simdReduceAxis N packOp op (some e) a (pre.length : Int) = scalarReduceAxis op a pre.length := by
  obtain ⟨res, h1, h2, h3⟩ := simdReduceAxis_nonLastAxis_eq_fold N hN packOp op e hp a pre post A hsh hpost hw hr hA
    (prod_pos hposPre) hout
  rw [h1, scalarReduceAxis_cells op a pre post A hsh hr hposPost]
  exact (axisCells_of_rowFold op e hid a.data res (prod pre) A (prod post) hA (prod_pos hposPost) h2 h3).symm

/-- **SIMD reduction over ANY axis = the scalar reference**, for every rank, every shape with positive extents, every
    axis `0 ≤ axis < dim` written either way (`axis` or `axis − dim`), every lane count, operands of either layout, ops with
    or without `identity()`; where the op has an identity `e` (the value the code pads / pre-fills / starts with),
    `(op, e)` is a commutative monoid — "equal up to re-association of the reduction".  The buffer is the row-major
    keepdims-shaped result (the same buffer serves `keepdims=false`, see `simdReduceAxisK_eq_scalar`). -/
theorem simdReduceAxis_eq_scalar (N : Nat) (hN : 0 < N) (packOp : List α → List α → List α)
    (op : α → α → α) (identity : Option α) (hm : ∀ e, identity = some e → IsCommMonoid op e)
    (hp : LaneWise2 N packOp op) (a : NDA α) (hw : a.WF) (hs : Pos a.shape) (axis : Nat) (hlt : axis < a.shape.length)
    (axisI : Int) (hax : axisI = (axis : Int) ∨ axisI = (axis : Int) - (a.shape.length : Int)) :
    simdReduceAxis N packOp op identity a axisI = scalarReduceAxis op a axis := by
  have hnorm : simdReduceAxis N packOp op identity a axisI = simdReduceAxis N packOp op identity a (axis : Int) := by
    rcases hax with h | h
    · rw [h]
    · rw [h]; exact simdReduceAxis_negative_axis N packOp op identity a axis hlt
  rw [hnorm]
  cases hc : a.colMajor with
  | true => exact simdReduceAxis_fallback_eq_scalar N packOp op identity a axis hlt (Or.inl hc)
  | false =>
  cases hi : identity with
  | none => exact simdReduceAxis_fallback_eq_scalar N packOp op none a axis hlt (Or.inr rfl)
  | some e =>
  have hme := hm e hi
  obtain ⟨pre, A, post, hsh, hpl⟩ := exists_mid a.shape axis hlt
  subst hpl
  obtain ⟨hposPre, hAp⟩ := Shape.pos_append.1 (hsh ▸ hs)
  have hposPost : Pos post := hAp.tail
  have hA : 0 < A := hAp.head
  by_cases hout : prod pre * prod post = 1
  · -- one output element
    rw [simdReduceAxis_rowMajor N packOp op e a hc (pre.length : Int) pre.length hlt (Or.inl rfl)]
    have hk : prod (keepShape a.shape pre.length) = 1 := by
      unfold keepShape; rw [hsh, set_mid, prod_mid]; simpa using hout
    rw [if_pos hk, simdReduceAll_eq_fold N hN packOp op e hme hp a hw hc hs,
        scalarReduceAxis_outSize1 op a pre post A hsh hw hc hposPost hout]
  · by_cases hpost : post = []
    · subst hpost
      have hout' : prod pre ≠ 1 := by simpa [prod] using hout
      exact simdReduceAxis_lastAxis_eq_scalar N hN packOp op e hme hp a pre A hsh hw hc hA hout'
        (pre.length : Int) (Or.inr rfl)
    · exact simdReduceAxis_nonLastAxis_eq_scalar N hN packOp op e hme.id_left hp a pre post A hsh hpost hw hc
        hposPre hposPost hA hout

/-- **keepdims, the shape fed to the enumerators**: what `eval_reduction` feeds the enumerators for `keepdims=false`,
    `insert_index(shape without axis, 1, axis)`, is the keepdims shape — the evaluator's loops do not depend on the flag -/
theorem reduce_keepdims_normalised (shape : List Nat) (axis : Nat) (h : axis < shape.length) (keep : Bool) :
    normOutShape (reduceOutShape shape axis keep) axis keep = keepShape shape axis := by
  cases keep with
  | true => simp [normOutShape, reduceOutShape]
  | false =>
    obtain ⟨pre, A, post, rfl, rfl⟩ := exists_mid shape axis h
    simp only [normOutShape, reduceOutShape, keepShape, Bool.false_eq_true, if_false]
    rw [eraseIdx_mid, insertIdx_mid, set_mid]

theorem scalarReduce_keepdims_same_buffer (op : α → α → α) (a : NDA α) (axis : Nat) (h : axis < a.shape.length) (keep : Bool) :
    scalarReduceAxisK op a axis keep = scalarReduceAxis op a axis := by
  cases keep with
  | true => simp [scalarReduceAxisK, scalarReduceAxis, reduceOutShape]
  | false =>
    obtain ⟨pre, A, post, hsh, rfl⟩ := exists_mid a.shape axis h
    unfold scalarReduceAxisK scalarReduceAxis
    simp only [Bool.false_eq_true, if_false]
    rw [prod_reduceOutShape _ _ h false]
    apply allSome_congr
    intro o _
    have hidx : ∀ k, (ndindex (reduceOutShape a.shape pre.length false) o).insertIdx pre.length k
        = (ndindex (keepShape a.shape pre.length) o).set pre.length k := by
      intro k
      have hl : (ndindex pre (o / prod post)).length = pre.length := Shape.ndindex_length pre _
      simp only [reduceOutShape, keepShape, Bool.false_eq_true, if_false]
      rw [hsh, eraseIdx_mid, set_mid, Shape.ndindex_append, ndindex_keep]
      conv => lhs; rw [← hl]
      conv => rhs; rw [← hl]
      rw [insertIdx_mid, set_mid]
    simp only [hidx]

theorem simdReduceAxisK_eq_simdReduceAxis (N : Nat) (packOp : List α → List α → List α) (op : α → α → α) (identity : Option α)
    (a : NDA α) (axis : Nat) (hlt : axis < a.shape.length) (axisI : Int)
    (hax : axisI = (axis : Int) ∨ axisI = (axis : Int) - (a.shape.length : Int)) (keep : Bool) :
    simdReduceAxisK N packOp op identity a axisI keep
      = (simdReduceAxis N packOp op identity a axisI).map (fun b => (reduceOutShape a.shape axis keep, b)) := by
  have hn := axis_norm a.shape.length axis hlt axisI hax
  have h1 : ¬ ((axis : Int) < 0 ∨ (axis : Int) ≥ (a.shape.length : Int)) := by omega
  unfold simdReduceAxisK simdReduceAxis
  simp only [hn, if_neg h1, Int.toNat_natCast]
  rw [scalarReduce_keepdims_same_buffer op a axis hlt keep, reduce_keepdims_normalised _ _ hlt keep, prod_reduceOutShape _ _ hlt keep]
  -- both sides are the same `if` tree of the two definitions, the right one under `Option.map`
  cases identity <;> simp only [apply_ite (Option.map _), Option.map_map, Function.comp_def]

/-- **SIMD reduction over any axis, `keepdims` on or off = NumPy `op.reduce(a, axis, keepdims)`** as the scalar evaluator
    computes it: same shape (`reduceOutShape`), same row-major buffer; hypotheses as `simdReduceAxis_eq_scalar`. -/
theorem simdReduceAxisK_eq_scalar (N : Nat) (hN : 0 < N) (packOp : List α → List α → List α)
    (op : α → α → α) (identity : Option α) (hm : ∀ e, identity = some e → IsCommMonoid op e)
    (hp : LaneWise2 N packOp op) (a : NDA α) (hw : a.WF) (hs : Pos a.shape) (axis : Nat) (hlt : axis < a.shape.length)
    (axisI : Int) (hax : axisI = (axis : Int) ∨ axisI = (axis : Int) - (a.shape.length : Int)) (keep : Bool) :
    simdReduceAxisK N packOp op identity a axisI keep
      = (scalarReduceAxisK op a axis keep).map (fun b => (reduceOutShape a.shape axis keep, b)) := by
  rw [simdReduceAxisK_eq_simdReduceAxis N packOp op identity a axis hlt axisI hax keep,
      simdReduceAxis_eq_scalar N hN packOp op identity hm hp a hw hs axis hlt axisI hax,
      scalarReduce_keepdims_same_buffer op a axis hlt keep]

/-! ## eval_outer: the enumerator, operands of any rank -/

/-- **every output cell of `op.outer(lhs, rhs)` is written exactly once, in order**: the blocks the successive steps of
    `outer_simd_enumerator` write (a register for PACKED, `N − k` scalars for `PAD_k`) concatenate to
    `0 … prod(lhs ++ rhs) − 1`, for operands of any rank and every last extent `n` (also not a multiple of `N`).
    (`lhs ++ rhs = pre ++ [n]` just names the last extent of the result.) -/
theorem outer_covers_once (N : Nat) (hN : 0 < N) (lhs rhs pre : List Nat) (n : Nat)
    (hsh : lhs ++ rhs = pre ++ [n]) (hpos : Pos pre) :
    (List.range (outerSize N (lhs ++ rhs) lhs rhs)).flatMap (fun i =>
        List.range' (outerAt N (lhs ++ rhs) lhs rhs i).1.off (outerLen N (outerAt N (lhs ++ rhs) lhs rhs i).1))
      = List.range (prod (lhs ++ rhs)) := by
  -- what is written does not depend on the cut of `lhs ++ rhs` into lhs and rhs: take `pre`, `[n]`
  obtain ⟨hsz, hat⟩ := outerAt_cut N (lhs ++ rhs) lhs rhs pre [n] hsh
  have h := (outer_contig N pre [] n hN (fun _ h => nomatch h)).blocks
  rw [← outerSize_eq N pre [] n] at h
  simp only [Nat.sub_zero, List.nil_append, List.append_nil] at h
  simp only [hsz, hat]
  rw [hsh, h, prod_snoc, ← List.range_eq_range']

/-- **the lhs / rhs offsets of every enumerator step are the outer-product operands**: lane `j` of step `i` writes output cell
    `o = out.off + j`; the (always broadcast) lhs element of the step is `lhs[o / |rhs|]` and the rhs element of that lane is
    `rhs[o % |rhs|]` — NumPy `op.outer` on row-major buffers — for operands of any rank (rhs of rank ≥ 1, positive extents),
    every last extent (also not a multiple of `N`) and all three rank-dependent branches of `outer_simd` (`dim == 1`, `== 2`,
    general). -/
theorem outer_operand_offsets (N : Nat) (hN : 0 < N) (lhs rhs : List Nat) (hposL : Pos lhs) (hposR : Pos rhs) (hne : rhs ≠ [])
    (i : Nat) (hi : i < outerSize N (lhs ++ rhs) lhs rhs)
    (j : Nat) (hj : j < outerLen N (outerAt N (lhs ++ rhs) lhs rhs i).1) :
    (outerAt N (lhs ++ rhs) lhs rhs i).2.1.off = ((outerAt N (lhs ++ rhs) lhs rhs i).1.off + j) / prod rhs
    ∧ (outerAt N (lhs ++ rhs) lhs rhs i).2.2.off + j = ((outerAt N (lhs ++ rhs) lhs rhs i).1.off + j) % prod rhs := by
  obtain ⟨rpre, n, rfl⟩ := List.exists_snoc rhs (List.length_pos_iff.2 hne)
  have hposR' : Pos rpre := (Shape.pos_append.1 hposR).1
  rw [outerSize_eq] at hi
  obtain ⟨q, sj, hq, hsj, rfl⟩ := exists_row_col hi
  rw [outerAt_full N lhs rpre n q sj hposR' hq hsj] at hj ⊢
  rw [outerLen_row hN hsj] at hj
  have hdm := outer_divmod q n (prod rpre) (sj * N + j) (lane_lt hj (mul_add_padLen_le hsj))
  simp only [← Nat.add_assoc] at hdm
  simp only [rowStep_off]
  rw [prod_snoc, hdm.1, hdm.2]
  exact ⟨rfl, rfl⟩

/-- **SIMD outer = the scalar evaluator's outer product** `out[i ++ j] = f(a[i], b[j])`, at evaluator level:
    operands of any rank (`b` of rank ≥ 1 and positive extents), row-major.  (That the result is `some _` — no load or
    store leaves a buffer — is said by `simdOuter_eq_cells`, not by this statement.) -/
theorem simdOuter_eq_scalar (N : Nat) (hN : 0 < N) (packF : List α → List α → List β) (f : α → α → β)
    (hpf : LaneWise2 N packF f) (a b : NDA α) (hwa : a.WF) (hwb : b.WF)
    (hra : a.colMajor = false) (hrb : b.colMajor = false) (hsb : Pos b.shape) (hne : b.shape ≠ [])
    (out : List β) (ho : out.length = prod (a.shape ++ b.shape)) :
    simdOuter N packF f a.data b.data (a.shape ++ b.shape) a.shape b.shape out = scalarOuter f a b := by
  obtain ⟨rpre, n, hb⟩ := List.exists_snoc b.shape (List.length_pos_iff.2 hne)
  have hposR : Pos rpre := (Shape.pos_append.1 (hb ▸ hsb)).1
  have hY : b.data.length = prod rpre * n := (length_of_shape hwb hb).trans (prod_snoc rpre n)
  unfold scalarOuter
  rw [logical_rowMajor a hwa hra, logical_rowMajor b hwb hrb]
  rw [hb] at ho ⊢
  exact simdOuter_eq_cells N hN packF f hpf a.data b.data a.shape rpre n hposR hwa hY out
    (by rw [ho, prod_append, prod_snoc])

/-- the same with operands of either layout (`operator()`: any column-major operand → scalar evaluator) -/
theorem simdEvalOuter_eq_scalar (N : Nat) (hN : 0 < N) (packF : List α → List α → List β) (f : α → α → β)
    (hpf : LaneWise2 N packF f) (a b : NDA α) (hwa : a.WF) (hwb : b.WF) (hsb : Pos b.shape) (hne : b.shape ≠ [])
    (out : List β) (ho : out.length = prod (a.shape ++ b.shape)) :
    simdEvalOuter N packF f a b out = scalarOuter f a b := by
  exact colMajor_fallback a b _ _ fun hca hcb => simdOuter_eq_scalar N hN packF f hpf a b hwa hwb hca hcb hsb hne out ho

/-! ## eval_matmul: the inner enumerator -/

/-- **the inner steps of every output element read its lhs row and its rhs column exactly once**: for output offset
    `o` of the `(M, Nn)` result, the lhs blocks of the steps (a register for PACKED, `N − k` elements for `PAD_k`)
    concatenate to `[o/Nn·K, o/Nn·K + K)` (row `o/Nn` of the row-major lhs) and the rhs blocks to
    `[o%Nn·K, o%Nn·K + K)` (column `o%Nn` of the column-major rhs). -/
theorem matmul_inner_covers_once (N K Nn o : Nat) (hN : 0 < N) :
    (List.range (matmulInnerSize N K)).flatMap (fun s =>
        List.range' (matmulInner N o s Nn K).2.1.off (outerLen N (matmulInner N o s Nn K).2.1))
      = List.range' (o / Nn * K) K
    ∧ (List.range (matmulInnerSize N K)).flatMap (fun s =>
        List.range' (matmulInner N o s Nn K).2.2.off (outerLen N (matmulInner N o s Nn K).2.2))
      = List.range' (o % Nn * K) K := by
  have hrow : ∀ (idx : Nat → TIdx) (base : Nat),
      (∀ s, idx s = rowStep N K s (base + s * N)) →
      (List.range (matmulInnerSize N K)).flatMap (fun s => List.range' (idx s).off (outerLen N (idx s)))
        = List.range' base K := by
    intro idx base h
    have hc := (Contig.row_padded (pos := fun s => (idx s).off) (len := fun s => outerLen N (idx s)) N K base 0
      (fun s hs => by rw [Nat.zero_add, h s]; exact ⟨rfl, outerLen_row hN hs _⟩)).blocks
    rwa [Nat.add_sub_cancel_left, ← List.range_eq_range'] at hc
  exact ⟨hrow _ _ (fun s => by simp only [matmulInner, rowStep, ← Nat.mod_eq_sub_div_mul]),
         hrow _ _ (fun s => by simp only [matmulInner, rowStep, ← Nat.mod_eq_sub_div_mul])⟩

/-- **the order / association of `eval_matmul`, stated explicitly, and no buffer left**: output element `o` of the
    `(M, Nn)` result is `matmulCell` (Simd/MatmulLemmas.lean) over exactly the `K` elements of row `o / Nn` of the row-major
    lhs and of column `o % Nn` of the column-major rhs (`K > 0`).  No algebraic law is used:
    this is what the code computes also in floating point.  `fmadd` is lane-wise by construction here (`fmaddLanes` applies
    the scalar `fma`, with its single rounding, to every lane), not by a `LaneWise` hypothesis: that is the assumption. -/
theorem simdMatmul_eq_laneSums (N : Nat) (hN : 0 < N) (fma : α → α → α → α) (add : α → α → α) (zero : α)
    (lhs rhs : List α) (M K Nn : Nat) (hK : 0 < K) (hl : lhs.length = M * K) (hr : rhs.length = Nn * K)
    (out : List α) (ho : out.length = M * Nn) :
    simdMatmul N fma add zero lhs rhs M K Nn out = matmulRef fma add zero N lhs rhs M K Nn
    ∧ (matmulRef fma add zero N lhs rhs M K Nn).isSome := by
  obtain ⟨res, hres, hlen, hcell⟩ := allSome_range (matmulCell fma add zero N K lhs rhs Nn) _
    (fun o _ => hfold_isSome add _ (by rw [laneAccs_length]; exact hN))
  rw [show matmulRef fma add zero N lhs rhs M K Nn = some res from hres]
  refine ⟨?_, rfl⟩
  exact cells_fold res out (M * Nn) (matmulCellLoop N fma add zero lhs rhs K Nn) hlen ho (by
    intro i o hi hol
    rw [hlen] at hi
    obtain ⟨h1, h2⟩ := matmul_bounds hi hl hr
    exact matmulCellLoop_eq N hN fma add zero lhs rhs K Nn i hK h1 h2 o (hol ▸ hi) _
      (by rw [← hcell i hi, List.getElem?_eq_getElem]))

/-- **SIMD matmul element `(i,j)` = Σ_{k<K} lhs[i,k]·rhs[k,j]** (the scalar reference `scalarMatmul`: the `K` products folded
    left to right from `0`), in exact arithmetic: `(add, 0)` a commutative monoid (the lane-strided re-association),
    `fma x y z = x·y + z` (a hardware `fmadd` rounds once instead of twice: outside the model) and `0·0 = 0` (padding lanes). -/
theorem simdMatmul_eq_scalar (N : Nat) (hN : 0 < N) (fma : α → α → α → α) (mul add : α → α → α) (zero : α)
    (hm : IsCommMonoid add zero) (hfma : ∀ x y z, fma x y z = add (mul x y) z) (hz : mul zero zero = zero)
    (lhs rhs : List α) (M K Nn : Nat) (hK : 0 < K) (hl : lhs.length = M * K) (hr : rhs.length = Nn * K)
    (out : List α) (ho : out.length = M * Nn) :
    simdMatmul N fma add zero lhs rhs M K Nn out = scalarMatmul mul add zero lhs rhs M K Nn := by
  rw [(simdMatmul_eq_laneSums N hN fma add zero lhs rhs M K Nn hK hl hr out ho).1]
  unfold matmulRef scalarMatmul
  apply allSome_congr
  intro i hi
  obtain ⟨h1, h2⟩ := matmul_bounds (List.mem_range.1 hi) hl hr
  -- the `K` products the reference enumerates are the element-wise products of the row and the column
  rw [matmulCell_eq_msum hm fma mul hfma hz N hN K lhs rhs Nn i h1 h2]
  dsimp only
  rw [allSome_of_getElem? _ (List.zipWith mul (rowOf lhs K (i / Nn)) (rowOf rhs K (i % Nn))) K
        (length_zipWith_rows mul lhs rhs K _ _ h1 h2) (fun k hk => by
          rw [List.getElem?_zipWith, rowOf_getElem? _ _ _ _ hk, rowOf_getElem? _ _ _ _ hk]
          cases lhs[i / Nn * K + k]? <;> cases rhs[i % Nn * K + k]? <;> rfl)]
  rfl

/-- **`operator()` on a matmul view, with an effective layout test on the lhs (the tree after
    fixes/C12-matmul-lhs-layout-fallback.diff) = the n-d reference** `out[m,n] = Σ_k a[m,k]·b[k,n]` for every operand pair that
    is a program: a column-major lhs (any rhs) is handed to the scalar evaluator, a row-major lhs with a column-major rhs
    goes through `eval_matmul` (a row-major rhs under a row-major lhs is rejected at compile time). -/
theorem simdEvalMatmul_repaired_eq_scalar (N : Nat) (hN : 0 < N) (fma : α → α → α → α) (mul add : α → α → α) (zero : α)
    (hm : IsCommMonoid add zero) (hfma : ∀ x y z, fma x y z = add (mul x y) z) (hz : mul zero zero = zero)
    (a b : NDA α) (M K Nn : Nat) (ha : a.shape = [M, K]) (hb : b.shape = [K, Nn]) (hwa : a.WF) (hwb : b.WF) (hK : 0 < K)
    (hprog : a.colMajor = true ∨ b.colMajor = true) (out : List α) (ho : out.length = M * Nn) :
    simdEvalMatmulWith true N fma mul add zero a b M K Nn out = scalarMatmulNDA mul add zero a b M K Nn := by
  unfold simdEvalMatmulWith
  cases hca : a.colMajor with
  | true => rfl
  | false =>
    have hcb : b.colMajor = true := by
      rcases hprog with h | h
      · rw [hca] at h; cases h
      · exact h
    have hla := length_of_shape_2d hwa ha
    have hlb : b.data.length = Nn * K := by rw [length_of_shape_2d hwb hb, Nat.mul_comm]
    simp only [hcb, Bool.and_false, Bool.false_eq_true, if_false, if_true]
    rw [simdMatmul_eq_scalar N hN fma mul add zero hm hfma hz a.data b.data M K Nn hK hla hlb out ho,
        scalarMatmulNDA_rowCol mul add zero a b M K Nn ha hb hca hcb]

/-- **`operator()` on a matmul view, the tree as it is = the n-d reference for a column-major rhs**, whatever the layout of the
    lhs: a row-major lhs makes the pair `eval_matmul` is written for, a column-major lhs falls back to the scalar evaluator
    (`matmulLhsFallbackEffective = true`; instance `simdEvalMatmul_colMajorLhs_regression`). -/
theorem simdEvalMatmul_eq_scalar (N : Nat) (hN : 0 < N) (fma : α → α → α → α) (mul add : α → α → α) (zero : α)
    (hm : IsCommMonoid add zero) (hfma : ∀ x y z, fma x y z = add (mul x y) z) (hz : mul zero zero = zero)
    (a b : NDA α) (M K Nn : Nat) (ha : a.shape = [M, K]) (hb : b.shape = [K, Nn]) (hwa : a.WF) (hwb : b.WF) (hK : 0 < K)
    (hcb : b.colMajor = true) (out : List α) (ho : out.length = M * Nn) :
    simdEvalMatmul N fma mul add zero a b M K Nn out = scalarMatmulNDA mul add zero a b M K Nn :=
  simdEvalMatmul_repaired_eq_scalar N hN fma mul add zero hm hfma hz a b M K Nn ha hb hwa hwb hK (Or.inr hcb) out ho

/-- **regression guard for the repaired defect matmul.column-major-lhs** (fix commit 8eebbc3): with a column-major lhs
    `operator()` falls back to the scalar evaluator; both operands with buffer `1..6` in column-major layout
    (`a = [[1,3,5],[2,4,6]]`, `b = [[1,4],[2,5],[3,6]]`) give `a·b = [22,49,28,64]`.  Before the repair the layout test never
    fired (`simdEvalMatmulWith false`): `eval_matmul` read the lhs buffer as if it were row-major and gave `[14,32,32,77]`. -/
theorem simdEvalMatmul_colMajorLhs_regression :
    simdEvalMatmul 2 (fun x y z => x * y + z) (· * ·) (· + ·) (0 : Int) ⟨[2,3], true, [1,2,3,4,5,6]⟩ ⟨[3,2], true, [1,2,3,4,5,6]⟩
        2 3 2 [0,0,0,0]
      = scalarMatmulNDA (· * ·) (· + ·) (0 : Int) ⟨[2,3], true, [1,2,3,4,5,6]⟩ ⟨[3,2], true, [1,2,3,4,5,6]⟩ 2 3 2
    ∧ simdEvalMatmulWith false 2 (fun x y z => x * y + z) (· * ·) (· + ·) (0 : Int) ⟨[2,3], true, [1,2,3,4,5,6]⟩ ⟨[3,2], true, [1,2,3,4,5,6]⟩
        2 3 2 [0,0,0,0]
      ≠ scalarMatmulNDA (· * ·) (· + ·) (0 : Int) ⟨[2,3], true, [1,2,3,4,5,6]⟩ ⟨[3,2], true, [1,2,3,4,5,6]⟩ 2 3 2 := by decide

example : LaneWise1 4 (fun xs : List Nat => xs.map (· + 1)) (· + 1) := fun _ _ => rfl
example : (⟨[2,5], false, List.range 10⟩ : NDA Nat).WF ∧ Pos [2,5] := ⟨by simp [NDA.WF, prod], by decide⟩
example : simdUnary 4 (fun xs => xs.map (· + 1)) (· + 1) ⟨[2,5], false, List.range 10⟩ (List.replicate 10 0)
    = some ((List.range 10).map (· + 1)) := by decide
example : packedStarts 4 10 = [0,4] ∧ tailIdx 4 10 = [8,9] := by decide
example : IsCommMonoid (· + ·) (0 : Int) := ⟨Int.add_assoc, Int.add_comm, Int.zero_add⟩
example : IsCommMonoid (· * ·) (1 : Int) := ⟨Int.mul_assoc, Int.mul_comm, Int.one_mul⟩
example : LaneWise2 4 (List.zipWith (· + ·)) (fun a b : Int => a + b) := fun _ _ _ _ => rfl
example : reductionNdReshape .horizontal [2,3,5] 2 = (6, 5) ∧ reductionNdReshape .vertical [2,3,5] 1 = (6, 5)
    ∧ reductionNdReshape .vertical [2,1,5] 1 = (2, 5) := by decide
example : simdReduceHorizontal 4 (List.zipWith (· + ·)) (· + ·) (0 : Int) [1,2,3,4,5,6,7,8,9,10] [2,1] [2,5] 1 [0,0]
    = some [15, 40] := by decide
example : simdReduceVertical 4 (List.zipWith (· + ·)) (· + ·) [1,2,3,4,5,6,7,8,9,10,11,12] [1,6] [2,6] 0 (List.replicate 6 (0 : Int))
    = some [8,10,12,14,16,18] := by decide
example : outerSize 4 [2,3,6] [2] [3,6] = 12 ∧ (outerAt 4 [2,3,6] [2] [3,6] 3).1 = ⟨Tag.PAD 2, 10⟩ := by decide
example : OperandOK 3 5 1 5 ∧ OperandOK 3 5 3 1 ∧ OperandOK 3 5 1 1 :=
  ⟨⟨Or.inl rfl, Or.inr rfl⟩, ⟨Or.inr rfl, Or.inl rfl⟩, ⟨Or.inr rfl, Or.inr rfl⟩⟩
example : simdBinary2d 4 (List.zipWith (· + ·)) (· + ·) [1,2,3,4,5,6] [100] 3 2 1 1 2 (List.replicate 6 (0 : Int))
    = some [101,102,103,104,105,106] := by decide
example : simdEvalUnary 2 (fun xs => xs.map (· + 100)) (· + 100) ⟨[2,2], true, [0,1,2,3]⟩ [0,0,0,0]
    = some [100,102,101,103] := by decide
example : simdBinary2d 4 (List.zipWith (· + ·)) (· + ·) [1,2,3,4,5] [10,20,30] 1 5 3 1 5 (List.replicate 15 (0 : Int))
    = some [11,12,13,14,15,21,22,23,24,25,31,32,33,34,35] := by decide
example : simdReduceAxis 4 (List.zipWith (· + ·)) (· + ·) (some (0 : Int)) ⟨[2,5], false, [1,2,3,4,5,6,7,8,9,10]⟩ (-1) = some [15, 40]
    ∧ scalarReduceAxis (· + ·) (⟨[2,5], false, [1,2,3,4,5,6,7,8,9,10]⟩ : NDA Int) 1 = some [15, 40] := by decide
example : matmulInnerSize 4 6 = 2 ∧ (matmulInner 4 3 1 2 6).2.1 = ⟨Tag.PAD 2, 10⟩ ∧ (matmulInner 4 3 1 2 6).2.2 = ⟨Tag.PAD 2, 10⟩ := by decide
example : simdReduceAll 2 (List.zipWith (· * ·)) (· * ·) (1 : Int) ⟨[2,2], false, [1,2,3,4]⟩ = some 24 := by decide
example : simdReduceAxis 4 (List.zipWith (· - ·)) (· - ·) (none : Option Int) ⟨[2,3], false, [1,2,3,4,5,6]⟩ 0 = some [-3,-3,-3]
    ∧ simdReduceAxis 4 (List.zipWith (· + ·)) (· + ·) (some (0 : Int)) ⟨[2,3], false, [1,2,3,4,5,6]⟩ (-2) = some [5,7,9] := by decide
example : simdReduceAll 4 (List.zipWith (· + ·)) (· + ·) (0 : Int) ⟨[2,5], false, [1,2,3,4,5,6,7,8,9,10]⟩ = some 55 := by decide
example : simdReduceAxis 4 (List.zipWith (· + ·)) (· + ·) (some (0 : Int)) ⟨[2,3,2], false, [1,2,3,4,5,6,7,8,9,10,11,12]⟩ 1 = some [9,12,27,30]
    ∧ scalarReduceAxis (· + ·) (⟨[2,3,2], false, [1,2,3,4,5,6,7,8,9,10,11,12]⟩ : NDA Int) 1 = some [9,12,27,30]
    ∧ (⟨[2,3,2], false, [1,2,3,4,5,6,7,8,9,10,11,12]⟩ : NDA Int).WF ∧ Pos [2,3,2] :=
  ⟨by decide, by decide, by simp [NDA.WF, prod], by decide⟩
example : simdReduceAxisK 2 (List.zipWith (· * ·)) (· * ·) (some (1 : Int)) ⟨[2,3,2], false, [1,2,3,4,5,6,7,8,9,10,11,12]⟩ (-3) false
      = some ([3,2], [7,16,27,40,55,72])
    ∧ scalarReduceAxisK (· * ·) (⟨[2,3,2], false, [1,2,3,4,5,6,7,8,9,10,11,12]⟩ : NDA Int) 0 false = some [7,16,27,40,55,72]
    ∧ reduceOutShape [2,3,2] 0 false = [3,2] ∧ normOutShape [3,2] 0 false = [1,3,2] := by decide
example : axisCell (· + ·) ([1,2,3,4,5,6,7,8,9,10,11,12] : List Int) 3 2 3 = some 30 := by decide
example : simdOuter 4 (List.zipWith (· + ·)) (· + ·) [10,20] [1,2,3,4,5,6] [2,6] [2] [6] (List.replicate 12 (0 : Int))
      = some [11,12,13,14,15,16,21,22,23,24,25,26]
    ∧ scalarOuter (· + ·) (⟨[2], false, [10,20]⟩ : NDA Int) ⟨[6], false, [1,2,3,4,5,6]⟩ = some [11,12,13,14,15,16,21,22,23,24,25,26] := by decide
example : (outerAt 4 [2,3,6] [2] [3,6] 9).1 = ⟨Tag.PAD 2, 28⟩ ∧ (outerAt 4 [2,3,6] [2] [3,6] 9).2.1.off = (28 + 1) / 18
    ∧ (outerAt 4 [2,3,6] [2] [3,6] 9).2.2.off + 1 = (28 + 1) % 18 ∧ outerLen 4 (outerAt 4 [2,3,6] [2] [3,6] 9).1 = 2 := by decide
example : simdMatmul 4 (fun x y z => x * y + z) (· + ·) (0 : Int) [1,2,3,4,5,6, 7,8,9,10,11,12] [1,0,1,0,1,0, 2,2,2,2,2,2] 2 6 2 [0,0,0,0]
      = some [9, 42, 27, 114]
    ∧ scalarMatmul (· * ·) (· + ·) (0 : Int) [1,2,3,4,5,6, 7,8,9,10,11,12] [1,0,1,0,1,0, 2,2,2,2,2,2] 2 6 2 = some [9, 42, 27, 114]
    ∧ matmulRef (fun x y z => x * y + z) (· + ·) (0 : Int) 4 [1,2,3,4,5,6, 7,8,9,10,11,12] [1,0,1,0,1,0, 2,2,2,2,2,2] 2 6 2 = some [9, 42, 27, 114] := by decide +kernel
example : laneAccs (fun x y z => x * y + z) (0 : Int) 4 [1,2,3,4,5,6] [2,2,2,2,2,2] 2 = [12, 16, 6, 8]
    ∧ pchunk (0 : Int) 4 [1,2,3,4,5,6] 1 = [5,6,0,0] := by decide
example : simdEvalMatmulWith true 2 (fun x y z => x * y + z) (· * ·) (· + ·) (0 : Int) ⟨[2,3], true, [1,4,2,5,3,6]⟩ ⟨[3,2], false, [1,2,3,4,5,6]⟩ 2 3 2 [0,0,0,0]
      = some [22, 28, 49, 64]
    ∧ simdEvalMatmul 2 (fun x y z => x * y + z) (· * ·) (· + ·) (0 : Int) ⟨[2,3], false, [1,2,3,4,5,6]⟩ ⟨[3,2], true, [1,3,5,2,4,6]⟩ 2 3 2 [0,0,0,0]
      = some [22, 28, 49, 64]
    ∧ simdEvalMatmulWith false 2 (fun x y z => x * y + z) (· * ·) (· + ·) (0 : Int) ⟨[2,3], true, [1,2,3,4,5,6]⟩ ⟨[3,2], true, [1,2,3,4,5,6]⟩ 2 3 2 [0,0,0,0]
      = some [14, 32, 32, 77]
    ∧ simdEvalMatmul 2 (fun x y z => x * y + z) (· * ·) (· + ·) (0 : Int) ⟨[2,3], true, [1,2,3,4,5,6]⟩ ⟨[3,2], true, [1,2,3,4,5,6]⟩ 2 3 2 [0,0,0,0]
      = some [22, 49, 28, 64]
    ∧ scalarMatmulNDA (· * ·) (· + ·) (0 : Int) ⟨[2,3], true, [1,2,3,4,5,6]⟩ ⟨[3,2], true, [1,2,3,4,5,6]⟩ 2 3 2 = some [22, 49, 28, 64] := by decide +kernel

/-! ## integer element types (int8_t … uint64_t): the lane model of Simd/IntLanes.lean

  The one assumption is `packInt` (every lane of the packed instruction is the modular `IOp.lane`; the model file says which
  intrinsics that is about).  Everything else is proved: read as a number of `T` — signed or unsigned — a lane result is NumPy's
  wrap-around result; the scalar functor of the tail loops and of the default evaluator is the same function wherever
  C++ defines it; so the evaluator theorems above, instantiated at `BitVec w`, equal the scalar evaluator with
  NO lane-wise hypothesis left, and reductions are exact (modular `+` and `*` are commutative monoids). -/

/-- **one instruction serves `intN_t` and `uintN_t`**: a lane of padd / psub / pmullo, read as a number of `T`, is the exact
    result reduced modulo `2^w` into the range of `T` — NumPy's arithmetic in dtype `T`. -/
theorem intLane_eq_wrap (t : IntTy) (o : IOp) (a b : BitVec t.bits) :
    t.decode (o.lane a b) = t.wrap (o.exact (t.decode a) (t.decode b)) := by
  rw [lane_eq_encode t o a b, decode_encode]

/-- **`IntTy.wrap` is the wrap-around SPEC**: `wrap z` is representable in `T`, congruent to `z` modulo `2^w`, and the only
    such number. -/
theorem intWrap_spec (t : IntTy) (hb : 0 < t.bits) (z : Int) :
    t.InRange (t.wrap z) ∧ ((2 ^ t.bits : Nat) : Int) ∣ t.wrap z - z
      ∧ ∀ r, t.InRange r → ((2 ^ t.bits : Nat) : Int) ∣ r - z → r = t.wrap z :=
  ⟨wrap_inRange t z, wrap_dvd t z, fun r hr hd => (wrap_eq_self t hb r hr).symm.trans (wrap_eq_of_dvd t r z hd)⟩

/-- **scalar functor = lane operation wherever C++ defines it**: `static_cast<T>(t op u)` (operands promoted to `int` when
    narrower, exact result, conversion keeps the low `w` bits) is the modular lane operation whenever the promoted
    arithmetic does not overflow a signed type. -/
theorem intScalarOp_eq_lane (t : IntTy) (o : IOp) (a b r : BitVec t.bits) (h : scalarOp t o a b = some r) :
    r = o.lane a b := by
  obtain ⟨-, ⟨⟩⟩ := Option.ite_none_left_eq_some.mp h
  exact (lane_eq_encode t o a b).symm

/-- **where the scalar functor is defined for ALL operands**: add / subtract on types of at most 16 bits, multiply on
    types of at most 15 bits and on signed 16-bit, every op on unsigned types of at least 32 bits (modular by
    definition).  (Not: `uint16_t * uint16_t` — promoted to *signed* int — and signed 32/64-bit overflow, see the two
    `…_undefined` instances below.) -/
theorem intScalarOp_defined (t : IntTy) (hb : 0 < t.bits) (o : IOp) (a b : BitVec t.bits)
    (hd : (t.bits ≤ 16 ∧ o ≠ .mul) ∨ (o = .mul ∧ (t.bits ≤ 15 ∨ (t.bits ≤ 16 ∧ t.signed = true)))
          ∨ (t.signed = false ∧ 32 ≤ t.bits)) :
    scalarOp t o a b = some (o.lane a b) := by
  rcases hd with ⟨h16, hne⟩ | ⟨rfl, hm⟩ | ⟨hs, h32⟩
  · -- operands of at most 16 bits are promoted to `int`; their sum / difference is below `2^17` in absolute value
    have hp : t.promoted = ⟨32, true⟩ := by unfold IntTy.promoted; rw [if_pos (by omega)]
    have ha := inRange_bound t _ (decode_inRange t a) 16 h16
    have hbb := inRange_bound t _ (decode_inRange t b) 16 h16
    refine scalarOp_some t o a b (Or.inr (hp ▸ inRange32 _ ?_))
    cases o with
    | add => simp only [IOp.exact]; omega
    | sub => simp only [IOp.exact]; omega
    | mul => exact absurd rfl hne
  · -- both factors are at most `2^15` in absolute value (unsigned 16-bit reaches `65535² > 2^31`)
    have hp : t.promoted = ⟨32, true⟩ := by unfold IntTy.promoted; rw [if_pos (by omega)]
    have hbnd : ∀ c : BitVec t.bits, (t.decode c).natAbs ≤ 32768 := by
      intro c
      have hc := decode_inRange t c
      rcases hm with h15 | ⟨h16, hs⟩
      · have := inRange_bound t _ hc 15 h15; omega
      · unfold IntTy.InRange at hc
        rw [if_pos hs] at hc
        have h2 : 2 ^ (t.bits - 1) ≤ 2 ^ 15 := Nat.pow_le_pow_right (by decide) (Nat.sub_le_of_le_add h16)
        rw [← natCast_two_pow] at hc; omega
    have hab : (t.decode a * t.decode b).natAbs ≤ 32768 * 32768 := by
      rw [Int.natAbs_mul]; exact Nat.mul_le_mul (hbnd a) (hbnd b)
    refine scalarOp_some t .mul a b (Or.inr (hp ▸ inRange32 _ ?_))
    simp only [IOp.exact]; omega
  · -- unsigned types of at least 32 bits are not promoted to a signed type: modular by definition
    exact scalarOp_some t o a b (Or.inl (by rw [IntTy.promoted, if_neg (by omega)]; exact hs))

/-- `uint16_t(65535) * uint16_t(65535)`: both operands are promoted to (signed) `int`, the product 4294836225 overflows it -/
theorem intScalarOp_u16_mul_undefined : scalarOp ⟨16, false⟩ .mul 65535#16 65535#16 = none := by decide

theorem intScalarOp_i32_add_undefined : scalarOp ⟨32, true⟩ .add 2147483647#32 1#32 = none := by decide

/-- the packed integer instruction of the model is lane-wise by definition (this IS the assumption about the intrinsic) -/
theorem packInt_laneWise (w lanes : Nat) (o : IOp) : LaneWise2 lanes (packInt (w := w) o) o.lane :=
  fun _ _ _ _ => rfl

/-- **integer binary, same shape: SIMD = scalar evaluator** for every width, op, shape with positive extents, lane count and
    either layout — no hypothesis on the packed op left. -/
theorem simdEvalBinarySame_int_eq_scalar (w lanes : Nat) (hl : 0 < lanes) (o : IOp)
    (a b : NDA (BitVec w)) (hwa : a.WF) (hwb : b.WF) (hsh : b.shape = a.shape) (hs : Pos a.shape)
    (out : List (BitVec w)) (ho : out.length = prod a.shape) :
    simdEvalBinarySame lanes (packInt o) o.lane a b out = scalarBinarySame o.lane a b :=
  simdEvalBinarySame_eq_scalar lanes hl (packInt o) o.lane (packInt_laneWise w lanes o) a b hwa hwb hsh out ho

theorem simdEvalBinary2d_int_eq_scalar (w N : Nat) (hN : 0 < N) (o : IOp) (a b : NDA (BitVec w)) (lr lc rr rc : Nat)
    (ha : a.shape = [lr, lc]) (hb : b.shape = [rr, rc]) (hwa : a.WF) (hwb : b.WF)
    (hlr : 0 < lr) (hlc : 0 < lc) (hrr : 0 < rr) (hrc : 0 < rc)
    (hl : OperandOK (max lr rr) (max lc rc) lr lc) (hr : OperandOK (max lr rr) (max lc rc) rr rc)
    (out : List (BitVec w)) (ho : out.length = max lr rr * max lc rc) :
    simdEvalBinary2d N (packInt o) o.lane a b lr lc rr rc (max lc rc) out = scalarBinary2d o.lane a b lr lc rr rc :=
  simdEvalBinary2d_eq_scalar N hN (packInt o) o.lane (packInt_laneWise w N o) a b lr lc rr rc ha hb hwa hwb hlr hlc hrr hl hr out ho

theorem simdEvalOuter_int_eq_scalar (w N : Nat) (hN : 0 < N) (o : IOp) (a b : NDA (BitVec w)) (hwa : a.WF) (hwb : b.WF)
    (hsa : Pos a.shape) (hsb : Pos b.shape) (hne : b.shape ≠ [])
    (out : List (BitVec w)) (ho : out.length = prod (a.shape ++ b.shape)) :
    simdEvalOuter N (packInt o) o.lane a b out = scalarOuter o.lane a b :=
  simdEvalOuter_eq_scalar N hN (packInt o) o.lane (packInt_laneWise w N o) a b hwa hwb hsb hne out ho

/-- modular addition / multiplication with `view.op.identity()` is a commutative monoid on bit patterns -/
theorem intIdentity_monoid (w : Nat) (o : IOp) (e : BitVec w) (h : o.identity = some e) : IsCommMonoid (o.lane (w := w)) e := by
  cases o with
  | add => cases h; exact ⟨BitVec.add_assoc, BitVec.add_comm, BitVec.zero_add⟩
  | mul => cases h; exact ⟨BitVec.mul_assoc, BitVec.mul_comm, BitVec.one_mul⟩
  | sub => cases h

/-- **integer reduction with `axis = None`: SIMD = scalar left fold, exactly** (no re-association error: the lanes are
    elements of a commutative monoid) -/
theorem simdEvalReduceAll_int_eq_fold (w lanes : Nat) (hl : 0 < lanes) (o : IOp) (a : NDA (BitVec w)) (hw : a.WF)
    (hs : Pos a.shape) :
    simdEvalReduceAll lanes (packInt o) o.lane o.identity a = scalarReduceAll o.lane a :=
  simdEvalReduceAll_eq_fold lanes hl (packInt o) o.lane o.identity (intIdentity_monoid w o) (packInt_laneWise w lanes o) a hw hs

theorem simdReduceAxisK_int_eq_scalar (w N : Nat) (hN : 0 < N) (o : IOp) (a : NDA (BitVec w)) (hw : a.WF) (hs : Pos a.shape)
    (axis : Nat) (hlt : axis < a.shape.length)
    (axisI : Int) (hax : axisI = (axis : Int) ∨ axisI = (axis : Int) - (a.shape.length : Int)) (keep : Bool) :
    simdReduceAxisK N (packInt o) o.lane o.identity a axisI keep
      = (scalarReduceAxisK o.lane a axis keep).map (fun b => (reduceOutShape a.shape axis keep, b)) :=
  simdReduceAxisK_eq_scalar N hN (packInt o) o.lane o.identity (intIdentity_monoid w o) (packInt_laneWise w N o) a hw hs axis hlt axisI hax keep

/-- **integer matmul: SIMD = Σ_k a[m,k]·b[k,n] in modular arithmetic, exactly**: on integer lanes `fmadd` is `mullo` then `add`
    (x86 SSE; `(a * b) + c` for the vector extensions), modular `+` is a commutative monoid, so the lane-strided
    association of `eval_matmul` and the scalar evaluator's left-to-right sum agree bit for bit: the hypotheses of
    `simdEvalMatmul_eq_scalar` hold here, which they do not in floating point. -/
theorem simdEvalMatmul_int_eq_scalar (w N : Nat) (hN : 0 < N) (a b : NDA (BitVec w)) (M K Nn : Nat)
    (ha : a.shape = [M, K]) (hb : b.shape = [K, Nn]) (hwa : a.WF) (hwb : b.WF) (hK : 0 < K)
    (hra : a.colMajor = false) (hcb : b.colMajor = true) (out : List (BitVec w)) (ho : out.length = M * Nn) :
    simdEvalMatmul N (fun x y z => x * y + z) (· * ·) (· + ·) (0 : BitVec w) a b M K Nn out
      = scalarMatmulNDA (· * ·) (· + ·) (0 : BitVec w) a b M K Nn :=
  simdEvalMatmul_eq_scalar N hN (fun x y z => x * y + z) (· * ·) (· + ·) (0 : BitVec w)
    ⟨BitVec.add_assoc, BitVec.add_comm, BitVec.zero_add⟩ (fun _ _ _ => rfl) (by simp) a b M K Nn ha hb hwa hwb hK hcb out ho

/-- **a saturating instruction is not lane-wise** (what `_mm_subs_epi16` in place of `_mm_sub_epi16` computes):
    30000 − (−10000) saturates to 32767, the scalar functor / NumPy give −25536 -/
theorem satSubS_not_laneWise : ¬ LaneWise2 8 (List.zipWith (satSubS (w := 16))) IOp.sub.lane := by
  intro h
  have := h (List.replicate 8 (BitVec.ofInt 16 30000)) (List.replicate 8 (BitVec.ofInt 16 (-10000))) rfl rfl
  revert this; decide

/-- a saturating instruction is not lane-wise, unsigned case (`_mm256_adds_epu8` in place of `_mm256_add_epi8`): 200 + 100
    saturates to 255, wrap-around gives 44 -/
theorem satAddU_not_laneWise : ¬ LaneWise2 32 (List.zipWith (satAddU (w := 8))) IOp.add.lane := by
  intro h
  have := h (List.replicate 32 200#8) (List.replicate 32 100#8) rfl rfl
  revert this; decide

/-- **regression witness for the repaired defect vector-extension.uninitialised-lanes**: declared with
    `vector_size(bit_width / sizeof(T))` BYTES, the register type of the vector-extension contexts had, for `vector_128` and
    `int16_t`, 32 lanes of which 8 were ever loaded (`vecExtTypeLanes` is the lane count of that declaration); the other 24
    were indeterminate and were multiplied / added with the rest (UBSan: signed integer overflow on values that are not in
    the input; results unaffected, only the filled lanes are stored).  Repaired by fix commit 6098ed3,
    `vector_size(bit_width / 8)`. -/
theorem vectorExtension_lanes_counterexample :
    vecExtTypeLanes 128 2 = 32 ∧ vecExtUsedLanes 128 2 = 8 ∧ vecExtTypeLanes 512 1 = 512 ∧ vecExtUsedLanes 512 1 = 64 := by decide

/-- a register type declared with `vector_size(bit_width / sizeof(T))` has exactly the lanes in use only for 8-byte element
    types (`double`, `int64_t`, `uint64_t`) -/
theorem vectorExtension_lanes_exact_iff :
    ∀ bw ∈ [128, 256, 512], ∀ sz ∈ [1, 2, 4, 8], (vecExtTypeLanes bw sz = vecExtUsedLanes bw sz ↔ sz = 8) := by decide

/-- **regression witness for the repaired defect vector-extension.signed-lane-overflow**: a vector-extension lane that
    computes in `T` itself (`vecExtLane`), where the scalar functor computes in the promoted type: `int16_t(32767) + 1` is
    defined for the scalar evaluator (−32768, as NumPy) and signed overflow — undefined — on such a `vector_128` lane (values
    agree in practice: g++ wraps).  Repaired by fix commit 98bc9d0: the lanes compute in the unsigned type of the same
    width, which is `IOp.lane`. -/
theorem vecExtLane_signed_overflow_counterexample :
    vecExtLane ⟨16, true⟩ .add 32767#16 1#16 = none
      ∧ scalarOp ⟨16, true⟩ .add 32767#16 1#16 = some (BitVec.ofInt 16 (-32768)) := by decide

/-- wherever the lane `vecExtLane` computing in `T` is defined it is the modular lane operation; unsigned lanes always are -/
theorem vecExtLane_eq_lane (t : IntTy) (o : IOp) (a b r : BitVec t.bits) (h : vecExtLane t o a b = some r) :
    r = o.lane a b := by
  obtain ⟨-, ⟨⟩⟩ := Option.ite_none_left_eq_some.mp h
  rfl

theorem vecExtLane_unsigned (t : IntTy) (hs : t.signed = false) (o : IOp) (a b : BitVec t.bits) :
    vecExtLane t o a b = some (o.lane a b) := by
  unfold vecExtLane; simp [hs]

example : vecExtLane ⟨16, true⟩ .add 32766#16 1#16 = some 32767#16 := by decide
example : (⟨16, true⟩ : IntTy).decode (IOp.sub.lane (BitVec.ofInt 16 30000) (BitVec.ofInt 16 (-10000))) = -25536 := by decide
example : (⟨16, false⟩ : IntTy).decode (IOp.sub.lane 40000#16 30000#16) = 10000 := by decide
example : (⟨16, false⟩ : IntTy).wrap (40000 * 3) = 54464 ∧ (⟨8, true⟩ : IntTy).wrap (100 + 100) = -56 := by decide
example : (⟨16, true⟩ : IntTy).InRange (-32768) ∧ ¬ (⟨16, true⟩ : IntTy).InRange 32768 := by decide
example : scalarOp ⟨16, true⟩ .sub (BitVec.ofInt 16 30000) (BitVec.ofInt 16 (-10000)) = some (BitVec.ofInt 16 (-25536)) := by decide
example : scalarOp ⟨8, false⟩ .mul 200#8 200#8 = some 64#8 := by decide
example : simdEvalBinarySame 8 (packInt .sub) IOp.sub.lane
    ⟨[9], false, (List.replicate 9 (BitVec.ofInt 16 30000))⟩ ⟨[9], false, (List.replicate 9 (BitVec.ofInt 16 (-10000)))⟩
    (List.replicate 9 0) = some (List.replicate 9 (BitVec.ofInt 16 (-25536))) := by decide
example : simdEvalReduceAll 4 (packInt .mul) IOp.mul.lane IOp.mul.identity ⟨[5], false, [65536#32, 65537#32, 3#32, 4#32, 5#32]⟩
    = some 3932160#32 := by decide
example : (IOp.sub.identity (w := 8)) = none ∧ (IOp.add.identity (w := 8)) = some 0 := by decide
example : satSubS (BitVec.ofInt 16 30000) (BitVec.ofInt 16 (-10000)) = BitVec.ofInt 16 32767 := by decide
example : satAddU 200#8 100#8 = 255#8 := by decide
example : simdEvalMatmul 8 (fun x y z => x * y + z) (· * ·) (· + ·) (0 : BitVec 16)
    ⟨[1,9], false, (List.replicate 9 (BitVec.ofInt 16 4000))⟩ ⟨[9,1], true, (List.replicate 9 (BitVec.ofInt 16 1000))⟩ 1 9 1 [0]
    = some [BitVec.ofInt 16 (9 * 4000 * 1000)] := by decide

/-! ## unary lanes at the element type's own precision (floating point)

  The packed loop applies `op.eval` to whole registers, the tail loop the scalar functor to single elements: they are the
  SAME function exactly when every lane of `op.eval` is the scalar functor.  For the vector-extension contexts
  `op.eval` is literally a loop over the lanes applying one builtin selected from the element type
  (Simd/FloatLanes.lean); for the intrinsic contexts that is the assumption. -/

/-- **a lane loop is lane-wise for `f` iff the function it applies to a lane IS `f`** (all lane counts > 0): the packed
    loop and the tail loop apply the same function, and nothing weaker suffices — one value on which the lane function
    differs (2.0000000001 through `ceilf`) already breaks `LaneWise1`. -/
theorem packLanes_laneWise_iff (lanes : Nat) (hl : 0 < lanes) (g f : α → β) :
    LaneWise1 lanes (packLanes g) f ↔ ∀ x, g x = f x := by
  constructor
  · intro h x
    have h1 := h (List.replicate lanes x) (by simp)
    simp only [packLanes, List.map_replicate] at h1
    rcases List.replicate_inj.1 h1 with ⟨_, h0 | h2⟩
    · omega
    · exact h2
  · intro h xs _
    simp only [packLanes]
    exact List.map_congr_left (fun x _ => h x)

/-- **own precision ⇒ lane-wise**: a register of doubles through the double builtin, a register of floats through the
    single-precision builtin (`selectsF32` = the test `is_same_v<data_t,float>` of the C++ source), is the scalar
    functor of that element type on every lane. -/
theorem vecExtUnary_ownPrecision_laneWise {F D : Type} (b : Builtin F D) (lanes : Nat) :
    LaneWise1 lanes (vecExtUnaryD b (selectsF32 false)) b.fnD ∧ LaneWise1 lanes (vecExtUnaryF b (selectsF32 true)) b.fnF :=
  ⟨fun _ _ => rfl, fun _ _ => rfl⟩

/-- **double lanes through the single-precision builtin** (`is_floating_point_v<data_t>` in place of
    `is_same_v<data_t,float>`) are lane-wise iff narrowing the argument is invisible to the builtin on EVERY double —
    the exact condition under which such a selection goes unnoticed. -/
theorem vecExtUnaryD_narrowed_laneWise_iff {F D : Type} (b : Builtin F D) (lanes : Nat) (hl : 0 < lanes) :
    LaneWise1 lanes (vecExtUnaryD b true) b.fnD ↔ ∀ x, b.widen (b.fnF (b.narrow x)) = b.fnD x := by
  unfold vecExtUnaryD
  rw [packLanes_laneWise_iff lanes hl]
  simp [Builtin.laneD]

/-- float lanes through the double builtin are lane-wise iff computing in double and rounding the result is invisible -/
theorem vecExtUnaryF_widened_laneWise_iff {F D : Type} (b : Builtin F D) (lanes : Nat) (hl : 0 < lanes) :
    LaneWise1 lanes (vecExtUnaryF b false) b.fnF ↔ ∀ x, b.narrow (b.fnD (b.widen x)) = b.fnF x := by
  unfold vecExtUnaryF
  rw [packLanes_laneWise_iff lanes hl]
  simp [Builtin.laneF]

/-- **`ceil` of a narrowed lane is not lane-wise** (exact fixed-point instance: doubles = multiples of 1/4, floats =
    multiples of 1/2): 2.25 narrows to 2.0, whose ceiling is 2 where the scalar functor gives 3 — the shape of
    `ceilf(2.0000000001) = 2`. -/
theorem vecExtCeil_narrowed_not_laneWise : ¬ LaneWise1 2 (vecExtUnaryD fxCeil true) fxCeil.fnD := by
  intro h
  have := h [9, 9] rfl
  revert this; decide

/-- **vector-extension unary on doubles, `operator()` = scalar evaluator**: every shape with positive extents, lane count,
    either layout, every builtin pair — no lane-wise hypothesis left (the lane IS the builtin of the element type). -/
theorem simdEvalUnary_vecExtD_eq_scalar {F D : Type} (b : Builtin F D) (lanes : Nat) (hl : 0 < lanes)
    (a : NDA D) (hw : a.WF) (hs : Pos a.shape) (out : List D) (ho : out.length = prod a.shape) :
    simdEvalUnary lanes (vecExtUnaryD b (selectsF32 false)) b.fnD a out = scalarUnary b.fnD a :=
  simdEvalUnary_eq_scalar lanes hl _ b.fnD (vecExtUnary_ownPrecision_laneWise b lanes).1 a hw out ho

theorem simdEvalUnary_vecExtF_eq_scalar {F D : Type} (b : Builtin F D) (lanes : Nat) (hl : 0 < lanes)
    (a : NDA F) (hw : a.WF) (hs : Pos a.shape) (out : List F) (ho : out.length = prod a.shape) :
    simdEvalUnary lanes (vecExtUnaryF b (selectsF32 true)) b.fnF a out = scalarUnary b.fnF a :=
  simdEvalUnary_eq_scalar lanes hl _ b.fnF (vecExtUnary_ownPrecision_laneWise b lanes).2 a hw out ho

example : LaneWise1 4 (packLanes (fun n : Int => n + 1)) (· + 1) := (packLanes_laneWise_iff 4 (by decide) _ _).2 (fun _ => rfl)
example : fxCeil.laneD false 9 = 12 ∧ fxCeil.laneD true 9 = 8 ∧ fxCeil.narrow 9 = 4 := by decide
example : fxCeil.laneF true 5 = 6 ∧ fxCeil.laneF false 5 = 6 := by decide
example : ¬ (∀ x, fxCeil.widen (fxCeil.fnF (fxCeil.narrow x)) = fxCeil.fnD x) :=
  fun h => absurd (h 9) (by decide)
example : ∀ x ∈ [(-7 : Int), -2, -1, 0, 1, 3, 5, 8], fxCeil.narrow (fxCeil.fnD (fxCeil.widen x)) = fxCeil.fnF x := by decide
example : simdEvalUnary 2 (vecExtUnaryD fxCeil (selectsF32 false)) fxCeil.fnD ⟨[5], false, [9, -9, 8, 1, 11]⟩ (List.replicate 5 0)
    = some [12, -8, 8, 4, 12] := by decide
example : simdEvalUnary 2 (vecExtUnaryD fxCeil true) fxCeil.fnD ⟨[5], false, [9, -9, 8, 1, 11]⟩ (List.replicate 5 0)
    = some [8, -8, 8, 0, 12] := by decide     -- packed lanes narrowed (9 ↦ 8, 1 ↦ 0), the tail element 11 is not

end NmVerif.Props.C12
