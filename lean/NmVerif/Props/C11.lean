import NmVerif.Static
import NmVerif.StaticMore
import NmVerif.StaticEval
import NmVerif.StaticGen
import NmVerif.Lemmas.StaticOps
/-
  C11 — statically inferred shape, size and bounds agree with every run-time instance.

  `SInfo` (NmVerif.Static) is the compile-time knowledge the library attaches to an array / view TYPE; `i.γ s` says that
  the run-time shape `s` is an instance of it.  For every modelled view function the library's metafunctions compute
  the knowledge of the result type from the knowledge of the operand types (`transferX`).  The theorems below say:

    * `traits_sound`        whatever the five traits report about a type is true of every instance:
                            fixed shape / dim / size are exact, bounded dim / size are upper bounds;
    * `X_static_sound`      each transfer function is sound: if the operand shapes are instances of the operand
                            knowledge and the operation (NumPy reference shape function) yields `t`, then `t` is an
                            instance of the inferred knowledge — for all shapes, ranks and arguments, of positive
                            extents (`Pos`) where shapes are broadcast, multiplied or reduced;
    * `result_buffer_fits`  consequently a buffer of `bounded_size` (or `fixed_size`) elements holds the whole result;
    * `static_sound`        the same for every tree of views (`Prog`): the knowledge the composed transfer functions infer
                            is true of the shape the composed reference functions compute;
    * `eval_result_buffer_fits`  the container the resolver `default_type_resolver_t` of array/eval.hpp (`resolveEval`) chooses
                            from that knowledge admits every instance; the OLDER resolver, the one a bare `array::eval(view)`
                            takes, reuses the operand's container, which does so only where it `covers` the knowledge
                            (`old_eval_result_buffer_fits`, `old_eval_counterexample`).
    The transfer functions are those of /repo with its C11 repairs in place (broadcast_shape, shape_take, shape_squeeze on
    clipped shapes; the sizes of `where`): no proof needs a side condition on the operand KINDS.  One is still CARRIED,
    unused: `whereTripled … = false`, by `where_static_sound` and by the `where_` clause of `Prog.ok`.
-/
namespace NmVerif.Props.C11
open NmVerif NmVerif.Static

/-- What `meta::fixed_shape_v / fixed_dim_v / fixed_size_v / bounded_dim_v / bounded_size_v` report is true of every
    run-time instance of the type. -/
theorem traits_sound {i : SInfo} {s : Shape} (h : i.γ s) :
    (∀ l, i.fixedShape = some l → s = l) ∧
    (∀ k, i.fixedDim = some k → s.length = k) ∧
    (∀ k, i.boundedDim = some k → s.length ≤ k) ∧
    (∀ n, i.fixedSize = some n → prod s = n) ∧
    (∀ n, i.boundedSize = some n → prod s ≤ n) := by
  obtain ⟨sh, sz⟩ := i
  obtain ⟨hs, hz⟩ := h
  refine ⟨?_, fun k => len?_sound hs, ?_, ?_, fun n hn => bound?_sound hz ((boundedSize_eq _).symm.trans hn)⟩
  · intro l hl; cases sh <;> cases hl; exact hs
  · intro k hk
    cases sh with
    | boundedDim n => cases hk; exact hs
    | _ => exact Nat.le_of_eq (len?_sound hs hk)
  · intro n hn; cases sz <;> cases hn
    · exact hz
    · exact hz.1

example : (⟨.clipped [2, 3], .atMost 6⟩ : SInfo).γ [1, 3] := by decide
example : (⟨.clipped [2, 3], .atMost 6⟩ : SInfo).boundedSize = some 6 := rfl

/-- a result buffer of `bounded_size` elements (for a type with a fixed size that is the fixed size or, `SizeK.knownB`, a
    separate bound reported next to it) has room for every run-time instance: nothing is clipped. -/
theorem result_buffer_fits {i : SInfo} {s : Shape} {cap : Nat} (h : i.γ s) (hc : i.boundedSize = some cap) :
    prod s ≤ cap := (traits_sound h).2.2.2.2 cap hc

/-- the operand knowledge a view reads through `shape<true>` / `size<true>` is sound -/
theorem seen_static_sound {i : SInfo} {s : Shape} (h : i.γ s) : i.seen.γ s := seen_sound h

/-- admitted run-time values of a reshape target (may contain one `-1` when its values are run-time) -/
def targetOk : ArrK → List Int → Prop
  | .ct c, v => v = c.map Int.ofNat
  | .cl m, v => (∀ x ∈ v, 0 ≤ x) ∧ LeAll (v.map Int.toNat) m
  | .rt n, v => v.length = n
  | .rtv, _ => True
  | .bnd cap, v => v.length ≤ cap

theorem reshape_static_sound {i o : SInfo} {s t : Shape} {k : ArrK} {targ : List Int}
    (h : i.γ s) (hk : targetOk k targ) (hr : refReshape targ s = some t) (ho : transferReshape k i = some o) : o.γ t := by
  obtain ⟨hlen, hprod, hnn⟩ := refReshape_spec hr
  cases ho
  refine indexingInfo_sound ?_ (hprod ▸ (seen_sound h).2)
  cases k with
  | ct c =>
    cases (hk : targ = c.map Int.ofNat)
    rw [hnn fun x hx => let ⟨a, _, e⟩ := List.mem_map.mp hx; e ▸ Int.natCast_nonneg a]
    exact List.map_map.trans (List.map_id c)
  | cl m => exact hnn hk.1 ▸ hk.2
  | rt n => exact hlen.trans hk
  | rtv => trivial
  | bnd cap => exact Nat.le_trans (Nat.le_of_eq hlen) hk

example : refReshape [-1, 2] [2, 3] = some [3, 2] := rfl
example : transferReshape (.rt 2) ⟨.clipped [2, 3], .any⟩ = some ⟨.fixedDim 2, .atMost 6⟩ := rfl

theorem flatten_static_sound {i o : SInfo} {s : Shape} (h : i.γ s) (ho : transferFlatten i = some o) : o.γ (refFlatten s) := by
  have h2 := (seen_sound h).2
  have hz : i.seen.size.γ (prod (refFlatten s)) := (prod_refFlatten s).symm ▸ h2
  have key : ∀ {K : ArrK}, transferReshape K i = some o → K.toShapeK.γ (refFlatten s) → o.γ (refFlatten s) :=
    fun ho hK => by cases ho; exact indexingInfo_sound hK hz
  unfold transferFlatten at ho
  generalize i.seen.size = z at ho h2
  split at ho
  · exact key ho (congrArg (· :: []) h2)
  · exact key ho ⟨h2, trivial⟩
  · exact key ho rfl
  · exact key ho (congrArg (· :: []) h2.1)

example : transferFlatten ⟨.fixedDim 2, .atMost 6⟩ = some ⟨.clipped [6], .atMost 6⟩ := rfl

theorem broadcast_to_static_sound {i o : SInfo} {s t : Shape} {k : ArrK} {targ : List Nat}
    (hk : k.γ targ) (hr : refBroadcastTo targ s = some t) (ho : transferBroadcastTo k i = some o) : o.γ t := by
  cases (Option.ite_none_right_eq_some.mp hr).2
  cases ho
  exact indexing_product_sound (arrK_toShapeK_sound hk)

example : refBroadcastTo [2, 2, 3] [1, 3] = some [2, 2, 3] := rfl

theorem squeeze_static_sound {i o : SInfo} {s : Shape} (h : i.γ s)
    (ho : transferSqueeze i = some o) : o.γ (refSqueeze s) := by
  have hs := seen_sound h
  have hl : (refSqueeze s).length ≤ s.length := List.length_filter_le _ _
  have bound : ∀ {n}, s.length ≤ n → (if n > 0 then ShapeK.boundedDim n else .dyn).γ (refSqueeze s) := fun hn => by
    split
    · exact Nat.le_trans hl hn
    · trivial
  cases ho
  refine indexingInfo_sound ?_ ((Shape.prod_filter_ne_one (fun e => decide (e ≠ 1)) (by simp) s).symm ▸ hs.2)
  obtain ⟨sh, sz⟩ := i
  have hL := lenK_sound hs.1
  cases sh with
  | const l => exact congrArg refSqueeze hs.1
  | clipped b | fixedDim k => exact bound (Nat.le_of_eq hL)
  | boundedDim k => exact bound hL
  | dyn => trivial

/-- regression instance of the repaired defect C11.squeeze-clipped (clipped maxima [2,1,3], run-time shape [1,1,2]) -/
example : transferSqueeze ⟨.clipped [2, 1, 3], .atMost 6⟩ = some ⟨.boundedDim 3, .atMost 6⟩ ∧
    (⟨.boundedDim 3, .atMost 6⟩ : SInfo).γ (refSqueeze [1, 1, 2]) := ⟨rfl, by decide⟩

theorem ufunc1_static_sound {i o : SInfo} {s : Shape} (h : i.γ s) (ho : transferUfunc1 i = some o) : o.γ s := by
  cases ho
  exact ufuncInfo_sound (seen_sound h).1 (seen_sound h).2

theorem tile_static_sound {i o : SInfo} {s : Shape} {k : ArrK} {reps : List Nat}
    (h : i.γ s) (hk : k.γ reps) (ho : transferTile k i = some o) : o.γ (refTile reps s) := by
  have hs := (seen_sound h).1
  have hlen : (tileLenK i.shape.lenK k.lenK).toShapeK.γ (refTile reps s) :=
    toShapeK_of_lenK (length_refTile reps s ▸ tileLenK_sound (lenK_sound hs) (arrK_lenK_sound hk))
  cases ho
  obtain ⟨sh, sz⟩ := i
  refine indexing_product_sound ?_
  cases sh with
  | const l =>
    cases k with
    | ct r => cases hs; cases hk; rfl
    | _ => exact hlen
  | _ => exact hlen

example : refTile [3, 1, 2] [2, 3] = [3, 2, 6] := rfl
/-- repetitions in a `static_vector<int,4>` (bound = capacity) over a rank-2 operand: the result rank is bounded by 4, whatever
    the run-time length (3, below the capacity, or 4, at it) -/
example : transferTile (.bnd 4) ⟨.fixedDim 2, .any⟩ = some ⟨.boundedDim 4, .any⟩ ∧ (ArrK.bnd 4).γ [2, 2, 2] ∧ (ArrK.bnd 4).γ [2, 2, 2, 2] ∧
    (⟨.boundedDim 4, .any⟩ : SInfo).γ (refTile [2, 2, 2] [2, 3]) ∧ (⟨.boundedDim 4, .any⟩ : SInfo).γ (refTile [2, 2, 2, 2] [2, 3]) :=
  ⟨rfl, (by decide : 3 ≤ 4), Nat.le_refl 4, by decide, by decide⟩
example : transferBroadcastTo (.bnd 4) ⟨.fixedDim 2, .any⟩ = some ⟨.boundedDim 4, .any⟩ ∧
    transferReshape (.bnd 3) ⟨.clipped [2, 3], .atMost 6⟩ = some ⟨.boundedDim 3, .atMost 6⟩ ∧
    transferPad (.bnd 5) ⟨.const [2, 3], .known 6⟩ = some ⟨.fixedDim 2, .any⟩ ∧
    transferTranspose (some (.bnd 3)) ⟨.boundedDim 3, .any⟩ = some ⟨.boundedDim 3, .any⟩ := ⟨rfl, rfl, rfl, rfl⟩
example : transferTile (.rt 3) ⟨.boundedDim 2, .any⟩ = some ⟨.boundedDim 3, .any⟩ := rfl

/-- admitted run-time values of the `axes` argument of transpose -/
def axesOk : Option ArrK → Option (List Nat) → Prop
  | none, v => v = none
  | some k, some v => k.γ v
  | some _, none => False

theorem transpose_static_sound {i o : SInfo} {s t : Shape} {k : Option ArrK} {axes : Option (List Nat)}
    (h : i.γ s) (hk : axesOk k axes) (hr : refTranspose axes s = some t) (ho : transferTranspose k i = some o) : o.γ t := by
  have ⟨hsh, hz⟩ := seen_sound h
  obtain ⟨hlen, hprod, hmono⟩ := refTranspose_spec hr
  obtain ⟨d, hd, rfl⟩ := Option.map_eq_some_iff.mp ho
  refine indexingInfo_sound ?_ (hprod ▸ hz)
  clear ho hz
  generalize i.seen.shape = sh at hd hsh
  split at hd
  · cases hk; exact like_map_sound hsh rfl hr hmono hd
  · cases hk; exact like_map_sound hsh rfl hr hmono hd
  · cases axes <;> cases hk; exact like_map_sound hsh rfl hr hmono hd
  · cases axes <;> cases hk; exact like_map_sound hsh rfl hr hmono hd
  -- the other arms: a run-time index container, of which only the rank is known
  all_goals cases hd; exact lenK_toShapeK_of_length_eq hsh hlen

example : refTranspose (some [2, 0, 1]) [2, 3, 4] = some [4, 2, 3] := rfl
example : transferTranspose (some (.ct [1, 0])) ⟨.clipped [2, 3], .any⟩ = some ⟨.clipped [3, 2], .atMost 6⟩ := rfl

theorem expand_dims_static_sound {i o : SInfo} {s t : Shape} {k : AxisK} {axes : List Nat}
    (h : i.γ s) (hk : k.γ axes) (hr : refExpandDims axes s = some t) (ho : transferExpandDims k i = some o) : o.γ t := by
  have hs := seen_sound h
  obtain ⟨hlen, hprod⟩ := refExpandDims_spec hr
  have hz : i.seen.size.γ (prod t) := hprod ▸ hs.2
  have rank : ((i.shape.lenK.add axes.length).toShapeK).γ t :=
    toShapeK_of_lenK (hlen ▸ lenK_add_sound _ (lenK_sound hs.1))
  revert ho
  fun_cases transferExpandDims k i with
  | case1 => exact hk.elim
  | case2 _ x l hl =>
    cases (hk : axes = [x])
    intro ho
    obtain ⟨r, hr', rfl⟩ := Option.map_eq_some_iff.mp ho
    cases ((hl ▸ hs.1 : (ShapeK.const l).γ s) : s = l)
    cases hr.symm.trans hr'
    exact indexingInfo_sound rfl hz
  | case3 | case5 => cases (hk : axes = _); rintro ⟨⟩; exact indexingInfo_sound rank hz
  | case4 | case6 => rintro ⟨⟩; exact indexingInfo_sound ((hk : axes.length = _) ▸ rank) hz

example : refExpandDims [0, 3] [2, 3] = some [1, 2, 3, 1] := rfl

/-- reductions (sum, prod, ... along axes): positive extents, the guard of the property -/
theorem reduce_static_sound {i o : SInfo} {s t : Shape} {k : AxisK} {axes : List Nat} {kd : Bool}
    (h : i.γ s) (hpos : Pos s) (hk : k.γ axes) (hr : refReduce axes kd s = some t) (ho : transferReduce k kd i = some o) : o.γ t :=
  map_sound ho (reduceShapeK_sound (seen_sound h).1 hpos hk hr)
    (reduceInfo_eq ▸ compressInfo_sound · h.2 (refReduce_spec hpos hr).2)

example : refReduce [0, 2] false [2, 3, 4] = some [3] := rfl
example : refReduce [1] true [2, 3, 4] = some [2, 1, 4] := rfl
example : transferReduce (.rts) false ⟨.boundedDim 3, .atMost 24⟩ = some ⟨.boundedDim 2, .atMost 24⟩ := rfl

/-- binary broadcasting view (`view::add(a, b)` ...), positive extents, every kind combination -/
theorem ufunc2_static_sound {i j o : SInfo} {a b t : Shape} (hi : i.γ a) (hj : j.γ b) (hpa : Pos a) (hpb : Pos b)
    (hr : refBroadcast a b = some t) (ho : transferUfunc2 i j = some o) : o.γ t :=
  map_sound ho (broadcastShapeK_sound hi.1 hj.1 hpa hpb hr) (ufuncInfo_sound · trivial)

example : refBroadcast [2, 1] [3] = some [2, 3] := rfl
example : transferUfunc2 ⟨.clipped [2, 1], .any⟩ ⟨.const [3], .known 3⟩ = some ⟨.clipped [2, 3], .atMost 6⟩ := rfl
/-- regression instance of the repaired defect C11.broadcast-clipped-vs-runtime: clipped [2,3] at (1,1) against a run-time (3,2) -/
example : transferUfunc2 ⟨.clipped [2, 3], .atMost 6⟩ ⟨.fixedDim 2, .any⟩ = some ⟨.fixedDim 2, .any⟩ ∧
    refBroadcast [1, 1] [3, 2] = some [3, 2] ∧ (⟨.fixedDim 2, .any⟩ : SInfo).γ [3, 2] := ⟨rfl, rfl, by decide⟩

/-! ### concatenate (decorator default: sizes are the sums of the operands' sizes) -/

/-- admitted run-time value of the axis argument of concatenate: `AxisK.γ1`, written out (the two unfold to the same term) -/
def concatAxisOk : AxisK → Option Nat → Prop
  | .none, v => v = none
  | .cts x, v => v = some x
  | .rts, v => v ≠ none
  | _, _ => False

theorem concat_static_sound {i j o : SInfo} {a b t : Shape} {k : AxisK} {axis : Option Nat}
    (hi : i.γ a) (hj : j.γ b) (hk : concatAxisOk k axis) (hr : refConcat axis a b = some t)
    (ho : transferConcat k i j = some o) : o.γ t := by
  revert ho
  fun_cases transferConcat k i j with
  | case1 | case2 => exact nofun
  | case3 =>
    refine fun ho => map_sound ho (concatShapeK_sound (seen_sound hi) (seen_sound hj) (hk : k.γ1 axis) hr) fun {d} hdγ => ⟨hdγ, ?_⟩
    cases d with
    | const l => exact congrArg prod hdγ
    | _ => exact (refConcat_spec hr).1 ▸ sumSizeK_sound hi.2 hj.2

example : refConcat (some 0) [2, 3] [1, 3] = some [3, 3] := rfl
example : transferConcat (.cts 0) ⟨.const [2, 3], .known 6⟩ ⟨.clipped [1, 3], .atMost 3⟩ = some ⟨.clipped [3, 3], .atMost 9⟩ := rfl

theorem repeat_static_sound {i o : SInfo} {s t : Shape} {rep : NumK} {r : Nat} {ax : AxisK} {axis : Option Nat}
    (h : i.γ s) (hr : rep.γ r) (hax : ax.γ1 axis) (href : refRepeat r axis s = some t)
    (ho : transferRepeat rep ax i = some o) : o.γ t :=
  map_sound ho (repeatShapeK_sound (seen_sound h).1 hr hax href) indexing_product_sound

example : refRepeat 2 (some 0) [2, 3] = some [4, 3] ∧ refRepeat 3 none [2, 3] = some [18] := ⟨rfl, rfl⟩
example : transferRepeat (.ct 2) (.cts 0) ⟨.clipped [2, 3], .atMost 6⟩ = some ⟨.clipped [4, 3], .atMost 12⟩ := rfl
example : transferRepeat .rt .none ⟨.const [2, 3], .known 6⟩ = some ⟨.fixedDim 1, .any⟩ := rfl

theorem pad_static_sound {i o : SInfo} {s t : Shape} {w : ArrK} {pw : List Nat}
    (h : i.γ s) (hk : w.γ pw) (href : refPad pw s = some t) (ho : transferPad w i = some o) : o.γ t :=
  map_sound ho (padShapeK_sound (seen_sound h).1 hk href) indexing_product_sound

example : refPad [1, 0, 0, 2] [2, 3] = some [3, 5] := rfl
example : transferPad (.cl [2, 1, 1, 3]) ⟨.const [2, 3], .known 6⟩ = some ⟨.clipped [5, 7], .atMost 35⟩ := rfl

/-- cumsum / cumprod: the result has the shape of the operand -/
theorem accumulate_static_sound {i o : SInfo} {s t : Shape} {axis : Nat}
    (h : i.γ s) (href : refAccumulate axis s = some t) (ho : transferAccumulate i = some o) : o.γ t := by
  cases (Option.ite_none_right_eq_some.mp href).2
  cases ho; exact accumulateInfo_sound (seen_sound h) h.2

example : transferAccumulate ⟨.clipped [2, 3], .any⟩ = some ⟨.clipped [2, 3], .any⟩ ∧
    transferAccumulate ⟨.fixedDim 2, .known 6⟩ = some ⟨.fixedDim 2, .known 6⟩ := ⟨rfl, rfl⟩

theorem roll_static_sound {i o : SInfo} {s t : Shape} {shift : NumK} {ax : AxisK} {axis : Option Nat}
    (h : i.γ s) (href : refRoll axis s = some t) (ho : transferRoll shift ax i = some o) : o.γ t := by
  cases refRoll_eq href
  cases ax with
  | none =>
    -- flatten, roll along axis 0, reshape to the operand's shape
    obtain ⟨f, hf, rfl⟩ := Option.map_eq_some_iff.mp ho
    have hr := seen_sound (rollAxisInfo_sound shift.isCt (flatten_static_sound h hf))
    exact indexingInfo_sound (seen_sound h).1 (prod_refFlatten s ▸ hr.2)
  | cts x | rts => cases ho; exact rollAxisInfo_sound _ h
  | ctt c | rt n => cases ho

example : transferRoll .rt .none ⟨.clipped [2, 3], .atMost 6⟩ = some ⟨.clipped [2, 3], .atMost 6⟩ ∧
    transferRoll (.ct 1) (.cts 0) ⟨.clipped [2, 3], .atMost 6⟩ = some ⟨.fixedDim 2, .atMost 6⟩ := ⟨rfl, rfl⟩

theorem flip_static_sound {i o : SInfo} {s t : Shape} {axis : Option Nat}
    (h : i.γ s) (href : refFlip axis s = some t) (ho : transferFlip i = some o) : o.γ t := by
  cases refRoll_eq href
  exact map_sound ho (sliceShapeK_sound (seen_sound h).1 (Nat.add_zero _)) indexing_product_sound

example : transferFlip ⟨.const [2, 3], .known 6⟩ = some ⟨.fixedDim 2, .any⟩ := rfl

theorem slice_static_sound {i o : SInfo} {s t : Shape} {es : List SlE}
    (h : i.γ s) (href : refSlice es s = some t) (ho : transferSlice es i = some o) : o.γ t :=
  map_sound ho (sliceShapeK_sound (seen_sound h).1 (refSlice_length href)) indexing_product_sound

example : refSlice [.idx 0, .ell] [2, 3] = some [3] ∧ refSlice [.ell, .rng 0 1] [2, 3] = some [2, 1] := ⟨rfl, rfl⟩
example : transferSlice [.idx 0, .ell] ⟨.boundedDim 3, .any⟩ = some ⟨.boundedDim 3, .any⟩ ∧
    transferSlice [.idx 0, .ell] ⟨.clipped [2, 3], .atMost 6⟩ = some ⟨.fixedDim 1, .any⟩ := ⟨rfl, rfl⟩

/-- the admitted run-time (source, destination) of a moveaxis with compile-time arguments are those constants -/
def moveArgsOk : Option (Nat × Nat) → Nat → Nat → Prop
  | some (a, b), src, dst => src = a ∧ dst = b
  | none, _, _ => True

theorem moveaxis_static_sound {i o : SInfo} {s t : Shape} {ct : Option (Nat × Nat)} {src dst : Nat}
    (h : i.γ s) (hk : moveArgsOk ct src dst) (href : refMoveaxis src dst s = some t)
    (ho : transferMoveaxis ct i = some o) : o.γ t := by
  replace href := (Option.ite_none_right_eq_some.mp href).2
  have hs := (seen_sound h).1
  unfold transferMoveaxis at ho
  generalize i.seen.shape = sh at ho hs
  split at ho
  · obtain ⟨rfl, rfl⟩ := hk
    cases (hs : s = _)
    exact transpose_static_sound (k := some (.ct _)) (axes := some _) h rfl href ho
  · cases ho
  · exact transpose_static_sound (k := some .rtv) (axes := some _) h trivial href ho

example : refMoveaxis 0 2 [2, 3, 4] = some [3, 4, 2] := rfl
example : transferMoveaxis (some (0, 1)) ⟨.const [2, 3], .known 6⟩ = some ⟨.const [3, 2], .known 6⟩ := rfl

theorem take_static_sound {i o : SInfo} {s t : Shape} {idx : ArrK} {ix : List Nat} {ax : AxisK} {axis : Nat}
    (h : i.γ s) (hk : idx.γ ix) (hax : ax.γ1 (some axis)) (href : refTake ix.length axis s = some t)
    (ho : transferTake idx ax i = some o) : o.γ t :=
  map_sound ho (takeShapeK_sound (seen_sound h).1 hk hax href) takeInfo_sound

example : refTake 3 0 [2, 3] = some [3, 3] := rfl
example : transferTake (.ct [0, 0, 0]) (.cts 0) ⟨.clipped [2, 3], .atMost 6⟩ = some ⟨.clipped [3, 3], .any⟩ := rfl

theorem atleast_nd_static_sound {i o : SInfo} {s : Shape} (nd : Nat)
    (h : i.γ s) (ho : transferAtleastNd nd i = some o) : o.γ (refAtleastNd nd s) := by
  cases ho
  have hs := seen_sound h
  exact indexingInfo_sound (atleastShapeK_sound nd hs.1) ((prod_refAtleastNd nd s).symm ▸ hs.2)

example : refAtleastNd 3 [2, 3] = [1, 2, 3] := rfl
example : transferAtleastNd 3 ⟨.boundedDim 2, .any⟩ = some ⟨.boundedDim 3, .any⟩ := rfl

/-- binary ufunc with a number operand (`view::multiply(a, 3)`) -/
theorem mulscalar_static_sound {i o : SInfo} {s : Shape} (h : i.γ s) (ho : transferMulScalar i = some o) : o.γ s := by
  cases ho
  exact ufuncInfo_sound (seen_sound h).1 trivial

example : transferMulScalar ⟨.fixedDim 2, .known 6⟩ = some ⟨.fixedDim 2, .any⟩ := rfl

/-! ### where (three operands broadcast to one shape; sizes: those of ONE broadcast operand) -/

/-- one view of `view::broadcast_arrays(p, q, r)` (number literals are operands with `scalarInfo` and shape `[]`), positive
    extents: the size type `index::broadcast_size` derives from the operand sizes is sound for every operand order -/
theorem broadcast3_static_sound {i j k o : SInfo} {a b c t : Shape} (hi : i.γ a) (hj : j.γ b) (hk : k.γ c)
    (hpa : Pos a) (hpb : Pos b) (hpc : Pos c) (href : refBroadcast3 a b c = some t)
    (ho : transferBroadcast3 i j k = some o) : o.γ t := by
  obtain ⟨t1, hr1, hr2⟩ := Option.bind_eq_some_iff.mp href
  obtain ⟨B, hB, rfl⟩ := Option.map_eq_some_iff.mp ho
  obtain ⟨K1, hK1, hK2⟩ := Option.bind_eq_some_iff.mp hB
  have si := seen_sound hi; have sj := seen_sound hj; have sk := seen_sound hk
  have hK1γ : K1.γ t1 := broadcastShapeK_sound si.1 sj.1 hpa hpb hr1 hK1
  have hBγ : B.γ t := broadcastShapeK_sound hK1γ sk.1 (refBroadcast_pos hpa hpb hr1) hpc hr2 hK2
  exact indexingInfo_sound hBγ (bsizeK_sound hBγ (bsizeStep_sound (bsizeStep_sound si.2 sj.2 hr1) sk.2 hr2))

/-- `view::where(c, x, y)`, positive extents; `hcls` (outside the class of the repaired defect C11.where-tripled-fixed-size)
    is not used: `whereInfo` takes the sizes of ONE broadcast operand -/
theorem where_static_sound {i j k o : SInfo} {a b c t : Shape} (hi : i.γ a) (hj : j.γ b) (hk : k.γ c)
    (hpa : Pos a) (hpb : Pos b) (hpc : Pos c) (href : refBroadcast3 a b c = some t)
    (hcls : whereTripled i j k = false) (ho : transferWhere i j k = some o) : o.γ t := by
  obtain ⟨B, hB, rfl⟩ := Option.map_eq_some_iff.mp ho
  have hO := broadcast3_static_sound hi hj hk hpa hpb hpc href (congrArg (Option.map _) hB)
  exact whereInfo_sound hO.1 hO.2

example : refBroadcast3 [2, 1] [2, 1] [3] = some [2, 3] := rfl
example : transferWhere ⟨.const [2, 3], .known 6⟩ ⟨.const [2, 3], .known 6⟩ ⟨.clipped [2, 3], .atMost 6⟩
    = some ⟨.clipped [2, 3], .atMost 6⟩ := rfl

/-- regression instances of the repaired defect C11.where-tripled-fixed-size -/
example : transferWhere ⟨.fixedDim 2, .known 1⟩ ⟨.fixedDim 2, .known 1⟩ ⟨.fixedDim 2, .known 6⟩ = some ⟨.fixedDim 2, .known 6⟩ ∧
    transferWhere ⟨.fixedDim 2, .known 6⟩ scalarInfo scalarInfo = some ⟨.fixedDim 2, .known 6⟩ ∧
    (⟨.fixedDim 2, .known 6⟩ : SInfo).γ [2, 3] := ⟨rfl, rfl, by decide⟩

/-- a fixed-size first operand (2 elements), a number literal, a dynamic operand that stretches the result to (2,7):
    the first operand's size type must NOT survive (it does when `other_is_all_none` is folded with `||`) -/
example : transferBroadcast3 ⟨.fixedDim 2, .known 2⟩ scalarInfo ⟨.dyn, .any⟩ = some ⟨.dyn, .any⟩ ∧
    refBroadcast3 [2, 1] [] [7] = some [2, 7] ∧
    transferBroadcast3 ⟨.fixedDim 2, .known 6⟩ scalarInfo scalarInfo = some ⟨.fixedDim 2, .known 6⟩ := ⟨rfl, rfl, rfl⟩

/-! ### matmul (operands of rank >= 2) -/

theorem matmul_static_sound {i j o : SInfo} {a b t : Shape} (hi : i.γ a) (hj : j.γ b) (hpa : Pos a) (hpb : Pos b)
    (href : refMatmul a b = some t) (ho : transferMatmul i j = some o) : o.γ t := by
  obtain ⟨hlen, hprod⟩ := refMatmul_spec hpa hpb href
  have hz := matmulSize_sound hi hj hprod
  have ha := (seen_sound hi).1
  have hb := (seen_sound hj).1
  unfold transferMatmul at ho
  generalize i.seen.shape = A at ho ha
  generalize j.seen.shape = B at ho hb
  split at ho
  · cases (ha : a = _); cases (hb : b = _)
    obtain ⟨t', ht', rfl⟩ := Option.map_eq_some_iff.mp ho
    cases href.symm.trans ht'
    refine ⟨rfl, ?_⟩
    generalize matmulSize i j = Z at hz ⊢
    split
    · exact ⟨rfl, hz⟩
    · rfl
  · exact map_sound ho (matmulShapeK_sound ha hb hlen) (⟨·, hz⟩)

example : refMatmul [4, 2, 3] [3, 5] = some [4, 2, 5] := rfl
example : transferMatmul ⟨.const [2, 3], .known 6⟩ ⟨.clipped [3, 2], .atMost 6⟩ = some ⟨.fixedDim 2, .atMost 36⟩ := rfl
/-- two constant shapes: fixed_size 4 next to bounded_size 36 -/
example : transferMatmul ⟨.const [2, 3], .known 6⟩ ⟨.const [3, 2], .known 6⟩ = some ⟨.const [2, 2], .knownB 4 36⟩ ∧
    (⟨.const [2, 2], .knownB 4 36⟩ : SInfo).fixedSize = some 4 ∧ (⟨.const [2, 2], .knownB 4 36⟩ : SInfo).boundedSize = some 36 := ⟨rfl, rfl, rfl⟩

/-- `view::eye(N, M)` (`v` = the run-time pair): the result type only knows the rank -/
theorem eye_static_sound {k : ArrK} {v : List Nat} {o : SInfo} (hk : k.γ v) (ho : transferEye k = some o) : o.γ v := by
  have hl := arrK_lenK_sound hk
  unfold transferEye at ho
  generalize k.lenK = L at ho hl
  split at ho
  · cases ho; exact indexing_product_sound hl
  · cases ho

example : transferEye (.ct [2, 3]) = some ⟨.fixedDim 2, .any⟩ ∧ transferEye (.rt 2) = some ⟨.fixedDim 2, .any⟩ ∧
    (⟨.fixedDim 2, .any⟩ : SInfo).γ [4, 5] := ⟨rfl, rfl, by decide⟩
example : (ArrK.rt 2).γ [4, 5] := rfl

/-- `view::tri(N, M)`: a constant shape for compile-time N and M -/
theorem tri_static_sound {k : ArrK} {v : List Nat} {o : SInfo} (hk : k.γ v) (ho : transferTri k = some o) : o.γ v := by
  unfold transferTri at ho
  split at ho
  · cases (hk : v = _); cases ho
    exact indexing_product_sound rfl
  · exact eye_static_sound hk ho

example : transferTri (.ct [2, 3]) = some ⟨.const [2, 3], .known 6⟩ ∧ transferTri (.rt 2) = some ⟨.fixedDim 2, .any⟩ := ⟨rfl, rfl⟩

/-- `view::tril` / `view::triu` (a 1-d operand of n elements gives an (n, n) result) -/
theorem tril_static_sound {i o : SInfo} {s : Shape} (h : i.γ s) (ho : transferTril i = some o) : o.γ (refTril s) := by
  cases ho
  exact indexing_product_sound (trilShapeK_sound (seen_sound h).1)

example : refTril [3] = [3, 3] ∧ refTril [2, 3, 4] = [2, 3, 4] := ⟨rfl, rfl⟩
example : transferTril ⟨.clipped [3], .atMost 3⟩ = some ⟨.fixedDim 2, .any⟩ ∧
    transferTril ⟨.boundedDim 1, .any⟩ = some ⟨.boundedDim 2, .any⟩ ∧
    transferTril ⟨.const [3], .known 3⟩ = some ⟨.const [3, 3], .known 9⟩ := ⟨rfl, rfl, rfl⟩

/-- `view::max_pool2d` / `view::avg_pool2d` (kernel, stride: pairs; ceil_mode a compile-time constant) over an operand whose
    `nmtools::shape(a)` has the (sound) shape type `src`, which need not be the one its knowledge says (`na::fixed_ndarray`
    answers with a run-time array of its constant extents): every shape on which the kernel fits; for a clipped shape with
    constant kernel and stride the result maxima are the pooled maxima, sound because the number of windows grows with the
    extent (`poolDim_mono`) -/
theorem pool2d_on_static_sound {src : ShapeK} {o : SInfo} {s t : Shape} {kk sk : ArrK} {kv sv : List Nat} {ceil : Bool}
    (h : src.γ s) (hk : kk.γ kv) (hs : sk.γ sv) (href : refPool ceil kv sv s = some t)
    (ho : transferPool2dOn src kk sk ceil = some o) : o.γ t :=
  map_sound ho (poolShapeK_sound h hk hs href) takeInfo_sound

/-- the case `Prog.pool2d` composes: the shape type is that of the operand's knowledge -/
theorem pool2d_static_sound {i o : SInfo} {s t : Shape} {kk sk : ArrK} {kv sv : List Nat} {ceil : Bool}
    (h : i.γ s) (hk : kk.γ kv) (hs : sk.γ sv) (href : refPool ceil kv sv s = some t)
    (ho : transferPool2d kk sk ceil i = some o) : o.γ t :=
  pool2d_on_static_sound h.1 hk hs href ho

example : transferPool2dOn (.fixedDim 2) (.ct [2, 2]) (.ct [1, 1]) false = some ⟨.fixedDim 2, .any⟩ ∧
    (ShapeK.fixedDim 2).γ [2, 3] ∧ refPool false [2, 2] [1, 1] [2, 3] = some [1, 2] := ⟨rfl, by decide, rfl⟩

example : refPool false [2, 2] [1, 1] [5, 3, 4] = some [5, 2, 3] ∧ refPool true [2, 2] [2, 2] [3, 4] = some [2, 2] ∧
    refPool true [2, 2] [3, 3] [4, 4] = some [2, 2] ∧ refPool true [1, 1] [3, 3] [3, 4] = some [1, 2] := ⟨rfl, rfl, rfl, rfl⟩
example : transferPool2d (.ct [2, 2]) (.ct [1, 1]) false ⟨.clipped [3, 4], .atMost 12⟩ = some ⟨.clipped [2, 3], .any⟩ ∧
    refPool false [2, 2] [1, 1] [2, 3] = some [1, 2] ∧ (⟨.clipped [2, 3], .any⟩ : SInfo).γ [1, 2] := ⟨rfl, rfl, by decide⟩

theorem resize_static_sound {i o : SInfo} {s t : Shape} {k : ArrK} {targ : List Nat}
    (h : i.γ s) (hk : k.γ targ) (href : refResize targ s = some t) (ho : transferResize k i = some o) : o.γ t :=
  map_sound ho (resizeShapeK_sound (seen_sound h).1 hk href) indexing_product_sound

example : refResize [4, 5] [3, 4] = some [4, 5] ∧ refResize [4, 0] [3, 4] = none := ⟨rfl, rfl⟩
example : transferResize (.ct [3, 4]) ⟨.clipped [3, 4], .atMost 12⟩ = some ⟨.fixedDim 2, .any⟩ ∧
    transferResize (.ct [3, 4]) ⟨.const [3, 4], .known 12⟩ = some ⟨.const [3, 4], .known 12⟩ ∧
    transferResize (.rt 3) ⟨.boundedDim 2, .any⟩ = none := ⟨rfl, rfl, rfl⟩

/-- `view::sliding_window(a, window, axis)` for (integer window, one axis) and (window per axis, axis None) -/
theorem sliding_window_static_sound {i o : SInfo} {s t : Shape} {w : WinK} {wv : WinV} {ax : AxisK} {axis : Option Nat}
    (h : i.γ s) (hw : w.γ wv) (hax : ax.γ1 axis) (href : refSlidingWindow wv axis s = some t)
    (ho : transferSlidingWindow w ax i = some o) : o.γ t :=
  map_sound ho (swShapeK_sound (seen_sound h).1 hw hax href) indexing_product_sound

example : refSlidingWindow (.num 2) (some 1) [3, 4] = some [3, 3, 2] ∧
    refSlidingWindow (.arr [1, 2]) none [3, 4] = some [3, 3, 1, 2] := ⟨rfl, rfl⟩
example : transferSlidingWindow (.arr (.ct [1, 2])) .none ⟨.boundedDim 3, .any⟩ = some ⟨.boundedDim 5, .any⟩ ∧
    transferSlidingWindow (.num (.ct 2)) (.cts 1) ⟨.const [3, 4], .known 12⟩ = some ⟨.const [3, 3, 2], .known 18⟩ := ⟨rfl, rfl⟩

/-- `view::compress(condition, a, axis)`: every non-zero entry of the condition selects an existing position (NumPy's
    requirement) -/
theorem compress_static_sound {i o : SInfo} {s t : Shape} {c : ArrK} {cv : List Nat} {ax : AxisK} {axis : Option Nat}
    (h : i.γ s) (hc : c.γ cv) (hax : ax.γ1 axis) (href : refCompress cv axis s = some t)
    (ho : transferCompress c ax i = some o) : o.γ t :=
  map_sound ho (compressShapeK_sound (seen_sound h).1 hc hax href) (compressInfo_sound · h.2 (refCompress_spec href).1)

example : refCompress [1, 0, 1] (some 0) [3, 4] = some [2, 4] ∧ refCompress [0, 1] none [3, 4] = some [1] := ⟨rfl, rfl⟩
example : transferCompress (.rt 2) .rts ⟨.clipped [3, 4], .atMost 12⟩ = some ⟨.clipped [3, 4], .atMost 12⟩ ∧
    transferCompress (.ct [1, 0]) (.cts 0) ⟨.clipped [3, 4], .atMost 12⟩ = some ⟨.clipped [1, 4], .atMost 12⟩ ∧
    transferCompress (.ct [0, 0]) (.cts 0) ⟨.clipped [3, 4], .any⟩ = some ⟨.clipped [1, 4], .any⟩ := ⟨rfl, rfl, rfl⟩

/-- `view::outer_<op>(a, b)`: shapes side by side; fixed_size from the TYPE of `index::size_outer` (a constant only when both
    operand sizes are constants), bounded_size = the product of the operands' own bounds -/
theorem outer_static_sound {i j o : SInfo} {a b : Shape} (hi : i.γ a) (hj : j.γ b)
    (ho : transferOuter i j = some o) : o.γ (refOuter a b) := by
  have si := seen_sound hi; have sj := seen_sound hj
  have hd := outerShapeK_sound si.1 sj.1
  have hz := outerSizeK_sound hd si.2 sj.2
  have hbnd : ∀ c, (match i.size.bound?, j.size.bound? with | some x, some y => some (x * y) | _, _ => none) = some c →
      prod (refOuter a b) ≤ c := by
    intro c hb
    split at hb
    · rename_i hx hy
      cases hb; exact prod_append a b ▸ Nat.mul_le_mul (bound?_sound hi.2 hx) (bound?_sound hj.2 hy)
    · cases hb
  -- the four arms of `transferOuter` on (fixed size?, bound?): both → `known` / `knownB`, fixed alone → refused,
  -- bound alone → `atMost`, neither → `any`
  unfold transferOuter at ho
  simp only at ho
  split at ho
  · rename_i n c hf hb
    cases ho
    have hn : prod (refOuter a b) = n := by
      split at hf
      · rename_i hk; cases hf; rw [hk] at hz; exact hz
      · cases hf
    refine ⟨hd, ?_⟩
    show SizeK.γ (if n = c then _ else _) _
    split
    · exact hn
    · exact ⟨hn, hbnd c hb⟩
  · cases ho
  · rename_i hb; cases ho; exact ⟨hd, hbnd _ hb⟩
  · cases ho; exact ⟨hd, trivial⟩

example : transferOuter ⟨.fixedDim 2, .known 6⟩ ⟨.fixedDim 1, .known 2⟩ = some ⟨.fixedDim 3, .known 12⟩ ∧
    transferOuter ⟨.fixedDim 2, .known 6⟩ ⟨.fixedDim 1, .atMost 2⟩ = some ⟨.fixedDim 3, .atMost 12⟩ ∧
    transferOuter ⟨.clipped [2, 3], .any⟩ ⟨.const [2], .known 2⟩ = some ⟨.clipped [2, 3, 2], .any⟩ ∧
    transferOuter ⟨.boundedDim 3, .any⟩ ⟨.const [2], .known 2⟩ = some ⟨.boundedDim 4, .any⟩ := ⟨rfl, rfl, rfl, rfl⟩
example : (⟨.fixedDim 3, .known 12⟩ : SInfo).γ (refOuter [3, 2] [2]) := by decide

/-! ## composition: every view type reachable by composing the modelled operations -/

/-- expression trees of views; every node carries the KIND of its arguments (what the type knows) and their run-time
    VALUE (what the object holds); leaves carry the knowledge of the array type and the index of the run-time shape -/
inductive Prog where
  | leaf (i : SInfo) (idx : Nat)
  | transpose (k : Option ArrK) (axes : Option (List Nat)) (p : Prog)
  | reshape (k : ArrK) (targ : List Int) (p : Prog)
  | flatten (p : Prog)
  | broadcastTo (k : ArrK) (targ : List Nat) (p : Prog)
  | tile (k : ArrK) (reps : List Nat) (p : Prog)
  | expandDims (k : AxisK) (axes : List Nat) (p : Prog)
  | squeeze (p : Prog)
  | reduce (k : AxisK) (axes : List Nat) (keepdims : Bool) (p : Prog)
  | ufunc1 (p : Prog)
  | ufunc2 (p q : Prog)
  | concat (k : AxisK) (axis : Option Nat) (p q : Prog)
  | repeat (rep : NumK) (r : Nat) (ax : AxisK) (axis : Option Nat) (p : Prog)
  | pad (w : ArrK) (pw : List Nat) (p : Prog)
  | accumulate (axis : Nat) (p : Prog)
  | roll (shift : NumK) (ax : AxisK) (axis : Option Nat) (p : Prog)
  | flip (axis : Option Nat) (p : Prog)
  | slice (es : List SlE) (p : Prog)
  | moveaxis (ct : Option (Nat × Nat)) (src dst : Nat) (p : Prog)
  | take (idx : ArrK) (ix : List Nat) (ax : AxisK) (axis : Nat) (p : Prog)
  | atleastNd (nd : Nat) (p : Prog)
  | mulScalar (p : Prog)
  | where_ (c x y : Prog)
  | matmul (p q : Prog)
  | eye (k : ArrK) (v : List Nat)
  | tri (k : ArrK) (v : List Nat)
  | tril (p : Prog)
  | pool2d (kk sk : ArrK) (kv sv : List Nat) (ceil : Bool) (p : Prog)
  | resize (k : ArrK) (targ : List Nat) (p : Prog)
  | slidingWindow (w : WinK) (wv : WinV) (ax : AxisK) (axis : Option Nat) (p : Prog)
  | compress (c : ArrK) (cv : List Nat) (ax : AxisK) (axis : Option Nat) (p : Prog)
  | outer (p q : Prog)

/-- compile-time knowledge of the view type (the library's metafunctions) -/
def Prog.static : Prog → Option SInfo
  | .leaf i _ => some i
  | .transpose k _ p => p.static.bind (transferTranspose k)
  | .reshape k _ p => p.static.bind (transferReshape k)
  | .flatten p => p.static.bind transferFlatten
  | .broadcastTo k _ p => p.static.bind (transferBroadcastTo k)
  | .tile k _ p => p.static.bind (transferTile k)
  | .expandDims k _ p => p.static.bind (transferExpandDims k)
  | .squeeze p => p.static.bind transferSqueeze
  | .reduce k _ kd p => p.static.bind (transferReduce k kd)
  | .ufunc1 p => p.static.bind transferUfunc1
  | .ufunc2 p q => p.static.bind (fun i => q.static.bind (fun j => transferUfunc2 i j))
  | .concat k _ p q => p.static.bind (fun i => q.static.bind (fun j => transferConcat k i j))
  | .repeat rep _ ax _ p => p.static.bind (transferRepeat rep ax)
  | .pad w _ p => p.static.bind (transferPad w)
  | .accumulate _ p => p.static.bind transferAccumulate
  | .roll shift ax _ p => p.static.bind (transferRoll shift ax)
  | .flip _ p => p.static.bind transferFlip
  | .slice es p => p.static.bind (transferSlice es)
  | .moveaxis ct _ _ p => p.static.bind (transferMoveaxis ct)
  | .take idx _ ax _ p => p.static.bind (transferTake idx ax)
  | .atleastNd nd p => p.static.bind (transferAtleastNd nd)
  | .mulScalar p => p.static.bind transferMulScalar
  | .where_ c x y => c.static.bind (fun i => x.static.bind (fun j => y.static.bind (fun k => transferWhere i j k)))
  | .matmul p q => p.static.bind (fun i => q.static.bind (fun j => transferMatmul i j))
  | .eye k _ => transferEye k
  | .tri k _ => transferTri k
  | .tril p => p.static.bind transferTril
  | .pool2d kk sk _ _ ceil p => p.static.bind (transferPool2d kk sk ceil)
  | .resize k _ p => p.static.bind (transferResize k)
  | .slidingWindow w _ ax _ p => p.static.bind (transferSlidingWindow w ax)
  | .compress c _ ax _ p => p.static.bind (transferCompress c ax)
  | .outer p q => p.static.bind (fun i => q.static.bind (fun j => transferOuter i j))

/-- run-time shape of the view object (reference semantics) for the leaf shapes `env` -/
def Prog.shape (env : Nat → Shape) : Prog → Option Shape
  | .leaf _ idx => some (env idx)
  | .transpose _ axes p => (p.shape env).bind (refTranspose axes)
  | .reshape _ targ p => (p.shape env).bind (refReshape targ)
  | .flatten p => (p.shape env).map refFlatten
  | .broadcastTo _ targ p => (p.shape env).bind (refBroadcastTo targ)
  | .tile _ reps p => (p.shape env).map (refTile reps)
  | .expandDims _ axes p => (p.shape env).bind (refExpandDims axes)
  | .squeeze p => (p.shape env).map refSqueeze
  | .reduce _ axes kd p => (p.shape env).bind (refReduce axes kd)
  | .ufunc1 p => p.shape env
  | .ufunc2 p q => (p.shape env).bind (fun a => (q.shape env).bind (fun b => refBroadcast a b))
  | .concat _ axis p q => (p.shape env).bind (fun a => (q.shape env).bind (fun b => refConcat axis a b))
  | .repeat _ r _ axis p => (p.shape env).bind (refRepeat r axis)
  | .pad _ pw p => (p.shape env).bind (refPad pw)
  | .accumulate axis p => (p.shape env).bind (refAccumulate axis)
  | .roll _ _ axis p => (p.shape env).bind (refRoll axis)
  | .flip axis p => (p.shape env).bind (refFlip axis)
  | .slice es p => (p.shape env).bind (refSlice es)
  | .moveaxis _ src dst p => (p.shape env).bind (refMoveaxis src dst)
  | .take _ ix _ axis p => (p.shape env).bind (refTake ix.length axis)
  | .atleastNd nd p => (p.shape env).map (refAtleastNd nd)
  | .mulScalar p => p.shape env
  | .where_ c x y => (c.shape env).bind (fun a => (x.shape env).bind (fun b => (y.shape env).bind (fun d => refBroadcast3 a b d)))
  | .matmul p q => (p.shape env).bind (fun a => (q.shape env).bind (fun b => refMatmul a b))
  | .eye _ v => some v
  | .tri _ v => some v
  | .tril p => (p.shape env).map refTril
  | .pool2d _ _ kv sv ceil p => (p.shape env).bind (refPool ceil kv sv)
  | .resize _ targ p => (p.shape env).bind (refResize targ)
  | .slidingWindow _ wv _ axis p => (p.shape env).bind (refSlidingWindow wv axis)
  | .compress _ cv _ axis p => (p.shape env).bind (refCompress cv axis)
  | .outer p q => (p.shape env).bind (fun a => (q.shape env).map (fun b => refOuter a b))

/-- side conditions: leaf shapes are instances of the leaf types, argument values are admitted by their kinds,
    extents are positive where the property needs it -/
def Prog.ok (env : Nat → Shape) : Prog → Prop
  | .leaf i idx => i.γ (env idx)
  | .transpose k axes p => p.ok env ∧ axesOk k axes
  | .reshape k targ p => p.ok env ∧ targetOk k targ
  | .flatten p => p.ok env
  | .broadcastTo k targ p => p.ok env ∧ k.γ targ
  | .tile k reps p => p.ok env ∧ k.γ reps
  | .expandDims k axes p => p.ok env ∧ k.γ axes
  | .squeeze p => p.ok env
  | .reduce k axes _ p => p.ok env ∧ k.γ axes ∧ (∀ s, p.shape env = some s → Pos s)
  | .ufunc1 p => p.ok env
  | .ufunc2 p q => p.ok env ∧ q.ok env ∧ (∀ a, p.shape env = some a → Pos a) ∧ (∀ b, q.shape env = some b → Pos b)
  | .concat k axis p q => p.ok env ∧ q.ok env ∧ concatAxisOk k axis
  | .repeat rep r ax axis p => p.ok env ∧ rep.γ r ∧ ax.γ1 axis
  | .pad w pw p => p.ok env ∧ w.γ pw
  | .accumulate _ p => p.ok env
  | .roll _ ax axis p => p.ok env ∧ ax.γ1 axis
  | .flip _ p => p.ok env
  | .slice _ p => p.ok env
  | .moveaxis ct src dst p => p.ok env ∧ moveArgsOk ct src dst
  | .take idx ix ax axis p => p.ok env ∧ idx.γ ix ∧ ax.γ1 (some axis)
  | .atleastNd _ p => p.ok env
  | .mulScalar p => p.ok env
  -- last clause: the operand types of a `where` lie outside the class of the repaired defect C11.where-tripled-fixed-size
  -- (more than `static_sound` needs: `where_static_sound` does not use it; nor does `roll_static_sound` the `ax.γ1 axis` of `roll`)
  | .where_ c x y => c.ok env ∧ x.ok env ∧ y.ok env ∧ (∀ a, c.shape env = some a → Pos a) ∧ (∀ b, x.shape env = some b → Pos b) ∧
      (∀ d, y.shape env = some d → Pos d) ∧ (∀ i j k, c.static = some i → x.static = some j → y.static = some k → whereTripled i j k = false)
  | .matmul p q => p.ok env ∧ q.ok env ∧ (∀ a, p.shape env = some a → Pos a) ∧ (∀ b, q.shape env = some b → Pos b)
  | .eye k v => k.γ v
  | .tri k v => k.γ v
  | .tril p => p.ok env
  | .pool2d kk sk kv sv _ p => p.ok env ∧ kk.γ kv ∧ sk.γ sv
  | .resize k targ p => p.ok env ∧ k.γ targ
  | .slidingWindow w wv ax axis p => p.ok env ∧ w.γ wv ∧ ax.γ1 axis
  | .compress c cv ax axis p => p.ok env ∧ c.γ cv ∧ ax.γ1 axis
  | .outer p q => p.ok env ∧ q.ok env

/-- the step of `static_sound` at a node whose reference function may fail (`sound_map`: cannot fail) -/
theorem sound_bind {x : Option SInfo} {y : Option Shape} {F : SInfo → Option SInfo} {G : Shape → Option Shape}
    {o : SInfo} {t : Shape} {C : Prop} (ho : x.bind F = some o) (ht : y.bind G = some t)
    (step : ∀ {i s}, x = some i → y = some s → F i = some o → G s = some t → C) : C :=
  let ⟨_, hi, ho⟩ := Option.bind_eq_some_iff.mp ho
  let ⟨_, hs, ht⟩ := Option.bind_eq_some_iff.mp ht
  step hi hs ho ht

theorem sound_map {x : Option SInfo} {y : Option Shape} {F : SInfo → Option SInfo} {g : Shape → Shape}
    {o : SInfo} {t : Shape} (ho : x.bind F = some o) (ht : y.map g = some t)
    (step : ∀ {i s}, x = some i → y = some s → F i = some o → o.γ (g s)) : o.γ t :=
  let ⟨_, hi, ho⟩ := Option.bind_eq_some_iff.mp ho
  let ⟨_, hs, ht⟩ := Option.map_eq_some_iff.mp ht
  ht ▸ step hi hs ho

/-- the statically inferred knowledge of ANY composed view type (`Prog`) is true of the run-time shape of every instance
    that meets `Prog.ok` (argument values admitted by their kinds; positive extents at the nodes whose theorem asks for them) -/
theorem static_sound (env : Nat → Shape) : ∀ (p : Prog) {o : SInfo} {t : Shape},
    p.ok env → p.static = some o → p.shape env = some t → o.γ t := by
  intro p o t hok ho ht
  induction p generalizing o t with
  | leaf i idx => cases ho; cases ht; exact hok
  | transpose k axes p ihp =>
    exact sound_bind ho ht fun hi hs ho ht => transpose_static_sound (ihp hok.1 hi hs) hok.2 ht ho
  | reshape k targ p ihp =>
    exact sound_bind ho ht fun hi hs ho ht => reshape_static_sound (ihp hok.1 hi hs) hok.2 ht ho
  | flatten p ihp =>
    exact sound_map ho ht fun hi hs ho => flatten_static_sound (ihp hok hi hs) ho
  | broadcastTo k targ p ihp =>
    exact sound_bind ho ht fun _ _ ho ht => broadcast_to_static_sound hok.2 ht ho
  | tile k reps p ihp =>
    exact sound_map ho ht fun hi hs ho => tile_static_sound (ihp hok.1 hi hs) hok.2 ho
  | expandDims k axes p ihp =>
    exact sound_bind ho ht fun hi hs ho ht => expand_dims_static_sound (ihp hok.1 hi hs) hok.2 ht ho
  | squeeze p ihp =>
    exact sound_map ho ht fun hi hs ho => squeeze_static_sound (ihp hok hi hs) ho
  | reduce k axes kd p ihp =>
    exact sound_bind ho ht fun hi hs ho ht =>
        reduce_static_sound (ihp hok.1 hi hs) (hok.2.2 _ hs) hok.2.1 ht ho
  | ufunc1 p ihp =>
    exact let ⟨_, hi, ho⟩ := Option.bind_eq_some_iff.mp ho
      ufunc1_static_sound (ihp hok hi ht) ho
  | ufunc2 p q ihp ihq =>
    exact sound_bind ho ht fun hi ha ho ht => sound_bind ho ht fun hj hb ho ht =>
        ufunc2_static_sound (ihp hok.1 hi ha) (ihq hok.2.1 hj hb)
          (hok.2.2.1 _ ha) (hok.2.2.2 _ hb) ht ho
  | concat k axis p q ihp ihq =>
    exact sound_bind ho ht fun hi ha ho ht => sound_bind ho ht fun hj hb ho ht =>
        concat_static_sound (ihp hok.1 hi ha) (ihq hok.2.1 hj hb) hok.2.2 ht ho
  | «repeat» rep r ax axis p ihp =>
    exact sound_bind ho ht fun hi hs ho ht => repeat_static_sound (ihp hok.1 hi hs) hok.2.1 hok.2.2 ht ho
  | pad w pw p ihp =>
    exact sound_bind ho ht fun hi hs ho ht => pad_static_sound (ihp hok.1 hi hs) hok.2 ht ho
  | accumulate axis p ihp =>
    exact sound_bind ho ht fun hi hs ho ht => accumulate_static_sound (ihp hok hi hs) ht ho
  | roll shift ax axis p ihp =>
    exact sound_bind ho ht fun hi hs ho ht => roll_static_sound (ihp hok.1 hi hs) ht ho
  | flip axis p ihp =>
    exact sound_bind ho ht fun hi hs ho ht => flip_static_sound (ihp hok hi hs) ht ho
  | slice es p ihp =>
    exact sound_bind ho ht fun hi hs ho ht => slice_static_sound (ihp hok hi hs) ht ho
  | moveaxis ct src dst p ihp =>
    exact sound_bind ho ht fun hi hs ho ht => moveaxis_static_sound (ihp hok.1 hi hs) hok.2 ht ho
  | take idx ix ax axis p ihp =>
    exact sound_bind ho ht fun hi hs ho ht => take_static_sound (ihp hok.1 hi hs) hok.2.1 hok.2.2 ht ho
  | atleastNd nd p ihp =>
    exact sound_map ho ht fun hi hs ho => atleast_nd_static_sound nd (ihp hok hi hs) ho
  | mulScalar p ihp =>
    exact let ⟨_, hi, ho⟩ := Option.bind_eq_some_iff.mp ho
      mulscalar_static_sound (ihp hok hi ht) ho
  | where_ c x y ihc ihx ihy =>
    exact sound_bind ho ht fun hi ha ho ht => sound_bind ho ht fun hj hb ho ht => sound_bind ho ht fun hk hd ho ht =>
        where_static_sound (ihc hok.1 hi ha) (ihx hok.2.1 hj hb)
          (ihy hok.2.2.1 hk hd) (hok.2.2.2.1 _ ha) (hok.2.2.2.2.1 _ hb) (hok.2.2.2.2.2.1 _ hd) ht
          (hok.2.2.2.2.2.2 _ _ _ hi hj hk) ho
  | matmul p q ihp ihq =>
    exact sound_bind ho ht fun hi ha ho ht => sound_bind ho ht fun hj hb ho ht =>
        matmul_static_sound (ihp hok.1 hi ha) (ihq hok.2.1 hj hb)
          (hok.2.2.1 _ ha) (hok.2.2.2 _ hb) ht ho
  | eye k v => cases ht; exact eye_static_sound hok ho
  | tri k v => cases ht; exact tri_static_sound hok ho
  | tril p ihp =>
    exact sound_map ho ht fun hi hs ho => tril_static_sound (ihp hok hi hs) ho
  | pool2d kk sk kv sv ceil p ihp =>
    exact sound_bind ho ht fun hi hs ho ht => pool2d_static_sound (ihp hok.1 hi hs) hok.2.1 hok.2.2 ht ho
  | resize k targ p ihp =>
    exact sound_bind ho ht fun hi hs ho ht => resize_static_sound (ihp hok.1 hi hs) hok.2 ht ho
  | slidingWindow w wv ax axis p ihp =>
    exact sound_bind ho ht fun hi hs ho ht =>
        sliding_window_static_sound (ihp hok.1 hi hs) hok.2.1 hok.2.2 ht ho
  | compress c cv ax axis p ihp =>
    exact sound_bind ho ht fun hi hs ho ht => compress_static_sound (ihp hok.1 hi hs) hok.2.1 hok.2.2 ht ho
  | outer p q ihp ihq =>
    exact sound_bind ho ht fun hi ha ho ht => sound_map ho ht fun hj hb ho =>
        outer_static_sound (ihp hok.1 hi ha) (ihq hok.2 hj hb) ho

/-- a depth-3 instance: `sum(transpose(add(cl[2,3], cs[1,3]), (1,0)), axis=0)` on the run-time shapes (2,3) and (1,3): the
    result (2) is an instance of the inferred `fixedDim 1, atMost 6` -/
example :
    let p := Prog.reduce (.cts 0) [0] false (.transpose (some (.ct [1, 0])) (some [1, 0])
              (.ufunc2 (.leaf ⟨.clipped [2, 3], .atMost 6⟩ 0) (.leaf ⟨.const [1, 3], .known 3⟩ 1)))
    let env : Nat → Shape := fun n => if n = 0 then [2, 3] else [1, 3]
    p.static = some ⟨.fixedDim 1, .atMost 6⟩ ∧ p.shape env = some [2] := by decide

/-- a depth-3 instance: `cumsum(pad(repeat(cl[2,3], 2, axis 0), (1,0,0,2)), 0)` on the run-time shape (1,2) -/
def exProg2 : Prog :=
  .accumulate 0 (.pad (.ct [1, 0, 0, 2]) [1, 0, 0, 2] (.repeat (.ct 2) 2 (.cts 0) (some 0) (.leaf ⟨.clipped [2, 3], .atMost 6⟩ 0)))
example : exProg2.static = some ⟨.clipped [5, 5], .atMost 25⟩ ∧ exProg2.shape (fun _ => [1, 2]) = some [3, 4] := ⟨rfl, rfl⟩
example : exProg2.ok (fun _ => [1, 2]) :=
  ⟨⟨(by decide : (⟨.clipped [2, 3], .atMost 6⟩ : SInfo).γ [1, 2]), rfl, rfl⟩, rfl⟩

/-- for every composed view (under `Prog.ok`): the buffer the resolver sizes from `bounded_size_v` holds the whole result -/
theorem composed_result_buffer_fits (env : Nat → Shape) (p : Prog) {o : SInfo} {t : Shape} {cap : Nat}
    (hok : p.ok env) (ho : p.static = some o) (ht : p.shape env = some t) (hc : o.boundedSize = some cap) : prod t ≤ cap :=
  result_buffer_fits (static_sound env p hok ho ht) hc

/-- a depth-3 instance: `outer(compress([1,0,0], max_pool2d(cl[4,5], (2,2), (1,1)), axis 0), fdf[2])`
    on the run-time shapes (3,4) and (2): pooled (2,3), compressed (1,3) — the pooled axis has two positions, so NumPy needs
    the third entry of the condition to be 0 —, outer (1,3,2); only the rank 3 is inferred (a pooled view reports no bounded size) -/
def exProg3 : Prog :=
  .outer (.compress (.rt 3) [1, 0, 0] (.cts 0) (some 0)
            (.pool2d (.ct [2, 2]) (.ct [1, 1]) [2, 2] [1, 1] false (.leaf ⟨.clipped [4, 5], .atMost 20⟩ 0)))
         (.leaf ⟨.fixedDim 1, .known 2⟩ 1)
def exEnv3 : Nat → Shape := fun n => if n = 0 then [3, 4] else [2]
example : exProg3.static = some ⟨.fixedDim 3, .any⟩ ∧ exProg3.shape exEnv3 = some [1, 3, 2] := ⟨rfl, rfl⟩
example : (Prog.tril (.tile (.bnd 3) [2, 2, 2] (.leaf ⟨.fixedDim 1, .atMost 4⟩ 0))).static = some ⟨.boundedDim 3, .any⟩ ∧
    (Prog.tril (.tile (.bnd 3) [2, 2, 2] (.leaf ⟨.fixedDim 1, .atMost 4⟩ 0))).shape (fun _ => [3]) = some [2, 2, 6] := ⟨rfl, rfl⟩
/-- sliding_window over a resized constant leaf: the inferred `bounded_size` 18 is the run-time size of the result (3,3,2) -/
example :
    let p := Prog.slidingWindow (.num (.ct 2)) (.num 2) (.cts 1) (some 1) (.resize (.ct [3, 4]) [3, 4] (.leaf ⟨.const [2, 2], .known 4⟩ 0))
    p.static = some ⟨.const [3, 3, 2], .known 18⟩ ∧ p.shape (fun _ => [2, 2]) = some [3, 3, 2] ∧
    (⟨.const [3, 3, 2], .known 18⟩ : SInfo).boundedSize = some 18 := by decide

/-! ## the eval resolver (array/eval.hpp:706-879): the container chosen from the static knowledge has room -/

theorem shapeCand_sound {i : SInfo} {s : Shape} (h : i.γ s) {sc : ShapeC} {sh : ShapeK} (hc : shapeCand i sc = some sh) : sh.γ s := by
  obtain ⟨h1, h2, h3, _, _⟩ := traits_sound h
  cases sc with
  | c => obtain ⟨l, hl, rfl⟩ := Option.map_eq_some_iff.mp hc; exact h1 l hl
  | l =>
    simp only [shapeCand] at hc
    split at hc <;> cases hc
    rename_i hb; exact hb ▸ h.1
  | f => obtain ⟨k, hk, rfl⟩ := Option.map_eq_some_iff.mp hc; exact h2 k hk
  | b => obtain ⟨k, hk, rfl⟩ := Option.map_eq_some_iff.mp hc; exact h3 k hk
  | d => cases hc; trivial

theorem bufCand_sound {i : SInfo} {s : Shape} (h : i.γ s) {bc : BufC} {b : BufK} (hc : bufCand i bc = some b) : b.fits (prod s) := by
  obtain ⟨_, _, _, h4, h5⟩ := traits_sound h
  cases bc with
  | f => obtain ⟨n, hn, rfl⟩ := Option.map_eq_some_iff.mp hc; exact h4 n hn
  | b =>
    have hs := h.1
    simp only [bufCand] at hc
    generalize i.shape = sh at hc hs
    split at hc
    · cases hc; exact LeAll.prod_le hs
    · obtain ⟨n, hn, rfl⟩ := Option.map_eq_some_iff.mp hc; exact h5 n hn
  | d => cases hc; trivial

theorem firstAvailable_sound {i : SInfo} {s : Shape} (h : i.γ s) (l : List (ShapeC × BufC)) {r : ResK}
    (hr : firstAvailable i l = some r) : r.admits s := by
  fun_induction firstAvailable i l with
  | case1 => cases hr
  | case2 _ _ _ _ _ hb hs => cases hr; exact ⟨shapeCand_sound h hs, bufCand_sound h hb⟩
  | case3 _ _ _ _ ih => exact ih hr

theorem firstAvailable_of_mem {i : SInfo} {sc : ShapeC} {bc : BufC} {sh : ShapeK} {b : BufK}
    (hs : shapeCand i sc = some sh) (hb : bufCand i bc = some b) {l : List (ShapeC × BufC)} (hm : (sc, bc) ∈ l) :
    ∃ r, firstAvailable i l = some r := by
  fun_induction firstAvailable i l with
  | case1 => cases hm
  | case2 => exact ⟨_, rfl⟩
  | case3 _ _ _ hne ih =>
    cases hm with
    | head => exact (hne _ _ hs hb).elim
    | tail _ hm => exact ih hm

/-- `default_type_resolver_t` always finds a container (the last pair of the list is always available) -/
theorem eval_resolver_total (i : SInfo) : ∃ r, resolveEval i = some r :=
  firstAvailable_of_mem (sc := .d) (bc := .d) rfl rfl (by decide)

/-- result_buffer_fits for the eval resolver: for EVERY run-time instance of the view type, the container chosen from the
    static knowledge can be given the run-time shape and its data buffer holds every element (a fixed buffer has exactly
    as many, a bounded one at least as many): nothing is clipped and no `resize` is ignored -/
theorem eval_result_buffer_fits {i : SInfo} {s : Shape} {r : ResK} (h : i.γ s) (hr : resolveEval i = some r) : r.admits s :=
  firstAvailable_sound h evalPriority hr

theorem _root_.NmVerif.Static.ResK.admits.capacity_le {r : ResK} {s : Shape} {cap : Nat} (h : r.admits s)
    (hc : r.buf.capacity = some cap) : prod s ≤ cap := by
  obtain ⟨sh, buf⟩ := r
  cases buf <;> cases hc
  · exact Nat.le_of_eq h.2
  · exact h.2

theorem _root_.NmVerif.Static.ResK.admits.info_sound {r : ResK} {s : Shape} (h : r.admits s) : r.info.γ s := by
  obtain ⟨sh, buf⟩ := r
  refine ⟨h.1, ?_⟩
  cases sh with
  | const l => exact congrArg prod h.1
  | _ => cases buf <;> exact h.2

/-- capacity form: the run-time size never exceeds the capacity of the chosen data buffer -/
theorem eval_capacity_ge_size {i : SInfo} {s : Shape} {r : ResK} {cap : Nat} (h : i.γ s) (hr : resolveEval i = some r)
    (hc : r.buf.capacity = some cap) : prod s ≤ cap :=
  (eval_result_buffer_fits h hr).capacity_le hc

/-- the static knowledge of the RESULT type is again true of the instance (results feed further views) -/
theorem eval_result_info_sound {i : SInfo} {s : Shape} {r : ResK} (h : i.γ s) (hr : resolveEval i = some r) : r.info.γ s :=
  (eval_result_buffer_fits h hr).info_sound

example : resolveEval ⟨.clipped [3, 3], .any⟩ = some ⟨.clipped [3, 3], .bounded 9⟩ := rfl
example : resolveEval ⟨.fixedDim 2, .atMost 36⟩ = some ⟨.fixedDim 2, .bounded 36⟩ := rfl
example : resolveEval ⟨.boundedDim 3, .known 6⟩ = some ⟨.boundedDim 3, .fixed 6⟩ := rfl
example : (⟨.clipped [3, 3], .bounded 9⟩ : ResK).admits [2, 3] := by decide
/-- why the soundness of the traits matters here: with the `fixed_size = 18` of the repaired defect
    C11.where-tripled-fixed-size the resolver chooses a buffer the 6-element instance does not fit -/
example : resolveEval ⟨.fixedDim 2, .known 18⟩ = some ⟨.fixedDim 2, .fixed 18⟩ ∧ ¬ (⟨.fixedDim 2, .fixed 18⟩ : ResK).admits [2, 3] := ⟨rfl, by decide⟩

/-- for every composed view (under `Prog.ok`): the container `resolveEval` chooses holds the whole result -/
theorem composed_eval_result_fits (env : Nat → Shape) (p : Prog) {o : SInfo} {t : Shape} {r : ResK}
    (hok : p.ok env) (ho : p.static = some o) (ht : p.shape env = some t) (hr : resolveEval o = some r) : r.admits t :=
  eval_result_buffer_fits (static_sound env p hok ho ht) hr

/-! ## the OLDER resolver (`resolve_optype<array::eval_t, view_t, none_t>`, eval.hpp:888-948): the default of a bare
    `array::eval(view)`.  It reuses the OPERAND's container for the result (NmVerif.StaticEval), so the statement of
    `eval_result_buffer_fits` holds only where that container covers the view's knowledge; elsewhere it fails
    (`old_eval_counterexample`, known finding C11.old-resolver-operand-container) -/

theorem shapeK_covers_sound {K V : ShapeK} {s : Shape} (hv : V.γ s) : K.covers V = true → K.γ s := by
  fun_cases ShapeK.covers K V with
  | case1 => exact fun _ => trivial
  | case2 => exact fun hc => Nat.le_trans hv (of_decide_eq_true hc)
  | case3 _ _ _ _ hl => exact fun hc => Nat.le_trans (Nat.le_of_eq (len?_sound hv hl)) (of_decide_eq_true hc)
  | case5 => exact fun hc => len?_sound hv (eq_of_beq hc)
  | case6 => exact fun hc => LeAll.trans hv (of_decide_eq_true hc)
  | case7 => exact fun hc => (hv : s = _) ▸ of_decide_eq_true hc
  | case8 => exact fun hc => Eq.trans hv (eq_of_beq hc).symm
  | case4 | case9 => exact nofun

theorem bufK_covers_sound {B : BufK} {z : SizeK} {n : Nat} (hz : z.γ n) : B.covers z = true → B.fits n := by
  fun_cases BufK.covers B z with
  | case1 => exact fun _ => trivial
  | case2 => exact fun hc => Eq.trans hz (eq_of_beq hc).symm
  | case3 => exact fun hc => Eq.trans hz.1 (eq_of_beq hc).symm
  | case4 _ _ _ hb => exact fun hc => Nat.le_trans (bound?_sound hz hb) (of_decide_eq_true hc)
  | case5 | case6 => exact nofun

theorem covers_sound {r : ResK} {v : SInfo} {s : Shape} (hc : r.covers v = true) (h : v.γ s) : r.admits s := by
  simp only [ResK.covers, Bool.and_eq_true] at hc
  exact ⟨shapeK_covers_sound h.1 hc.1, bufK_covers_sound h.2 hc.2⟩

/-- `eval_result_buffer_fits` for the older resolver, one array operand: whenever the container it picks covers the view's
    static knowledge (always so when it falls back to `vector / vector`), every instance fits (`_hr` is not used) -/
theorem old_eval_result_buffer_fits {a : OperK} {v : SInfo} {s : Shape} {r : ResK} (h : v.γ s)
    (_hr : resolveEvalOld1 a v = some r) (hc : r.covers v = true) : r.admits s :=
  covers_sound hc h

theorem old_eval2_result_buffer_fits {a b : OperK} {v : SInfo} {s : Shape} {r : ResK} (h : v.γ s)
    (_hr : resolveEvalOld2 a b v = some r) (hc : r.covers v = true) : r.admits s :=
  covers_sound hc h

theorem old_eval_dynamic_covers (v : SInfo) : dynRes.covers v = true := by
  rfl

example : resolveEvalOld1 ⟨.fixedDim 2, .dyn⟩ ⟨.fixedDim 2, .any⟩ = some ⟨.fixedDim 2, .dyn⟩ ∧
    (ResK.mk (.fixedDim 2) .dyn).covers ⟨.fixedDim 2, .any⟩ = true ∧ (⟨.fixedDim 2, .any⟩ : SInfo).γ [3, 2] := ⟨rfl, rfl, by decide⟩
example : resolveEvalOld1 ⟨.const [2, 3], .fixed 6⟩ ⟨.const [3, 2], .known 6⟩ = some dynRes := rfl

/-- the statement FAILS for the older resolver (genuine defect, replayed on the real headers):
    `array::eval(view::tile(a, reps))` with `a : ndarray_t<vector<int>, static_vector<size_t,3>>` of shape (2,3) and four
    repetitions: the view has rank 4 (bounded_dim 4), the resolver reuses the operand's type, whose shape container holds at
    most 3 extents — the result cannot take the shape and the evaluator returns without writing.  Likewise
    `array::eval(view::add(a, b))` for that `a` and a dynamic `b` of rank 4, and a tiled fixed-buffer operand (two operands of
    DIFFERENT fixed ranks do not compile: the evaluator's shape comparison static_asserts). -/
theorem old_eval_counterexample :
    (transferTile (.rt 4) ⟨.boundedDim 3, .any⟩ = some ⟨.boundedDim 4, .any⟩ ∧
     (⟨.boundedDim 4, .any⟩ : SInfo).γ [2, 1, 2, 3] ∧
     resolveEvalOld1 ⟨.boundedDim 3, .dyn⟩ ⟨.boundedDim 4, .any⟩ = some ⟨.boundedDim 3, .dyn⟩ ∧
     ¬ (ResK.mk (.boundedDim 3) .dyn).admits [2, 1, 2, 3]) ∧
    (transferUfunc2 ⟨.boundedDim 3, .any⟩ ⟨.dyn, .any⟩ = some ⟨.dyn, .any⟩ ∧
     resolveEvalOld2 ⟨.boundedDim 3, .dyn⟩ ⟨.dyn, .dyn⟩ ⟨.dyn, .any⟩ = some ⟨.boundedDim 3, .dyn⟩ ∧
     ¬ (ResK.mk (.boundedDim 3) .dyn).admits [2, 2, 2, 3]) ∧
    (transferTile (.rt 2) ⟨.fixedDim 2, .known 6⟩ = some ⟨.fixedDim 2, .any⟩ ∧
     resolveEvalOld1 ⟨.fixedDim 2, .fixed 6⟩ ⟨.fixedDim 2, .any⟩ = some ⟨.fixedDim 2, .fixed 6⟩ ∧
     ¬ (ResK.mk (.fixedDim 2) (.fixed 6)).admits [2, 6]) := by decide

end NmVerif.Props.C11
