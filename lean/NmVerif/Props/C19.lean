import NmVerif.Containers.Core
import NmVerif.Containers.Spec
import NmVerif.Containers.Vector
import NmVerif.Containers.VectorProofs
import NmVerif.Containers.VectorLedger
import NmVerif.Containers.StaticVector
import NmVerif.Containers.StaticVectorProofs
import NmVerif.Containers.SmallVector
import NmVerif.Containers.SmallVectorProofs
import NmVerif.Containers.Either
import NmVerif.Containers.EitherProofs
import NmVerif.Containers.EitherLifetime
import NmVerif.Containers.LedgerSim
import NmVerif.Containers.SmallVectorLedger
/-
  C19 — The STL-free containers behave like their standard counterparts over any history.
  Property statements only (+ non-vacuity examples and regression instances of the repaired defects).
  Histories are `List (Op α)` over any number of object slots, starting from the empty world.
-/
namespace NmVerif.Props.C19
open NmVerif NmVerif.Containers

/-! ### generic: copies are independent of their source -/

/-- after `copy d s`, whatever is done to the source or to any other object, the copy stays what the copy
    constructor built (for every container semantics) -/
theorem copy_independent (I : Impl σ α) (w : World σ) (d s : Nat) (x : σ) (hd : w.objs d = none)
    (hs : w.objs s = some x) (h : List (Op α)) (hh : ∀ op ∈ h, op.target ≠ d) :
    (run I (step I w (.copy d s)) h).objs d = some (I.mkCopy x w.led).1 := by
  rw [run_frame hh]
  simp [step, hd, hs, World.put]

/-- … and mutating the copy never changes the source -/
theorem copy_source_untouched (I : Impl σ α) (w : World σ) (d s : Nat) (hds : d ≠ s)
    (h : List (Op α)) (hh : ∀ op ∈ h, op.target = d) :
    (run I (step I w (.copy d s)) h).objs s = w.objs s := by
  rw [run_frame (fun op ho => by rw [hh op ho]; exact hds)]
  exact step_frame hds

/-! ### utl::vector (after the `fix:` commits: value-initialising resize / sized ctor, unconditional free,
       push_back copying its argument first) -/

/-- `utl::vector` holds exactly what `std::vector` holds — liveness of every slot, sizes, every element — after
    EVERY history over the whole alphabet (sized construction, growing resizes and `push_back(x[i])` included). -/
theorem vector_refines_list (zero : α) (h : List (Op α)) :
    WRel RVec (run (vecImpl zero) World.empty h) (run (stdSpec zero) World.empty h) :=
  run_sim (vec_sim zero) h wrel_empty (allOk_of_forall (fun _ _ _ => trivial))

/-- the same, read off slot by slot: client-visible elements `0 … size-1` equal the list -/
theorem vector_view_eq (zero : α) (h : List (Op α)) (k : Nat) :
    ((run (vecImpl zero) World.empty h).objs k).map Vec.view
      = ((run (stdSpec zero) World.empty h).objs k).map (fun l => l.map some) := by
  rcases (vector_refines_list zero h k).cases with ⟨h1, h2⟩ | ⟨x, l, h1, h2, hr⟩ <;> rw [h1, h2]
  · rfl
  · simp [hr.2]

def viewOf (w : World (Vec Int)) (k : Nat) : Option (List (Cell Int)) := (w.objs k).map Vec.view
def specOf (w : World (List Int)) (k : Nat) : Option (List (Cell Int)) := (w.objs k).map (fun l => l.map some)

/-- regression instances of the repaired defects: shrink-then-grow, `vector(3)`, `x.push_back(x[0])` on a full vector -/
example :
    viewOf (run (vecImpl (0 : Int)) World.empty [.ctor 0, .push 0 1, .push 0 2, .push 0 3, .resize 0 1, .resize 0 3]) 0
      = some [some 1, some 0, some 0] ∧
    viewOf (run (vecImpl (0 : Int)) World.empty [.ctorN 0 3]) 0 = some [some 0, some 0, some 0] ∧
    viewOf (run (vecImpl (0 : Int)) World.empty [.ctor 0, .push 0 10, .push 0 11, .push 0 12, .push 0 13, .pushAt 0 0]) 0
      = some [some 10, some 11, some 12, some 13, some 10] := by decide

/-- `x = x` on a `utl::vector` changes neither any object nor the ledger, in every reachable state -/
theorem self_assign_noop (zero : α) (h : List (Op α)) (s : Nat) :
    (∀ k, (step (vecImpl zero) (run (vecImpl zero) World.empty h) (.assign s s)).objs k
            = (run (vecImpl zero) World.empty h).objs k) ∧
    (step (vecImpl zero) (run (vecImpl zero) World.empty h) (.assign s s)).led = (run (vecImpl zero) World.empty h).led := by
  have hw := reach_linv zero h
  generalize run (vecImpl zero) World.empty h = w at hw ⊢
  simp only [step]
  cases hx : w.objs s with
  | none => simp
  | some x =>
    simp only [if_true, vecImpl, Vec.assignSelf_eq zero x w.led (hw.objInv s x hx), World.put]
    refine ⟨?_, trivial⟩
    intro k
    by_cases hk : k = s
    · simp [hk, hx]
    · simp [hk]

/-- nothing is freed twice and only blocks that were handed out are freed — every history -/
theorem no_double_free (zero : α) (h : List (Op α)) :
    (run (vecImpl zero) World.empty h).led.freed.Nodup ∧
    ∀ b ∈ (run (vecImpl zero) World.empty h).led.freed, b < (run (vecImpl zero) World.empty h).led.allocs :=
  let hw := reach_linv zero h
  ⟨hw.freedNodup, hw.freedLt⟩

/-- no buffer cell outside the allocated block is touched — every history (`oob` is the only event the `utl::vector` mirror
    raises: it holds no pointer into a freed block, so a read of freed memory cannot be expressed, let alone recorded; operations
    with an element index `≥ size()` are skipped by `step`) -/
theorem no_oob (zero : α) (h : List (Op α)) :
    (run (vecImpl zero) World.empty h).led.events = [] :=
  (reach_linv zero h).noEvents

/-- live objects never share a block -/
theorem no_shared_block (zero : α) (h : List (Op α)) (k1 k2 : Nat) (x1 x2 : Vec α) (p : Nat)
    (hne : k1 ≠ k2) (h1 : (run (vecImpl zero) World.empty h).objs k1 = some x1)
    (h2 : (run (vecImpl zero) World.empty h).objs k2 = some x2) (hp : x1.blk = some p) : x2.blk ≠ some p :=
  (reach_linv zero h).distinct k1 k2 x1 x2 p hne h1 h2 hp

/-- after destroying all objects every block handed out has been freed exactly once — every history
    (`vector(0)` included) -/
theorem no_leak (zero : α) (h : List (Op α))
    (hdead : ∀ k, (run (vecImpl zero) World.empty h).objs k = none) :
    (run (vecImpl zero) World.empty h).led.lost = [] ∧
    (∀ b, b < (run (vecImpl zero) World.empty h).led.allocs ↔ b ∈ (run (vecImpl zero) World.empty h).led.freed) ∧
    (run (vecImpl zero) World.empty h).led.freed.Nodup ∧
    (run (vecImpl zero) World.empty h).led.freed.length = (run (vecImpl zero) World.empty h).led.allocs := by
  have hp := reach_linvp (vec_table zero) h
  have hw := hp.toG
  refine ⟨hw.lostNil, hw.freed_iff_of_dead hdead, hw.freedNodup, ?_⟩
  have := hp.count (fun _ => 1) (fun x hx => by simp [hx.blk])
  rw [ownSum_dead hdead] at this
  exact this.symm

example : (run (vecImpl (0 : Int)) World.empty [.ctorN 0 0, .destroy 0]).led.freed = [0] := by decide

/-! ### utl::static_vector, utl::array -/

/-- `static_vector<T,c>` holds exactly what a vector bounded by capacity `c` holds (operations that do not fit are
    refused, contents unchanged) after EVERY history; the only guard is that a variadic construction has at most
    `c` arguments (more do not compile) (`svecOk`) -/
theorem staticVector_refines (c : Nat) (zero : α) (h : List (Op α))
    (hok : ∀ op ∈ h, ∀ s vs, op = .ctorV s vs → vs.length ≤ c) :
    WRel (RSVec c) (run (svecImpl c zero) World.empty h) (run (boundedSpec c zero) World.empty h) :=
  run_sim (svec_sim c zero) h wrel_empty (allOk_of_forall (by
    intro op hop st
    cases op <;> simp only [svecOk, svecSafeOk]
    exact hok _ hop _ _ rfl))

/-- regression instances: `static_vector<int,4>(7)` is refused, shrink-then-grow value-initialises -/
example :
    ((run (svecImpl 4 (0 : Int)) World.empty [.ctorN 0 7]).objs 0).map (fun x => (x.size, x.view)) = some (0, []) ∧
    ((run (svecImpl 4 (0 : Int)) World.empty [.ctor 0, .push 0 1, .push 0 2, .push 0 3, .resize 0 1, .resize 0 3]).objs 0).map
      (fun x => (x.size, x.view)) = some (3, [some 1, some 0, some 0]) := by decide

/-- no element access leaves the fixed buffer and the heap is never used — every history (variadic constructions
    with at most `c` arguments) -/
theorem staticVector_no_oob (c : Nat) (zero : α) (h : List (Op α)) (hok : ∀ op ∈ h, svecSafeOk c op) :
    (run (svecImpl c zero) World.empty h).led.Untouched ∧
    ∀ k x, (run (svecImpl c zero) World.empty h).objs k = some x → x.cells.length = c ∧ x.size ≤ c :=
  let hr := run_ledfix (svec_sim c zero) (svec_fix c zero) h wrel_empty (allOk_of_forall (fun op hop _ => hok op hop))
  ⟨hr.1 ▸ ⟨rfl, rfl, rfl⟩, fun _ _ hx => let ⟨_, _, hs⟩ := hr.2.some hx; ⟨hs.len, hs.le⟩⟩

/-- `utl::array<T,n>` is `std::array<T,n>` after every history (no excluded operation) -/
theorem array_refines (n : Nat) (zero : α) (h : List (Op α)) :
    WRel (RArr n) (run (arrImpl n zero) World.empty h) (run (arraySpec n zero) World.empty h) :=
  run_sim (arr_sim n zero) h wrel_empty (allOk_of_forall (fun _ _ _ => trivial))

/-! ### utl::tuple / utl::tuplev2 — any arity (utl::tuple is implemented for 1 … 12 components, tuple.hpp:29-371) -/

/-- `utl::tuple` is modelled as `utl::array`: `n` components over ONE payload type `α` (the C++ tuple is heterogeneous;
    component types, `get<I>` and the arity limit are not modelled), so this is `array_refines` under the tuple's name:
    the `n` components hold what a list of fixed length `n` holds after EVERY history over {default / element-wise
    construction, copy, assign(other|self), component write, component read, destroy}, for every `n` -/
theorem tuple_refines (n : Nat) (zero : α) (h : List (Op α)) :
    WRel (RArr n) (run (arrImpl n zero) World.empty h) (run (arraySpec n zero) World.empty h) :=
  array_refines n zero h

/-- components are independent, in every reachable state: `get<i>(t) = a` replaces component `i` of that tuple,
    keeps its other components and leaves every other object alone -/
theorem tuple_set_component (n : Nat) (zero : α) (h : List (Op α)) (s i : Nat) (a : α) (x : SVec α)
    (hx : (run (arrImpl n zero) World.empty h).objs s = some x) (hi : i < n) :
    x.view.length = n ∧
    (∃ y, (step (arrImpl n zero) (run (arrImpl n zero) World.empty h) (.write s i a)).objs s = some y ∧
          y.view = x.view.set i (some a)) ∧
    ∀ k, k ≠ s → (step (arrImpl n zero) (run (arrImpl n zero) World.empty h) (.write s i a)).objs k
                  = (run (arrImpl n zero) World.empty h).objs k := by
  obtain ⟨l, _, hr⟩ := (tuple_refines n zero h).some hx
  have hlen : x.cells.length = n := by rw [hr.cells]; simpa using hr.len
  have hsz : (arrImpl n zero).size x = n := hr.size
  refine ⟨by simp [SVec.view, List.length_take, hlen, hr.size], ?_, ?_⟩
  · refine ⟨(SVec.write x i a (run (arrImpl n zero) World.empty h).led).1, ?_, ?_⟩
    · have hi' : i < (arrImpl n zero).size x := by rw [hsz]; exact hi
      simp only [step, hx, hi', if_true, World.put]
      rfl
    · have hil : i < x.cells.length := by omega
      simp [SVec.write, SVec.store, hil, SVec.view, List.take_set]
  · intro k hk
    exact step_frame fun e => hk e.symm

/-- a 5-tuple: element-wise construction, copy, component writes on both, assignment back -/
example :
    let w := run (arrImpl 5 (0 : Int)) World.empty
      [.ctorV 0 [1, 2, 3, 4, 5], .copy 1 0, .write 0 2 77, .write 1 4 9, .assign 0 1]
    (w.objs 0).map SVec.view = some [some 1, some 2, some 3, some 4, some 9] ∧
    (w.objs 1).map SVec.view = some [some 1, some 2, some 3, some 4, some 9] := by decide

/-! ### nmtools::small_vector over utl::either<utl::static_vector, utl::vector> -/

/-- `small_vector<T,c>` holds exactly what `std::vector` holds — in static mode, in heap mode and across the switch at
    `c` — after EVERY history over the whole alphabet {ctor, ctorN, ctorV, copy, assign, push, pushAt = push_back(x[i]),
    resize, write, read, destroy} (after the `fix:` commits C19-either-maybe-lifetime and C19-small-vector-alias-push
    no operation is excluded) -/
theorem smallVector_refines (c : Nat) (zero : α) (h : List (Op α)) :
    WRel (RSmall c) (run (smallImpl c zero) World.empty h) (run (stdSpec zero) World.empty h) :=
  run_sim (small_sim c zero) h wrel_empty (allOk_of_forall (fun _ _ _ => trivial))

def smviewOf (w : World (Small Int)) (k : Nat) : Option (List (Cell Int)) := (w.objs k).map Small.view

example : smviewOf (run (smallImpl 4 (0 : Int)) World.empty [.ctorN 0 5, .resize 0 2, .resize 0 6]) 0
    = some [some 0, some 0, some 0, some 0, some 0, some 0] := by decide

/-- static mode never touches the heap: on every history in which all objects stay in static mode (`smallStaticOk`,
    decided on the reference run: `small_vector(n)` with `n < DIM`, at most DIM values, `resize` up to DIM, `push_back` /
    `push_back(x[i])` only below DIM elements) the ledger stays exactly the initial one — no allocation, no free, no
    dropped block, no lifetime / bounds event —, every object is in static mode and holds what `std::vector` holds -/
theorem smallVector_static_no_heap (c : Nat) (zero : α) (h : List (Op α))
    (hok : AllOk (stdSpec zero) (smallStaticOk c) World.empty h) :
    (run (smallImpl c zero) World.empty h).led = {} ∧
    (∀ k x, (run (smallImpl c zero) World.empty h).objs k = some x → x.tagS = true) ∧
    WRel (RSmall c) (run (smallImpl c zero) World.empty h) (run (stdSpec zero) World.empty h) := by
  have hr := run_ledfix (small_static_sim c zero) (small_static_fix c zero) h wrel_empty hok
  refine ⟨hr.1, fun k x hx => ?_, fun k => (hr.2 k).mono (fun _ _ h => h.2)⟩
  obtain ⟨_, _, hs⟩ := hr.2.some hx
  exact hs.1

example : AllOk (stdSpec (0 : Int)) (smallStaticOk 4) World.empty
    [.ctorN 0 3, .push 0 7, .pushAt 0 9, .copy 1 0, .resize 1 2, .pushAt 1 0, .assign 0 1, .ctorV 2 [1, 2, 3, 4], .resize 2 4,
     .write 2 3 5, .destroy 0] := by decide

/-- the domain is sharp: `small_vector(DIM)` already takes the heap branch (`N < DIM`, small_vector.hpp:44) -/
example : (run (smallImpl 4 (0 : Int)) World.empty [.ctorN 0 4]).led.allocs = 2 ∧
    ¬ AllOk (stdSpec (0 : Int)) (smallStaticOk 4) World.empty [.ctorN 0 4] := by decide

/-- conservation of blocks, EVERY history over the whole alphabet: the blocks handed out are exactly those freed plus
    one per live object in heap mode (`N` bounds the slots the history addresses); no out-of-bounds access is recorded
    by an operation `step` applies.  (`lost = []` holds by construction — no mirror calls `Ledger.lose`, a leak would break the
    count, not fill `lost` — and `oob` is the only event this mirror raises.) -/
theorem smallVector_ledger_account (c : Nat) (zero : α) (h : List (Op α)) (N : Nat) (hN : ∀ op ∈ h, op.target < N) :
    (run (smallImpl c zero) World.empty h).led.allocs
      = (run (smallImpl c zero) World.empty h).led.freed.length + ownSum Small.own (run (smallImpl c zero) World.empty h) N ∧
    (run (smallImpl c zero) World.empty h).led.lost = [] ∧ (run (smallImpl c zero) World.empty h).led.events = [] := by
  have hq := run_linvp (small_table c zero) h LInvP.empty hN
  exact ⟨hq.count Small.own (fun _ => Small.own_eq), hq.lostNil, hq.noEvents⟩

example : ownSum Small.own (run (smallImpl 4 (0 : Int)) World.empty [.ctorN 0 5, .ctor 1, .copy 2 0, .push 1 3]) 3 = 2 := by
  decide

/-- no leak: after destroying all objects every block handed out has been freed (`allocs = frees`), whatever the
    history — growth across DIM, copies and assignments between static and heap mode, `push_back(x[i])` included -/
theorem smallVector_no_leak (c : Nat) (zero : α) (h : List (Op α))
    (hdead : ∀ k, (run (smallImpl c zero) World.empty h).objs k = none) :
    (run (smallImpl c zero) World.empty h).led.allocs = (run (smallImpl c zero) World.empty h).led.freed.length ∧
    (run (smallImpl c zero) World.empty h).led.lost = [] ∧ (run (smallImpl c zero) World.empty h).led.events = [] := by
  have := smallVector_ledger_account c zero h _
    (fun _ hop => lt_foldr_max_succ Op.target h hop)
  rw [ownSum_dead hdead] at this
  exact ⟨by omega, this.2⟩

example : ∀ k, (run (smallImpl 4 (0 : Int)) World.empty [.ctorN 0 5, .copy 1 0, .destroy 0, .destroy 1]).objs k = none := by
  intro k
  by_cases h0 : k = 0
  · subst h0; decide
  by_cases h1 : k = 1
  · subst h1; decide
  · exact run_frame (by simp [Op.target]; omega)

/-- nothing is freed twice and only blocks that were handed out are freed; a live object never holds a freed block (no
    dangling heap part) and two live objects never share a block — EVERY history over the whole alphabet -/
theorem smallVector_no_double_free (c : Nat) (zero : α) (h : List (Op α)) :
    (run (smallImpl c zero) World.empty h).led.freed.Nodup ∧
    (∀ b ∈ (run (smallImpl c zero) World.empty h).led.freed, b < (run (smallImpl c zero) World.empty h).led.allocs) ∧
    (∀ k x p, (run (smallImpl c zero) World.empty h).objs k = some x → Small.blk x = some p →
      p < (run (smallImpl c zero) World.empty h).led.allocs ∧ p ∉ (run (smallImpl c zero) World.empty h).led.freed) ∧
    (∀ k1 k2 x1 x2 p, k1 ≠ k2 → (run (smallImpl c zero) World.empty h).objs k1 = some x1 →
      (run (smallImpl c zero) World.empty h).objs k2 = some x2 → Small.blk x1 = some p → Small.blk x2 ≠ some p) :=
  let hw := reach_linvg (small_table c zero) h
  ⟨hw.freedNodup, hw.freedLt, hw.owned, hw.distinct⟩

/-- … and once all objects are destroyed the freed blocks are exactly the blocks handed out, each freed once -/
theorem smallVector_no_leak_blocks (c : Nat) (zero : α) (h : List (Op α))
    (hdead : ∀ k, (run (smallImpl c zero) World.empty h).objs k = none) :
    (∀ b, b < (run (smallImpl c zero) World.empty h).led.allocs ↔ b ∈ (run (smallImpl c zero) World.empty h).led.freed) ∧
    (run (smallImpl c zero) World.empty h).led.freed.Nodup := by
  have hw := reach_linvg (small_table c zero) h
  exact ⟨hw.freed_iff_of_dead hdead, hw.freedNodup⟩

example : (run (smallImpl 4 (0 : Int)) World.empty
    [.ctorN 0 6, .copy 1 0, .ctor 2, .assign 0 2, .push 2 1, .assign 2 1, .destroy 0, .destroy 1, .destroy 2]).led.freed
    = [6, 4, 5, 2, 3, 1, 0] := by decide

/-- regression instances of the repaired defects: growth past DIM and destruction (two blocks used to be dropped), copy
    of a heap-mode object, assignment of a static over a heap-mode object, `x.push_back(x[i])` at size DIM in static
    mode and in heap mode with exhausted capacity -/
example :
    (let w := run (smallImpl 4 (0 : Int)) World.empty [.ctor 0, .push 0 1, .push 0 2, .push 0 3, .push 0 4, .push 0 5, .destroy 0]
     w.led.allocs = 5 ∧ w.led.freed.length = 5 ∧ w.led.lost = [] ∧ w.led.events = []) ∧
    (let w := run (smallImpl 4 (0 : Int)) World.empty [.ctorN 0 6, .copy 1 0, .ctor 2, .assign 0 2, .destroy 0, .destroy 1, .destroy 2]
     w.led.allocs = w.led.freed.length ∧ w.led.lost = [] ∧ w.led.events = []) ∧
    smviewOf (run (smallImpl 4 (0 : Int)) World.empty [.ctorV 0 [10, 11, 12, 13], .pushAt 0 2]) 0
      = some [some 10, some 11, some 12, some 13, some 12] ∧
    smviewOf (run (smallImpl 4 (0 : Int)) World.empty [.ctorN 0 4, .write 0 0 7, .pushAt 0 0]) 0
      = some [some 7, some 0, some 0, some 0, some 7] := by decide

/-- exact allocator cost of the static → heap switch `resize(n)`, `n > DIM` (also taken by the `push_back` at size DIM):
    five allocations (three when `n ≤ 4`) — the temporary `small_vector(n)` (a default vector, its copy inside the
    union, the reallocation by `resize(n)` when `n > 4`), the copy construction of the vector inside `*this` (a block of
    4, reallocated when `n > 4`) — of which all but the final block are freed; nothing is dropped -/
theorem smallVector_switch_cost (c : Nat) (zero : α) (x : Small α) (n : Nat) (L : Ledger) (ht : x.tagS = true) (hn : c < n) :
    (Small.resize c zero x n L).2.fp =
      (if 4 < n then (L.allocs + 5, (L.allocs + 2) :: (L.allocs + 3) :: (L.allocs + 1) :: L.allocs :: L.freed, L.lost)
       else (L.allocs + 3, (L.allocs + 1) :: L.allocs :: L.freed, L.lost)) ∧
    (Small.resize c zero x n L).1.dy.blk = some (if 4 < n then L.allocs + 4 else L.allocs + 2) := by
  have hnc : ¬ n ≤ c := by omega
  obtain ⟨hfp, hb, hsz⟩ := Small.mkSized_cost c zero n L (by omega)
  simp only [Small.resize, ht, if_true, hnc, if_false]
  generalize Small.mkSized c zero n L = nb at hfp hb hsz
  generalize hL2 : nb.2.flagIf (decide (x.st.cells.length < x.st.size ∨ nb.1.dy.cells.length < x.st.size)) Event.oob = L2
  have hL2fp : L2.fp = nb.2.fp := by rw [← hL2]; exact Ledger.fp_flagIf _ _ _
  rw [hfp] at hL2fp
  generalize hv : ({ nb.1.dy with cells := x.st.cells.take x.st.size ++ nb.1.dy.cells.drop x.st.size } : Vec α) = v
  have hvb : v.blk = nb.1.dy.blk := by rw [← hv]
  have hvs : v.size = n := by rw [← hv]; exact hsz
  obtain ⟨h1, h2⟩ := Vec.mkCopy_fp zero v L2
  simp only [Vec.destroy, hvb, hb, h2, hvs]
  rw [hvs] at h1
  -- componentwise: the copy's ledger (`h1`) on top of the temporary's (`hL2fp`), then the temporary's block freed
  by_cases h4 : 4 < n <;> simp [h4, Ledger.fp, Ledger.free] at hL2fp h1 ⊢ <;> simp [h1, hL2fp]

example : (Small.resize 4 (0 : Int) (Small.mkDefault 4 0 {}).1 6 {}).2.fp = (5, [2, 3, 1, 0], []) := by decide

/-! ### utl::maybe, utl::either -/

def maybeCfg (nt : Bool) (zero : α) : ECfg α Unit := { isMaybe := true, nt := nt, zeroL := zero, zeroR := () }
def eitherCfg (nt : Bool) (zeroL : α) (zeroR : β) : ECfg α β := { isMaybe := false, nt := nt, zeroL := zeroL, zeroR := zeroR }

/-- `maybe<T>`: after every history, for trivial and non-trivial `T`, `has_value()` and the value equal those of
    `std::optional<T>` (`Sum α Unit`, `inr ()` = nullopt) in every slot -/
theorem maybe_refines_option (nt : Bool) (zero : α) (h : List (EOp α Unit)) :
    EWRel (erun (maybeCfg nt zero) EWorld.empty h) (srun true zero () (fun _ => none) h) :=
  erun_rel (maybeCfg nt zero) (fun _ _ => rfl) h (fun _ => trivial)

/-- `either<L,R>`: after every history the active alternative and its value equal those of `std::variant<L,R>` -/
theorem either_refines_sum (nt : Bool) (zeroL : α) (zeroR : β) (h : List (EOp α β)) :
    EWRel (erun (eitherCfg nt zeroL zeroR) EWorld.empty h) (srun false zeroL zeroR (fun _ => none) h) :=
  erun_rel (eitherCfg nt zeroL zeroR) (fun hm => by simp [eitherCfg] at hm) h (fun _ => trivial)

/-- trivial element types: there is no lifetime to manage — the ledger is never touched -/
theorem either_trivial_no_lifetime (cfg : ECfg α β) (hnt : cfg.nt = false) (h : List (EOp α β)) :
    (erun cfg EWorld.empty h).led = {} := erun_trivial_led cfg hnt EWorld.empty h

/-- non-trivial left type: as long as no left value is ever stored (`neverLeft`), no constructor runs and no
    lifetime error happens -/
theorem either_nontrivial_lifetime_ok (cfg : ECfg α β) (h : List (EOp α β)) (hok : ∀ op ∈ h, neverLeft cfg op) :
    (erun cfg EWorld.empty h).led.ctors = 0 ∧ (erun cfg EWorld.empty h).led.events = [] :=
  (erun_neverLeft cfg h (w := EWorld.empty) (fun _ _ => nofun) hok).2 ▸ ⟨rfl, rfl⟩

example : ∀ op ∈ ([.mk 0, .mkR 1 (), .assign 0 1, .copy 2 0, .setR 2 (), .destroy 0] : List (EOp Int Unit)),
    neverLeft (maybeCfg true 0) op := by
  simp only [List.forall_mem_cons, neverLeft, maybeCfg, List.not_mem_nil, false_imp_iff, implies_true, and_self]

/-- lifetimes of a non-trivial left type are managed as `std::optional` / `std::variant` manage them — EVERY history:
    no lifetime error is ever recorded (no assignment into unconstructed storage, no construction over a live object,
    no destruction of a dead one), in every reachable state a left object is alive exactly in the objects whose active
    alternative is LEFT, and after destroying all objects every constructed left object has been destroyed -/
theorem either_lifetime_ok (cfg : ECfg α β) (hnt : cfg.nt = true) (h : List (EOp α β)) :
    (erun cfg EWorld.empty h).led.events = [] ∧
    (∀ k x, (erun cfg EWorld.empty h).objs k = some x → x.left.live = x.tagL) ∧
    ((∀ k, (erun cfg EWorld.empty h).objs k = none) → (erun cfg EWorld.empty h).led.ctors = (erun cfg EWorld.empty h).led.dtors) := by
  have hl := erun_life cfg hnt h (elife_empty _)
    (fun _ hop => lt_foldr_max_succ EOp.target h hop)
  refine ⟨hl.2.1, hl.1, ?_⟩
  intro hdead
  have := hl.2.2
  rw [sum_range_eq_zero _ _ (fun k _ => by rw [hdead k]; rfl)] at this
  omega

/-- regression instances of the repaired defects: a stored value is destroyed with
    its maybe; `m = nothing` destroys it; `m = v` / `m = other` on a Nothing constructs; either's copy constructs,
    switching alternatives destroys the old one -/
example :
    (let L := (erun (maybeCfg true (0 : Int)) EWorld.empty [.mkL 0 5, .destroy 0]).led
     L.ctors = 1 ∧ L.dtors = 1 ∧ L.events = []) ∧
    (let w := erun (maybeCfg true (0 : Int)) EWorld.empty [.mkL 0 5, .setR 0 ()]
     (w.objs 0).map Eith.get = some (some (.inr ())) ∧ (w.objs 0).map (·.left.live) = some false ∧ w.led.dtors = 1) ∧
    (erun (maybeCfg true (0 : Int)) EWorld.empty [.mk 0, .setL 0 5]).led.events = [] ∧
    (erun (maybeCfg true (0 : Int)) EWorld.empty [.mk 0, .mkL 1 5, .assign 0 1]).led.events = [] ∧
    (erun (eitherCfg true (0 : Int) (0 : Int)) EWorld.empty [.mkL 0 5, .copy 1 0]).led.events = [] ∧
    (let L := (erun (eitherCfg true (0 : Int) (0 : Int)) EWorld.empty [.mkL 0 5, .setR 0 3, .mkL 1 7, .assign 0 1, .destroy 0, .destroy 1]).led
     L.events = [] ∧ L.ctors = 3 ∧ L.dtors = 3) := by decide

end NmVerif.Props.C19
