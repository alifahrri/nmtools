import NmVerif.Kernel
import NmVerif.Lemmas.Kernel
/-
  C13 — Per-thread device kernel body reproduces host evaluation for any launch geometry.

  `result : Arr α` is the denotation of `fn::apply(function, operands)` inside the kernel, `out : NDA α`
  the output `device_array` built by `create_mutable_array`, a schedule is the list of `(thread_id.x, block_id.x)` in
  execution order.  `GoodOut out` = row-major, `len data = prod shape`, positive extents (the host side refuses
  `out_size <= 0`, cuda/context.hpp:257).  `Covers bsz sched n` = every cell below `n` is addressed by some thread of the
  schedule; a whole launch whose thread count is at least the output size is one (`launch_covers`).
-/
namespace NmVerif.Props.C13
open NmVerif NmVerif.Kernel

variable {α : Type}

theorem createVector_roundtrip (s : Shape) (h : s.length ≤ maxDim) : createVector s s.length = some s := by
  simp [createVector, h]

/-- `create_array(data(), shape, dim)` of a row-major array of rank at most `maxDim` whose buffer holds `prod shape` elements
    (`a.WF`) shows the same shape and the same element at every index (and every read stays inside the buffer) -/
theorem createArray_roundtrip (a : NDA α) (hrow : a.colMajor = false) (hw : a.WF) (hdim : a.shape.length ≤ maxDim) :
    ∃ v, createArray a.data a.shape a.shape.length = some v ∧ v.shape = a.shape ∧
      ∀ i, InShape i a.shape → v.get? i = a.get? i ∧ ∃ x, a.get? i = some x := by
  refine ⟨⟨a.shape, refReshapeGet a.data a.shape⟩, by simp [createArray, createVector_roundtrip a.shape hdim], rfl, ?_⟩
  intro i hi
  have hlt : computeOffset i (strides a.shape) < prod a.shape := offset_lt hi
  rw [NDA.get?_rowMajor a hrow]
  exact ⟨by simp only [refReshapeGet, strides, computeIndices, prod, Nat.div_one, Nat.mod_eq_of_lt hlt],
    _, List.getElem?_eq_getElem (hw.symm ▸ hlt)⟩

/-- the `device_array` a CUDA/HIP/SYCL kernel receives for a row-major host array of rank at most `maxDim` is that array -/
theorem deviceOperand_roundtrip (a : NDA α) (hrow : a.colMajor = false) (hdim : a.shape.length ≤ maxDim) :
    deviceOperand a = some a := by
  cases a with
  | mk shape cm data =>
    simp only at hrow hdim
    subst hrow
    simp [deviceOperand, createMutableArray, createVector_roundtrip shape hdim]

/-- KNOWN FINDING kernel.colmajor-operand: the raw triple carries no layout, so a column-major host array is re-read
    row-major inside the kernel: logical element (0,1) of the 2x2 array [[0,1],[2,3]] (buffer 0,2,1,3) reads 2. -/
theorem deviceOperand_colMajor_counterexample :
    let a : NDA Nat := NDA.ofFn true [2,2] (fun i => computeOffset i (strides [2,2]))
    a.get? [0,1] = some 1 ∧ (deviceOperand a).bind (fun d => d.get? [0,1]) = some 2 := by decide

/-- global id of a thread = `block_id * block_size + thread_id` -/
theorem threadOffset_eq (bsz t b : Nat) : threadOffset bsz (t, b) = b * bsz + t := rfl

/-- threads whose global id is not below the output size write nothing -/
theorem kernel_guard (result : Arr α) (bsz : Nat) (out : NDA α) (t : Nat × Nat)
    (h : prod out.shape ≤ threadOffset bsz t) : assignResult result bsz out t = some out := by
  have : ¬ threadOffset bsz t < prod out.shape := by omega
  simp [assignResult, this]

/-- a thread below the output size writes exactly cell `idx` of the buffer with element `idx` of the flattened result
    (`mutable_flatten(output)(idx) = flatten(result)(idx)` through compute_indices / row-major offset), never out of bounds -/
theorem kernel_step (result : Arr α) (bsz : Nat) (out : NDA α) (t : Nat × Nat) (g : GoodOut out)
    (hsh : result.shape = out.shape) (h : threadOffset bsz t < prod out.shape) :
    ∃ v, result.flat[threadOffset bsz t]? = some v ∧
      assignResult result bsz out t = some { out with data := out.data.set (threadOffset bsz t) v } :=
  ⟨_, Arr.flat_getElem? result _ (hsh ▸ h), by
    rw [assignResult_eq_copyStep result bsz out t g hsh, if_pos h, Eval.copyStep, NDA.set,
      rowMajor_offset_ndindex g.row h, hsh]⟩

/-- ANY schedule (order, interleaving, duplication, block size, grid size): the launch never leaves the buffer, and
    afterwards a cell that some executed thread addressed holds the host value, every other cell is untouched -/
theorem kernel_untouched_until_hit (result : Arr α) (bsz : Nat) (out : NDA α) (sched : List (Nat × Nat))
    (g : GoodOut out) (hsh : result.shape = out.shape) :
    ∃ d, runSchedule result bsz out sched = some { out with data := d } ∧ d.length = out.data.length ∧
      ∀ i, i < prod out.shape →
        (Hits bsz sched i → d[i]? = result.flat[i]?) ∧ (¬ Hits bsz sched i → d[i]? = out.data[i]?) := by
  let l := (sched.map (threadOffset bsz)).filter (· < prod out.shape)
  have hl : ∀ k ∈ l, k < prod out.shape := fun k hk => by simpa using (List.mem_filter.1 hk).2
  obtain ⟨hs, hc, hlen⟩ := Props.C10.fold_copy_layout result out.shape l out
  refine ⟨(l.foldl (Eval.copyStep result out.shape) out).data, ?_, hlen, fun i hi => ?_⟩
  · rw [runSchedule_eq_copyLoop result bsz sched out g hsh]
    generalize l.foldl (Eval.copyStep result out.shape) out = r at hs hc
    cases r; cases hs; cases hc; rfl
  · have hmem : i ∈ l ↔ Hits bsz sched i := by
      simp only [l, List.mem_filter, List.mem_map, decide_eq_true_eq, hi, and_true, Hits]
    rw [copyLoop_cell result l out g hl hi, Arr.flat_getElem? result i (hsh ▸ hi), hsh, ← hmem]
    exact ⟨fun h => if_pos h, fun h => if_neg h⟩

/-- the property: when the executed threads address every cell (`Covers`: all threads of a 1-d launch whose thread count is
    at least the output size, `launch_covers`) — in any order, for any block size, with any duplication and
    over-provisioning — the output buffer is the flattened host result -/
theorem kernel_any_schedule (result : Arr α) (bsz : Nat) (out : NDA α) (sched : List (Nat × Nat))
    (g : GoodOut out) (hsh : result.shape = out.shape) (cover : Covers bsz sched (prod out.shape)) :
    runSchedule result bsz out sched = some { out with data := result.flat } := by
  obtain ⟨d, hr, hdl, hs⟩ := kernel_untouched_until_hit result bsz out sched g hsh
  rw [hr, List.ext_of_length_eq (hdl.trans g.wf) (hsh ▸ result.flat_length) fun i hi => (hs i hi).1 (cover i hi)]

/-- two launches that address the same cells leave the same buffer (order / duplication / geometry are unobservable) -/
theorem kernel_schedule_irrelevant (result : Arr α) (b1 b2 : Nat) (out : NDA α) (s1 s2 : List (Nat × Nat))
    (g : GoodOut out) (hsh : result.shape = out.shape)
    (same : ∀ i, i < prod out.shape → (Hits b1 s1 i ↔ Hits b2 s2 i)) :
    runSchedule result b1 out s1 = runSchedule result b2 out s2 := by
  obtain ⟨d1, h1, l1, c1⟩ := kernel_untouched_until_hit result b1 out s1 g hsh
  obtain ⟨d2, h2, l2, c2⟩ := kernel_untouched_until_hit result b2 out s2 g hsh
  rw [h1, h2, List.ext_of_length_eq (l1.trans g.wf) (l2.trans g.wf) fun i hi => ?_]
  by_cases hh : Hits b1 s1 i
  · rw [(c1 i hi).1 hh, (c2 i hi).1 ((same i hi).1 hh)]
  · rw [(c1 i hi).2 hh, (c2 i hi).2 (fun h => hh ((same i hi).2 h))]

/-- the kernel's `result` need only be *equivalent* (same shape, same element at every in-shape index) to the host
    view — e.g. because its operands were rebuilt from raw triples (`createArray_roundtrip`) — for the launch to
    leave the flattened host evaluation -/
theorem kernel_eq_host (host dev : Arr α) (heq : dev.Equiv host) (bsz : Nat) (out : NDA α) (sched : List (Nat × Nat))
    (g : GoodOut out) (hsh : host.shape = out.shape) (cover : Covers bsz sched (prod out.shape)) :
    runSchedule dev bsz out sched = some { out with data := host.flat } := by
  rw [kernel_any_schedule dev bsz out sched g (heq.1.trans hsh) cover, heq.flat_eq]

/-- an exactly covering or over-provisioned 1-d launch of `grid` blocks of `bsz` threads covers the output -/
theorem launch_covers (bsz grid n : Nat) (h : n ≤ grid * bsz) : Covers bsz (launchAsc bsz grid) n := by
  intro i hi
  have hb : 0 < bsz := Nat.pos_of_ne_zero fun h0 => by subst h0; omega
  refine ⟨(i % bsz, i / bsz), (mem_launchAsc bsz grid _).2 ⟨Nat.mod_lt _ hb, ?_⟩, ?_⟩
  · rw [Nat.div_lt_iff_lt_mul hb]; omega
  · simp only [threadOffset]
    rw [Nat.mul_comm]; exact Nat.div_add_mod i bsz

/-- … and so does any rearrangement / duplication of it -/
theorem covers_of_subset (bsz n : Nat) (s1 s2 : List (Nat × Nat)) (hsub : ∀ t ∈ s1, t ∈ s2)
    (h : Covers bsz s1 n) : Covers bsz s2 n := by
  intro i hi
  obtain ⟨t, ht, e⟩ := h i hi
  exact ⟨t, hsub t ht, e⟩

-- a 2x3 output, block size 4, grid 2 (8 threads for 6 cells): descending order with a duplicated thread
example :
    let res : Arr Nat := ⟨[2,3], fun i => 100 + computeOffset i (strides [2,3])⟩
    let out : NDA Nat := { shape := [2,3], colMajor := false, data := List.replicate 6 0 }
    let sched := (launchAsc 4 2).reverse ++ [(1, 0)]
    (runSchedule res 4 out sched).map (·.data) = some [100,101,102,103,104,105] := by decide
example : Covers 4 (launchAsc 4 2) 6 := launch_covers 4 2 6 (by decide)
example : GoodOut ({ shape := [2,3], colMajor := false, data := List.replicate 6 0 } : NDA Nat) :=
  ⟨rfl, by simp [NDA.WF, prod], by decide⟩
-- partial schedule: only thread (1,1) of block size 2 ran → only cell 3 is final
example :
    let res : Arr Nat := ⟨[2,3], fun i => 100 + computeOffset i (strides [2,3])⟩
    let out : NDA Nat := { shape := [2,3], colMajor := false, data := List.replicate 6 0 }
    (runSchedule res 2 out [(1,1), (1,7)]).map (·.data) = some [0,0,0,103,0,0] := by decide
example : (createArray [10,11,12,13,14,15] [2,3,9,9] 2).bind (fun v => v.get? [1,2]) = some 15 := by decide

end NmVerif.Props.C13
