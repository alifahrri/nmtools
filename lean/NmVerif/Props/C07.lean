import NmVerif.Lemmas.Ufunc
/-
  C07 — Element-wise functions apply the scalar operation to broadcast operands.

  MODEL : NmVerif.ufunc / ufunc1 / ufunc2 / ufunc3 / outer (Index/Ufunc.lean) on top of the C06 broadcasting model.
  SPEC  : result shape = broadcast of the operand shapes (C06: NumPy rule); element `d` = `op` of the operands'
          elements at `specBroadcastIdx (shape operand) d` (NumPy element rule); `Nothing` iff incompatible;
          outer: shape `shape a ++ shape b`, element `(i ++ j) = op a[i] b[j]`.
  The any-arity rule `ufunc_spec`, refusal, congruence and the typed binary call (`ufunc2_spec`, `ufunc2_eq_ufunc`, …) are stated in
  Lemmas/Ufunc.lean, in this namespace: C10, C15 and C17 build on them; here are their remaining readings and `outer`.
  The scalar operation `op` and the element types are universally quantified parameters: the C++ result element type
  and the numeric value of `op` are checked by the harness (static_assert / reference expressions), not here.
-/
namespace NmVerif.Props.C07
open NmVerif NmVerif.Props.C06

/-! ### n-ary `view::ufunc` (operands of one element type, any arity) -/

/-- the result has the broadcast shape of the operand shapes -/
theorem ufunc_shape_eq_broadcast {α β : Type} (op : List α → β) (as : List (Arr α)) (u : Arr (Option β))
    (h : ufunc op as = some u) : broadcastShape (as.map (·.shape)) = some u.shape :=
  (ufunc_spec op as u h).1

/-- **element rule**: element `d` of the result is `op` applied to the operands' elements at `d` under broadcasting
    (prepended axes dropped, stretched axes read at 0), for every arity -/
theorem ufunc_elem {α β : Type} (op : List α → β) (as : List (Arr α)) (u : Arr (Option β))
    (h : ufunc op as = some u) (d : Idx) (hd : InShape d u.shape) :
    u.get d = some (op (as.map (fun a => a.get (specBroadcastIdx a.shape d)))) :=
  ((ufunc_spec op as u h).2 d hd).1

/-! ### typed arities 1, 2, 3 (operands of different element types); 2 and 3 are instances of the any-arity theorems -/

/-- unary: shape of the operand, element `d` = `op a[d]`, never `Nothing` -/
theorem ufunc1_spec {α β : Type} (op : α → β) (a : Arr α) :
    (ufunc1 op a).shape = a.shape ∧ ∀ d, (ufunc1 op a).get d = op (a.get d) := ⟨rfl, fun _ => rfl⟩

/-- ternary (`where`, `clip`): broadcast shape of the three operands, element rule -/
theorem ufunc3_spec {α β γ δ : Type} (op : α → β → γ → δ) (a : Arr α) (b : Arr β) (c : Arr γ) (u : Arr (Option δ))
    (h : ufunc3 op a b c = some u) :
    broadcastShape [a.shape, b.shape, c.shape] = some u.shape ∧
    ∀ d, InShape d u.shape →
      u.get d = some (op (a.get (specBroadcastIdx a.shape d)) (b.get (specBroadcastIdx b.shape d))
        (c.get (specBroadcastIdx c.shape d))) := by
  rw [ufunc3_eq_ufunc] at h
  obtain ⟨w, hw, rfl⟩ := Option.map_eq_some_iff.1 h
  obtain ⟨hs, he⟩ := ufunc_spec _ _ w hw
  exact ⟨hs, fun d hd => congrArg Option.join (he d hd).1⟩

/-- ternary, positive extents: `Nothing` exactly when the three shapes are incompatible -/
theorem ufunc3_none_iff_incompatible {α β γ δ : Type} (op : α → β → γ → δ) (a : Arr α) (b : Arr β) (c : Arr γ)
    (ha : Pos a.shape) (hb : Pos b.shape) (hc : Pos c.shape) :
    ufunc3 op a b c = none ↔ ¬ Compatible [a.shape, b.shape, c.shape] := by
  rw [ufunc3_eq_ufunc, Option.map_eq_none_iff]
  exact ufunc_none_iff_incompatible _ _ (by simp)
    (List.forall_mem_cons.2 ⟨ha, List.forall_mem_cons.2 ⟨hb, List.forall_mem_cons.2 ⟨hc, nofun⟩⟩⟩)

/-- the outer variant has shape `shape(a) ++ shape(b)` -/
theorem outer_shape {α β γ : Type} (op : α → β → γ) (a : Arr α) (b : Arr β) :
    (outer op a b).shape = a.shape ++ b.shape := rfl

/-- … and element `(i, j) = op a[i] b[j]` -/
theorem outer_elem {α β γ : Type} (op : α → β → γ) (a : Arr α) (b : Arr β) (i j : Idx)
    (hi : InShape i a.shape) (hj : InShape j b.shape) :
    (outer op a b).get (i ++ j) = op (a.get i) (b.get j) := by
  unfold outer outerIdx
  simp only
  rw [← hi.length_eq, ← hj.length_eq]
  simp

/-- every in-shape index of the outer result is such a pair `(i, j)`, and conversely -/
theorem outer_index_iff {α β γ : Type} (op : α → β → γ) (a : Arr α) (b : Arr β) (d : Idx) :
    InShape d (outer op a b).shape ↔ ∃ i j, d = i ++ j ∧ InShape i a.shape ∧ InShape j b.shape :=
  Shape.inShape_append_split

private def A : Arr Nat := Arr.iota [2, 1, 3]
private def B : Arr Nat := ⟨[4, 1], fun i => 100 + computeOffset i (strides [4, 1])⟩

example : (ufunc (fun l => l.foldl (· + ·) 0) [A, B]).map (·.shape) = some [2, 4, 3] := by decide
example : (ufunc (fun l => l) [A, B]).bind (·.get [1, 2, 1]) = some [4, 102] := by decide
example : (ufunc2 (fun x y => (x, y)) A B).bind (·.get [1, 2, 1]) = some (4, 102) := by decide
example : (ufunc (fun l => l) [A, ⟨[2, 2], fun _ => 0⟩]).isNone = true := by decide
example : (ufunc3 (fun c x y => if c = 0 then x else y) A B (Arr.iota [3])).bind (·.get [1, 2, 1]) = some 1 := by decide
example : (outer (fun x y => (x, y)) A B).shape = [2, 1, 3, 4, 1] := rfl
example : (outer (fun x y => (x, y)) A B).get [1, 0, 2, 3, 0] = (5, 103) := by decide

end NmVerif.Props.C07
