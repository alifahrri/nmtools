import NmVerif.Eval.Eval
import NmVerif.Eval.Cast
import NmVerif.Lemmas.Addressing
import NmVerif.Lemmas.ListBasics
import NmVerif.Lemmas.CopyLoop
import NmVerif.Lemmas.Ufunc
import NmVerif.Lemmas.ReduceAccumulate
/-
  C10 — Eager evaluation returns exactly the lazy view; composition is unobservable.

  The copy loop's invariant (`fold_copy_get`) gives the elements of the evaluated array; what can be observed of an array
  is `Arr.Equiv` (shape and in-shape elements), which every view kind respects (the `_congr` theorems), hence also a tree
  `Expr` in which any sub-views were evaluated first (`Mat`).
-/
namespace NmVerif.Props.C10
open NmVerif NmVerif.Eval

variable {α : Type}

/-- the result keeps the layout and the element count of the output it was given: the buffer of a fixed / bounded /
    dynamic output is never re-allocated or clipped by the copy loop -/
theorem evalInto_layout (out : NDA α) (v : Arr α) :
    (evalInto out v).shape = out.shape ∧ (evalInto out v).colMajor = out.colMajor ∧
    (evalInto out v).data.length = out.data.length := by
  unfold evalInto
  split
  · exact fold_copy_layout v v.shape _ out
  · simp

theorem evalInto_spec (out : NDA α) (v : Arr α) (hw : out.WF) (hsh : out.shape = v.shape) :
    (evalInto out v).shape = v.shape ∧ ∀ j, InShape j v.shape → (evalInto out v).get? j = some (v.get j) := by
  refine ⟨(evalInto_layout out v).1.trans hsh, fun j hj => ?_⟩
  unfold evalInto
  simp only [hsh, if_true]
  rw [(fold_copy_get v v.shape (List.range (prod v.shape)) out hw hsh j hj).2.2]
  exact if_pos ⟨computeOffset j (strides v.shape), by simpa using offset_lt hj, indices_offset hj⟩

/-- evaluating into a supplied output of the right shape: every element equals the view's element at that
    index, for row-major and column-major outputs alike -/
theorem evalInto_eq_view (out : NDA α) (v : Arr α) (hw : out.WF) (hsh : out.shape = v.shape) (hs : Pos v.shape)
    (j : Idx) (hj : InShape j v.shape) :
    (evalInto out v).shape = v.shape ∧ (evalInto out v).get? j = some (v.get j) :=
  (evalInto_spec out v hw hsh).imp_right (· j hj)

/-- an output of the wrong shape is left untouched (the silent return of eval.hpp) -/
theorem evalInto_mismatch_unchanged (out : NDA α) (v : Arr α) (h : out.shape ≠ v.shape) : evalInto out v = out := by
  unfold evalInto; simp [h]

/-- `evalInto_equiv` without a positivity hypothesis, as `evalFresh_equiv` (which has none) needs it -/
theorem evalInto_toArr_equiv [Inhabited α] (out : NDA α) (v : Arr α) (hw : out.WF) (hsh : out.shape = v.shape) :
    (evalInto out v).toArr.Equiv v := by
  obtain ⟨h0, hget⟩ := evalInto_spec out v hw hsh
  refine ⟨h0, fun i hi => ?_⟩
  simp [NDA.toArr, hget i (h0 ▸ hi)]

/-- a supplied output of the right shape denotes the view afterwards, whatever its layout and previous contents -/
theorem evalInto_equiv [Inhabited α] (out : NDA α) (v : Arr α) (hw : out.WF) (hsh : out.shape = v.shape) (hs : Pos v.shape) :
    (evalInto out v).toArr.Equiv v :=
  evalInto_toArr_equiv out v hw hsh

theorem evalFresh_eq_view [Inhabited α] (cm : Bool) (v : Arr α) (j : Idx) (hj : InShape j v.shape) :
    (evalFresh cm v).shape = v.shape ∧ (evalFresh cm v).get? j = some (v.get j) :=
  (evalInto_spec _ v (by simp [NDA.WF]) rfl).imp_right (· j hj)

/-- array::fn(args) ≈ view::fn(args): the evaluated array denotes the view (either result layout) -/
theorem evalFresh_equiv [Inhabited α] (cm : Bool) (v : Arr α) : (evalFresh cm v).toArr.Equiv v :=
  evalInto_toArr_equiv _ v (by simp [NDA.WF]) rfl

/-- row-major and column-major results denote the same array -/
theorem layouts_agree [Inhabited α] (v : Arr α) (hs : Pos v.shape) :
    (evalFresh false v).toArr.Equiv (evalFresh true v).toArr :=
  (evalFresh_equiv false v).trans (evalFresh_equiv true v).symm

/-- an indexing view that stays inside its operand (`w.InBounds`, the C02 obligation) only looks at in-shape elements of it:
    equivalent operands give equivalent views -/
theorem apply_congr (w : IxView) (a b : Arr α) (fill : α) (hab : a.Equiv b) (hsrc : w.src = a.shape) (hb : w.InBounds) :
    (w.apply a fill).Equiv (w.apply b fill) := by
  refine ⟨rfl, ?_⟩
  intro d hd
  simp only [IxView.apply] at *
  cases hm : w.map d with
  | none => rfl
  | some i => exact hab.2 i (hsrc ▸ hb d hd i hm)

/-- element-wise operations (ufuncs after broadcasting) respect equivalence -/
theorem map_congr (f : α → α) (a b : Arr α) (hab : a.Equiv b) : (a.map f).Equiv (b.map f) :=
  hab.map f

/-- COMPOSITION IS UNOBSERVABLE: an outer indexing view (built for the inner view's shape, `InBounds`) over a lazy inner
    view equals the outer view over the inner view evaluated to a concrete array first (any result layout) -/
theorem compose_unobservable [Inhabited α] (cm : Bool) (outer : IxView) (inner : Arr α) (fill : α)
    (hs : Pos inner.shape) (hsrc : outer.src = inner.shape) (hb : outer.InBounds) :
    (outer.apply (evalFresh cm inner).toArr fill).Equiv (outer.apply inner fill) := by
  have he := evalFresh_equiv cm inner
  exact apply_congr outer _ _ fill he (hsrc.trans he.1.symm) hb

/-- … and evaluating the composed view gives the same array as evaluating in two steps -/
theorem eval_compose [Inhabited α] (cm cm' : Bool) (outer : IxView) (inner : Arr α) (fill : α)
    (hs : Pos inner.shape) (hd : Pos outer.dst) (hsrc : outer.src = inner.shape) (hb : outer.InBounds) :
    (evalFresh cm' (outer.apply (evalFresh cm inner).toArr fill)).toArr.Equiv (evalFresh cm' (outer.apply inner fill)).toArr := by
  have h1 := evalFresh_equiv cm' (outer.apply (evalFresh cm inner).toArr fill)
  have h2 := evalFresh_equiv cm' (outer.apply inner fill)
  exact h1.trans ((compose_unobservable cm outer inner fill hs hsrc hb).trans h2.symm)

/-- the library-allocated result is well formed (buffer length = product of the view's shape): nothing was clipped -/
theorem evalFresh_wf [Inhabited α] (cm : Bool) (v : Arr α) : (evalFresh cm v).WF ∧ (evalFresh cm v).colMajor = cm := by
  unfold evalFresh
  have h := evalInto_layout ({ shape := v.shape, colMajor := cm, data := List.replicate (prod v.shape) default } : NDA α) v
  simp only [NDA.WF]
  refine ⟨?_, h.2.1⟩
  rw [h.2.2, h.1]; simp

/-- maybe-typed views: the evaluation is empty exactly when the view is, and otherwise is the evaluation of the value -/
theorem eval_none_iff_view_none [Inhabited α] (cm : Bool) (ov : Option (Arr α)) :
    (evalMaybe cm ov = none ↔ ov = none) ∧ ∀ v, ov = some v → evalMaybe cm ov = some (evalFresh cm v) := by
  cases ov <;> simp [evalMaybe]

/-- a broadcasting binary ufunc reads each operand inside its own shape -/
theorem ufunc2_reads_inShape {β γ : Type} (op : α → β → γ) (a : Arr α) (b : Arr β) (u : Arr (Option γ))
    (h : ufunc2 op a b = some u) (d : Idx) (hd : InShape d u.shape) :
    InShape (specBroadcastIdx a.shape d) a.shape ∧ InShape (specBroadcastIdx b.shape d) b.shape := by
  rw [C07.ufunc2_eq_ufunc] at h
  obtain ⟨w, hw, rfl⟩ := Option.map_eq_some_iff.1 h
  have := C07.ufunc_reads_inBounds _ _ w hw d hd
  exact ⟨this (a.map Sum.inl) (by simp), this (b.map Sum.inr) (by simp)⟩

/-- binary broadcasting ufunc (`view::add`, `multiply`, …): equivalent operands give the same Nothing-ness and
    equivalent results -/
theorem ufunc2_congr {β γ : Type} (op : α → β → γ) (a a' : Arr α) (b b' : Arr β) (ha : a.Equiv a') (hb : b.Equiv b') :
    (ufunc2 op a b = none ↔ ufunc2 op a' b' = none) ∧
    ∀ u u', ufunc2 op a b = some u → ufunc2 op a' b' = some u' → u.Equiv u' := by
  rw [C07.ufunc2_eq_ufunc, C07.ufunc2_eq_ufunc]
  refine C07.ufunc_join_congr _ rfl ?_
  simp only [List.zip_cons_cons, List.zip_nil_right, List.forall_mem_cons]
  exact ⟨ha.map _, hb.map _, nofun⟩

/-- a broadcasting ternary ufunc (`view::where`) reads each operand inside its own shape -/
theorem ufunc3_reads_inShape {β γ δ : Type} (op : α → β → γ → δ) (a : Arr α) (b : Arr β) (c : Arr γ) (u : Arr (Option δ))
    (h : ufunc3 op a b c = some u) (d : Idx) (hd : InShape d u.shape) :
    InShape (specBroadcastIdx a.shape d) a.shape ∧ InShape (specBroadcastIdx b.shape d) b.shape ∧
    InShape (specBroadcastIdx c.shape d) c.shape := by
  rw [C07.ufunc3_eq_ufunc] at h
  obtain ⟨w, hw, rfl⟩ := Option.map_eq_some_iff.1 h
  have := C07.ufunc_reads_inBounds _ _ w hw d hd
  exact ⟨this (a.map Sum.inl) (by simp), this (b.map (Sum.inr ∘ Sum.inl)) (by simp),
    this (c.map (Sum.inr ∘ Sum.inr)) (by simp)⟩

/-- ternary broadcasting ufunc (`view::where`): equivalent operands give the same Nothing-ness and equivalent results -/
theorem ufunc3_congr {β γ δ : Type} (op : α → β → γ → δ) (a a' : Arr α) (b b' : Arr β) (c c' : Arr γ)
    (ha : a.Equiv a') (hb : b.Equiv b') (hc : c.Equiv c') :
    (ufunc3 op a b c = none ↔ ufunc3 op a' b' c' = none) ∧
    ∀ u u', ufunc3 op a b c = some u → ufunc3 op a' b' c' = some u' → u.Equiv u' := by
  rw [C07.ufunc3_eq_ufunc, C07.ufunc3_eq_ufunc]
  refine C07.ufunc_join_congr _ rfl ?_
  simp only [List.zip_cons_cons, List.zip_nil_right, List.forall_mem_cons]
  exact ⟨ha.map _, hb.map _, hc.map _, nofun⟩

/-- reductions (`view::sum`, `prod`, `amax`, … = `reduce`) over axes NumPy accepts: equivalent operands give equivalent
    results (and both are defined) -/
theorem reduce_congr (op : α → α → α) (init : Option α) (a b : Arr α) (axis : Reduce.AxisArg) (keep : Bool)
    (hab : a.Equiv b) (hs : Pos a.shape) (hv : Reduce.ValidAxes a.shape.length axis) :
    ∃ u u', Reduce.reduce op init a axis keep = some u ∧ Reduce.reduce op init b axis keep = some u' ∧ u.Equiv u' := by
  have hsh := hab.1
  have hr := Reduce.removeDims_eq_spec a.shape axis keep hv
  refine ⟨_, _, by rw [Reduce.reduce, hr, Option.map_some], by rw [Reduce.reduce, ← hsh, hr, Option.map_some], ?_, ?_⟩
  · rfl
  intro j hj
  simp only at hj ⊢
  rw [Reduce.reduceElem_eq_spec op init a axis keep hv j hj,
    Reduce.reduceElem_eq_spec op init b axis keep (hsh ▸ hv) j (hsh ▸ hj), Reduce.specReduceElem, Reduce.specReduceElem,
    ← hsh]
  exact congrArg _ (List.map_congr_left fun i hi => hab.2 i (mem_allIdx_inShape (List.mem_filter.1 hi).1))

/-- accumulations (`view::cumsum`, `cumprod` = `accumulate`) along any axis NumPy accepts (`-dim ≤ axis < dim`,
    negative axes included): equivalent operands give equivalent results -/
theorem accumulate_congr (op : α → α → α) (a b : Arr α) (axis : Int) (hab : a.Equiv b)
    (hv : Reduce.ValidAxis a.shape.length axis) :
    (Reduce.accumulate op a axis).Equiv (Reduce.accumulate op b axis) := by
  refine ⟨hab.1, fun d hd => ?_⟩
  simp only [Reduce.accumulate] at hd ⊢
  rw [Reduce.accumulateElem_eq_reads, Reduce.accumulateElem_eq_reads, ← hab.1]
  obtain ⟨r, hrd, hin⟩ := C08.accumulate_inBounds a.shape axis hv d hd
  rw [hrd]
  simp only [Option.bind_some]
  congr 1
  exact List.map_congr_left (fun i hi => hab.2 i (hin i hi))

theorem denote_pos (e : Expr α) (hw : e.WF) : Pos e.denote.shape := by
  induction e with
  | leaf a => exact hw
  | index w fill e _ => exact hw.2.2.2
  | map f e ih => exact ih hw
  | zip f e₁ e₂ ih₁ _ => exact ih₁ hw.1
  | gather s r g e _ => exact hw.2.1
  | gather2 s r₁ r₂ g e₁ e₂ _ _ => exact hw.2.2.1

/-- COMPOSITION IS UNOBSERVABLE, any depth, any well-formed tree: evaluating an arbitrary set of sub-views to concrete
    arrays first (one resolver layout for all of them) changes neither the shape nor any element of the composed view,
    and keeps it well formed -/
theorem mat_unobservable [Inhabited α] (cm : Bool) (e e' : Expr α) (hm : Mat cm e e') (hw : e.WF) :
    e'.denote.Equiv e.denote ∧ e'.WF := by
  induction hm with
  | leaf a => exact ⟨Arr.Equiv.refl _, hw⟩
  | index w fill _ ih =>
    obtain ⟨hwe, hsrc, hb, hp⟩ := hw
    obtain ⟨he, hwe'⟩ := ih hwe
    have hsrc' := hsrc.trans he.1.symm
    exact ⟨apply_congr w _ _ fill he hsrc' hb, hwe', hsrc', hb, hp⟩
  | map f _ ih =>
    obtain ⟨he, hwe'⟩ := ih hw
    exact ⟨map_congr f _ _ he, hwe'⟩
  | zip f _ _ ih₁ ih₂ =>
    obtain ⟨hw₁, hw₂, hsh⟩ := hw
    obtain ⟨he₁, hw₁'⟩ := ih₁ hw₁
    obtain ⟨he₂, hw₂'⟩ := ih₂ hw₂
    refine ⟨⟨he₁.1, fun d hd => ?_⟩, hw₁', hw₂', by rw [he₁.1, he₂.1, hsh]⟩
    simp only [Expr.denote] at hd ⊢
    rw [he₁.2 d hd, he₂.2 d (by rw [he₂.1, ← hsh, ← he₁.1]; exact hd)]
  | gather s r g _ ih =>
    obtain ⟨hwe, hp, hin⟩ := hw
    obtain ⟨he, hwe'⟩ := ih hwe
    -- `s = s`: a bare `rfl` makes the kernel compare the two denotations part by part before it reduces `.shape`
    refine ⟨⟨(rfl : s = s), fun d hd => ?_⟩, hwe', hp, fun d hd i hi => he.1 ▸ hin d hd i hi⟩
    simp only [Expr.denote] at hd ⊢
    congr 1
    exact List.map_congr_left (fun i hi => he.2 i (he.1 ▸ hin d hd i hi))
  | gather2 s r₁ r₂ g _ _ ih₁ ih₂ =>
    obtain ⟨hw₁, hw₂, hp, hin₁, hin₂⟩ := hw
    obtain ⟨he₁, hw₁'⟩ := ih₁ hw₁
    obtain ⟨he₂, hw₂'⟩ := ih₂ hw₂
    refine ⟨⟨(rfl : s = s), fun d hd => ?_⟩, hw₁', hw₂', hp, fun d hd i hi => he₁.1 ▸ hin₁ d hd i hi,
      fun d hd i hi => he₂.1 ▸ hin₂ d hd i hi⟩
    simp only [Expr.denote] at hd ⊢
    congr 1
    · exact List.map_congr_left (fun i hi => he₁.2 i (he₁.1 ▸ hin₁ d hd i hi))
    · exact List.map_congr_left (fun i hi => he₂.2 i (he₂.1 ▸ hin₂ d hd i hi))
  | eval _ ih =>
    obtain ⟨he, hwe'⟩ := ih hw
    refine ⟨(evalFresh_equiv cm _).trans he, ?_⟩
    show Pos (evalFresh cm _).toArr.shape
    rw [(evalFresh_equiv cm _).1]; exact denote_pos _ hwe'

/-- … hence every evaluation strategy of one composition returns the same array: evaluate the whole lazy view once,
    or evaluate any sub-views first and then the rest (resolver layouts `cm` for the inner, `cm'` for the final call) -/
theorem eval_any_strategy [Inhabited α] (cm cm' : Bool) (e e' : Expr α) (hm : Mat cm e e') (hw : e.WF) :
    (evalFresh cm' e'.denote).toArr.Equiv (evalFresh cm' e.denote).toArr := by
  obtain ⟨he, hw'⟩ := mat_unobservable cm e e' hm hw
  exact (evalFresh_equiv cm' _).trans (he.trans (evalFresh_equiv cm' _).symm)

example : (evalFresh true (Arr.iota [2,3])).data = [0,3,1,4,2,5] := by decide
example : (evalFresh false (Arr.iota [2,3])).data = [0,1,2,3,4,5] := by decide
example : (evalInto ({ shape := [3,2], colMajor := false, data := [9,9,9,9,9,9] } : NDA Nat) (Arr.iota [2,3])).data =
    [9,9,9,9,9,9] := by decide

example : (evalInto ({ shape := [2,3], colMajor := true, data := [9,9,9,9,9,9] } : NDA Nat) (Arr.iota [2,3])).data =
    [0,3,1,4,2,5] := by decide
example : evalMaybe true (none : Option (Arr Nat)) = none := rfl
example : (evalMaybe true (some (Arr.iota [2,3]))).map (·.data) = some [0,3,1,4,2,5] := by decide

/-- transpose of a (3,2) operand, as an indexing view -/
private def tr32 : IxView := ⟨[3,2], [2,3], fun d => match d with | [i, j] => some [j, i] | _ => none⟩
private theorem tr32_inBounds : tr32.InBounds := by
  intro d hd i hi
  obtain ⟨x, t, rfl⟩ := List.exists_cons_of_length_eq_add_one hd.length_eq
  obtain ⟨y, rfl⟩ := List.length_eq_one_iff.1 hd.2.length_eq
  cases hi
  exact ⟨hd.2.1, hd.1, trivial⟩
/-- `sum(add(transpose(a), b), axis=1)` over provenance leaves: a depth-3 binary tree -/
private def demo : Expr Nat :=
  .gather [2] (fun d => match d with | [i] => [[i,0],[i,1],[i,2]] | _ => []) List.sum
    (.zip (· + ·) (.index tr32 0 (.leaf (Arr.iota [3,2]))) (.leaf ((Arr.iota [2,3]).map (· + 1000))))
private theorem demo_wf : demo.WF := by
  have h1 : Pos (Arr.iota [3,2]).shape := by decide
  have h2 : Pos ((Arr.iota [2,3]).map (· + 1000)).shape := by decide
  have h3 : Pos tr32.dst := by decide
  have h4 : Pos [2] := by decide
  refine ⟨⟨⟨h1, rfl, tr32_inBounds, h3⟩, h2, rfl⟩, h4, ?_⟩
  intro d hd i hi
  obtain ⟨x, rfl⟩ := List.length_eq_one_iff.1 hd.length_eq
  have hx : x < 2 := hd.1
  simp only [List.mem_cons, List.not_mem_nil, or_false] at hi
  rcases hi with rfl | rfl | rfl <;> exact ⟨hx, by decide, trivial⟩
example : demo.denote.flat = [3009, 3021] := by decide
/-- the same tree with the transpose evaluated to a column-major array first, then the sum evaluated -/
example : ((evalFresh false (Expr.gather [2] (fun d => match d with | [i] => [[i,0],[i,1],[i,2]] | _ => []) List.sum
    (.zip (· + ·) (.leaf (evalFresh true (Expr.index tr32 0 (.leaf (Arr.iota [3,2]))).denote).toArr)
      (.leaf ((Arr.iota [2,3]).map (· + 1000))))).denote).data) = [3009, 3021] := by decide
example : ∀ e', Mat true demo e' → (evalFresh false e'.denote).toArr.Equiv (evalFresh false demo.denote).toArr :=
  fun e' hm => eval_any_strategy true false demo e' hm demo_wf
example : (ufunc2 (· + ·) (Arr.iota [2,1]) (Arr.iota [3])).map (·.shape) = some [2,3] := by decide
example : (ufunc2 (· + ·) (Arr.iota [2,3]) (Arr.iota [2])).isNone := by decide
example : (Reduce.reduce (· + ·) none (Arr.iota [2,3]) (some [1]) true).map (fun u => (u.shape, u.get [1,0])) =
    some ([2,1], some 12) := by decide
example : Reduce.ValidAxes [2,3].length (some [1]) := by decide
example : Reduce.ValidAxis [2,3].length (-1) := by decide
example : (Reduce.accumulate (· + ·) (Arr.iota [2,3]) (-1)).get [1,2] = some 12 := by decide
example : (ufunc3 (fun c x y => if c = 0 then y else x) (Arr.iota [3]) (Arr.iota [2,3]) (Arr.iota [1])).map
    (fun u => (u.shape, u.get [1,0], u.get [1,2])) = some ([2,3], some 0, some 5) := by decide

/-! ## element types: evaluation into a container of another element type

  `evalIntoCast cast` / `evalFreshCast cast` (Eval/Cast.lean) mirror the copy loop when the result's element type is not
  the view's: the assignment is the implicit conversion `cast`.  The correspondence run (harness/h_c10mx.cpp: bare
  eval(view) with the older resolver and array::fn over every operand-kind pairing x element-type pairs) ties "the resolvers
  choose the view's element type" (`cast = id`) to the code; the seeded change C10-5 is an instance of `cast` = truncation. -/
section cast
variable {β : Type}

/-- the converting copy loop is the plain copy loop of the converted view -/
theorem evalIntoCast_eq_evalInto_map (cast : α → β) (out : NDA β) (v : Arr α) :
    evalIntoCast cast out v = evalInto out (v.map cast) := rfl

/-- evaluating into a supplied output of element type `β` and of the right shape: every element is EXACTLY the element-wise
    conversion of the view's element (both layouts) -/
theorem evalIntoCast_elem (cast : α → β) (out : NDA β) (v : Arr α) (hw : out.WF) (hsh : out.shape = v.shape)
    (hs : Pos v.shape) (j : Idx) (hj : InShape j v.shape) :
    (evalIntoCast cast out v).shape = v.shape ∧ (evalIntoCast cast out v).get? j = some (cast (v.get j)) :=
  evalInto_eq_view out (v.map cast) hw hsh hs j hj

/-- a wrong-shaped output of any element type is left untouched -/
theorem evalIntoCast_mismatch_unchanged (cast : α → β) (out : NDA β) (v : Arr α) (h : out.shape ≠ v.shape) :
    evalIntoCast cast out v = out :=
  evalInto_mismatch_unchanged out (v.map cast) h

/-- a library-allocated result of a (narrower or wider) element type `β` holds exactly the element-wise conversion -/
theorem evalFreshCast_elem [Inhabited β] (cast : α → β) (cm : Bool) (v : Arr α) (hs : Pos v.shape)
    (j : Idx) (hj : InShape j v.shape) :
    (evalFreshCast cast cm v).shape = v.shape ∧ (evalFreshCast cast cm v).get? j = some (cast (v.get j)) :=
  evalFresh_eq_view cm (v.map cast) j hj

/-- a result container of the view's own element type (what both resolvers build: `element_t = get_element_type_t<view>`)
    is cast-free: it is the plain evaluation … -/
theorem evalFreshCast_id [Inhabited α] (cm : Bool) (v : Arr α) : evalFreshCast id cm v = evalFresh cm v := rfl

/-- … so every element of the view is preserved -/
theorem eval_same_type_preserves [Inhabited α] (cm : Bool) (v : Arr α) (hs : Pos v.shape) (j : Idx) (hj : InShape j v.shape) :
    (evalFreshCast id cm v).shape = v.shape ∧ (evalFreshCast id cm v).get? j = some (v.get j) :=
  evalFreshCast_elem id cm v hs j hj

/-- the evaluated array equals the view at `j` iff the conversion fixes that element: a narrowing result type is
    observable exactly at the elements the conversion changes -/
theorem evalFreshCast_preserves_iff [Inhabited α] (cast : α → α) (cm : Bool) (v : Arr α) (hs : Pos v.shape)
    (j : Idx) (hj : InShape j v.shape) :
    (evalFreshCast cast cm v).get? j = some (v.get j) ↔ cast (v.get j) = v.get j := by
  rw [(evalFreshCast_elem cast cm v hs j hj).2]
  exact ⟨fun h => Option.some.inj h, fun h => by rw [h]⟩

/-- elements in quarter units (6 = 1.5): the view add(fixed double, dynamic int) of the seeded change C10-5 -/
private def quarters : Arr Int := ⟨[2,3], fun i => match i with | [a, b] => 6 + 4 * (3 * a + b) + b | _ => 0⟩
/-- double → int of a value given in quarter units, back in quarter units -/
private def truncQ (q : Int) : Int := 4 * (q.tdiv 4)

example : (evalFreshCast id false quarters).data = [6, 11, 16, 18, 23, 28] := by decide
example : (evalFreshCast truncQ false quarters).data = [4, 8, 16, 16, 20, 28] := by decide
example : (evalFreshCast truncQ true quarters).data = [4, 16, 8, 20, 16, 28] := by decide
example : (evalIntoCast truncQ ({ shape := [2,3], colMajor := false, data := [9,9,9,9,9,9] } : NDA Int) quarters).get? [1,1] =
    some (truncQ (quarters.get [1,1])) :=
  (evalIntoCast_elem truncQ _ quarters (by simp [NDA.WF, prod]) rfl (by decide) [1,1] (by decide)).2
example : (evalIntoCast truncQ ({ shape := [3,2], colMajor := false, data := [9,9,9,9,9,9] } : NDA Int) quarters).data =
    [9,9,9,9,9,9] := by decide
example : Pos quarters.shape ∧ InShape [1,2] quarters.shape := by decide
/-- the narrowed result differs from the view at [0,0] (1.5 → 1) and agrees at [0,2] (4.0) -/
example : ¬ (evalFreshCast truncQ false quarters).get? [0,0] = some (quarters.get [0,0]) := by decide
example : (evalFreshCast truncQ false quarters).get? [0,2] = some (quarters.get [0,2]) := by decide
end cast

end NmVerif.Props.C10
