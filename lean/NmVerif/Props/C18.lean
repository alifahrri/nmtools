import NmVerif.Utility.IsEqual
import NmVerif.Lemmas.Addressing
import NmVerif.Lemmas.ListBasics
/-
  C18 — isequal / isclose are exact comparison oracles (shape-aware, symmetric, total).

  On a well-formed ndarray the element reads come back as the buffer in order (`flatRead_eq`, the C01 round trip), so the
  array leaves equal their specifications and never answer `oob`; the dispatchers are then handled arm by arm.  Symmetry
  needs no well-formedness (`isequal_comm`, `isclose_comm`).
-/
namespace NmVerif.Props.C18
open NmVerif NmVerif.IsEqual

theorem flatRead_eq (s : Shape) (d : List Int) (hl : d.length = prod s) :
    flatRead s d = d.map some := by
  unfold flatRead ndGet
  rw [← List.map_getElem?_range d, hl]
  apply List.map_congr_left
  intro i hi
  rw [Shape.offset_ndindex (List.mem_range.mp hi)]

private theorem map_some_beq (a b : List Int) : ((a.map some) == (b.map some)) = decide (a = b) := by
  rw [Bool.eq_iff_iff, beq_iff_eq, decide_eq_true_iff, List.map_inj_right fun _ _ => Option.some.inj]

/-- operands of different shape compare false whatever the buffers hold — no element is read -/
theorem isequalNd_diff_shape (s1 : Shape) (d1 : List Int) (s2 : Shape) (d2 : List Int) (h : s1 ≠ s2) :
    isequalNd s1 d1 s2 d2 = .val false := by
  unfold isequalNd
  by_cases hl : s1.length = s2.length <;> simp [h, hl]

/-- isequal on arrays whose buffers hold `prod shape` elements = same dimension ∧ same shape ∧ all elements equal; total
    (never out of bounds) -/
theorem isequalNd_eq_spec (s1 : Shape) (d1 : List Int) (s2 : Shape) (d2 : List Int)
    (h1 : d1.length = prod s1) (h2 : d2.length = prod s2) :
    isequalNd s1 d1 s2 d2 = .val (specNd s1 d1 s2 d2) := by
  by_cases hs : s1 = s2
  · subst hs
    unfold isequalNd specNd
    simp only [ne_eq, not_true_eq_false, if_false]
    rw [flatRead_eq s1 d1 h1, flatRead_eq s1 d2 h2]
    simp [map_some_beq]
  · rw [isequalNd_diff_shape _ _ _ _ hs, specNd, decide_eq_false hs, Bool.false_and]

theorem isequalIdx_eq_spec (a b : List Int) : isequalIdx a b = .val (specIdx a b) := by
  unfold isequalIdx specIdx
  by_cases hl : a.length = b.length
  · simp only [hl, ne_eq, not_true_eq_false, if_false]
    rw [← hl, List.map_getElem?_range a, hl, List.map_getElem?_range b]
    simp [map_some_beq]
  · have : a ≠ b := fun h => hl (by rw [h])
    simp [hl, this]

/-- index arrays of different length compare false without reading either -/
theorem isequalIdx_diff_length (a b : List Int) (h : a.length ≠ b.length) : isequalIdx a b = .val false := by
  unfold isequalIdx; simp [h]

theorem isequalNd_symm (s1 : Shape) (d1 : List Int) (s2 : Shape) (d2 : List Int) :
    isequalNd s1 d1 s2 d2 = isequalNd s2 d2 s1 d1 := by
  by_cases h : s1 = s2
  · subst h; unfold isequalNd; dsimp only; rw [Bool.and_comm, BEq.comm]
  · rw [isequalNd_diff_shape _ _ _ _ h, isequalNd_diff_shape _ _ _ _ (Ne.symm h)]

theorem isequalIdx_symm (a b : List Int) : isequalIdx a b = isequalIdx b a := by
  rw [isequalIdx_eq_spec, isequalIdx_eq_spec]; unfold specIdx
  by_cases h : a = b <;> simp [h, eq_comm]

theorem isequalNd_refl (s : Shape) (d : List Int) (h : d.length = prod s) :
    isequalNd s d s d = .val true := by
  rw [isequalNd_eq_spec s d s d h h]; simp [specNd]

/-- optionals: two empties equal, empty vs non-empty different, non-empty compare their values -/
theorem maybe_cases (a b : Val) :
    isequal .nothing .nothing = .val true ∧ isequal .nothing (.just a) = .val false ∧
    isequal (.just a) .nothing = .val false ∧ isequal (.just a) (.just b) = isequal a b := by
  refine ⟨?_, ?_, ?_, ?_⟩ <;> rw [isequal.eq_def]

/-- either: alternative-by-alternative -/
theorem either_cases (a b : Val) :
    isequal (.left a) (.left b) = isequal a b ∧ isequal (.right a) (.right b) = isequal a b ∧
    isequal (.left a) (.right b) = .val false ∧ isequal (.right a) (.left b) = .val false := by
  refine ⟨?_, ?_, ?_, ?_⟩ <;> rw [isequal.eq_def]

/-- tuples: component-wise conjunction -/
theorem tuple_cases (a b as bs : Val) :
    isequal (.pair a as) (.pair b bs) = (isequal a b).and (isequal as bs) ∧ isequal .unit .unit = .val true := by
  refine ⟨?_, ?_⟩ <;> rw [isequal.eq_def]

theorem isequal_refl (a : Val) (h : WF a) : isequal a a = .val true := by
  induction a <;> unfold isequal
  case idx l => rw [isequalIdx_eq_spec, specIdx, decide_eq_true rfl]
  case nd s d => exact isequalNd_refl s d h.1
  case lit => exact h.elim
  case just v ih => exact ih h
  case left v ih => exact ih h
  case right v ih => exact ih h
  case pair a b iha ihb => rw [iha h.1, ihb h.2]; rfl
  all_goals simp only [BEq.rfl]

private theorem and_ne_oob {x y : Res} (hx : x ≠ .oob) (hy : y ≠ .oob) : x.and y ≠ .oob := by
  cases x <;> cases y <;> simp_all [Res.and]

/-- TOTAL: for every pairing and all well-formed operands (`WF`: every array has `prod shape` elements and positive extents;
    shapes equal or not), isequal answers without reading outside either operand -/
theorem isequal_never_oob (a b : Val) (ha : WF a) (hb : WF b) : isequal a b ≠ .oob := by
  fun_induction isequal a b <;> simp only [WF, ne_eq, reduceCtorEq, not_false_eq_true] at ha hb ⊢ <;>
    simp only [ne_eq, reduceCtorEq, not_false_eq_true, and_ne_oob, isequalIdx_eq_spec, isequalNd_eq_spec, *]

theorem sameConcept_comm (a b : Val) : sameConcept a b = sameConcept b a := by
  unfold sameConcept
  generalize unwrapJ a = x, unwrapJ b = y
  -- clause by clause: a pair in the catch-all clause is, mirrored, in no value clause either
  fun_cases sameConcept0 x y
  iterate 3 rfl
  fun_cases sameConcept0 y x <;> first | rfl | (exfalso; solve_by_elim)

/-- on each pair of head constructors the two sides unfold to mirrored arms of the dispatcher -/
theorem isequal_comm (a b : Val) : isequal a b = isequal b a := by
  induction a generalizing b <;> induction b <;> unfold isequal <;>
    simp only [sameConcept_comm, isequalNd_symm, isequalIdx_symm, BEq.comm, *]

/-- SYMMETRIC on every accepted pairing (optionals, eithers, tuples, arrays, index arrays, numbers) -/
theorem isequal_symm (a b : Val) (ha : WF a) (hb : WF b) : isequal a b = isequal b a := isequal_comm a b

/-- isclose on arrays whose buffers hold `prod shape` elements: shapes match ∧ every element difference below eps; total -/
theorem iscloseNd_eq_spec (eps : Int) (s1 : Shape) (d1 : List Int) (s2 : Shape) (d2 : List Int)
    (h1 : d1.length = prod s1) (h2 : d2.length = prod s2) :
    iscloseNd eps s1 d1 s2 d2 = .val (specCloseNd eps s1 d1 s2 d2) := by
  unfold iscloseNd specCloseNd
  by_cases hs : s1 = s2
  · subst hs
    simp only [ne_eq, not_true_eq_false, if_false]
    rw [flatRead_eq s1 d1 h1, flatRead_eq s1 d2 h2]
    simp [List.zipWith_map_left, List.zipWith_map_right, closeElem]
  · simp [hs]

theorem iscloseNd_diff_shape (eps : Int) (s1 : Shape) (d1 : List Int) (s2 : Shape) (d2 : List Int) (h : s1 ≠ s2) :
    iscloseNd eps s1 d1 s2 d2 = .val false := by
  unfold iscloseNd; simp [h]

/-! ### the bare `meta::Nothing` literal (public dispatcher, utility/isequal.hpp:492-497; seeded change C18-4) -/

/-- the literal against an optional: equal exactly to the EMPTY optional, in BOTH operand orders; literal vs literal is
    not part of the API (the fail type is returned) -/
theorem isequal_lit_cases (a : Val) :
    isequal .lit .nothing = .val true ∧ isequal .nothing .lit = .val true ∧
    isequal .lit (.just a) = .val false ∧ isequal (.just a) .lit = .val false ∧ isequal .lit .lit = .notAccepted := by
  refine ⟨?_, ?_, ?_, ?_, ?_⟩ <;> rw [isequal.eq_def]

/-- symmetric with the literal on either side, whatever the other operand is -/
theorem isequal_lit_symm (a : Val) : isequal .lit a = isequal a .lit := isequal_comm .lit a

/-- SYMMETRIC on every pairing of value operands and the literal -/
theorem isequal_symm_ext (a b : Val) (ha : WF a ∨ a = .lit) (hb : WF b ∨ b = .lit) : isequal a b = isequal b a :=
  isequal_comm a b

example : isequal .lit (.just (.nd [2] [1,2])) = .val false ∧ isequal .lit .nothing = isequal .nothing .lit := by
  simp only [isequal.eq_def]; decide
example : WF (.just (.left (.num 3))) ∨ (.just (.left (.num 3)) : Val) = .lit := Or.inl (by simp [WF])

/-- the concept of an either alternative is taken through optionals: either<maybe<num>,·> holding 3 equals the number 3 -/
example : isequal (.left (.just (.num 3))) (.num 3) = .val true ∧ isequal (.num 3) (.left (.just (.num 3))) = .val true := by
  simp only [isequal.eq_def]; decide

theorem isclose_maybe_cases (eps : Int) (a b : Val) :
    isclose eps .nothing .nothing = .val true ∧ isclose eps .nothing (.just a) = .val false ∧
    isclose eps (.just a) .nothing = .val false ∧ isclose eps (.just a) (.just b) = isclose eps a b := by
  refine ⟨?_, ?_, ?_, ?_⟩ <;> rw [isclose.eq_def]

theorem isclose_either_cases (eps : Int) (a b : Val) :
    isclose eps (.left a) (.left b) = isclose eps a b ∧ isclose eps (.right a) (.right b) = isclose eps a b ∧
    isclose eps (.left a) (.right b) = .val false ∧ isclose eps (.right a) (.left b) = .val false := by
  refine ⟨?_, ?_, ?_, ?_⟩ <;> rw [isclose.eq_def]

theorem isclose_tuple_cases (eps : Int) (a b as bs : Val) :
    isclose eps (.pair a as) (.pair b bs) = (isclose eps a b).and (isclose eps as bs) ∧ isclose eps .unit .unit = .val true := by
  refine ⟨?_, ?_⟩ <;> rw [isclose.eq_def]

private theorem natAbs_sub_comm (x y : Int) : (x - y).natAbs = (y - x).natAbs := by omega

theorem closeElem_comm (eps : Int) (x y : Option Int) : closeElem eps x y = closeElem eps y x := by
  cases x <;> cases y <;> simp only [closeElem, natAbs_sub_comm]

theorem iscloseNd_symm (eps : Int) (s1 : Shape) (d1 : List Int) (s2 : Shape) (d2 : List Int) :
    iscloseNd eps s1 d1 s2 d2 = iscloseNd eps s2 d2 s1 d1 := by
  by_cases h : s1 = s2
  · subst h; unfold iscloseNd; dsimp only; rw [Bool.and_comm, List.zipWith_comm_of_comm (closeElem_comm eps)]
  · rw [iscloseNd_diff_shape _ _ _ _ _ h, iscloseNd_diff_shape _ _ _ _ _ (Ne.symm h)]

theorem isclose_comm (eps : Int) (a b : Val) : isclose eps a b = isclose eps b a := by
  induction a generalizing b <;> induction b <;> unfold isclose <;>
    simp only [sameConcept_comm, iscloseNd_symm, natAbs_sub_comm, *]

/-- isclose is SYMMETRIC on every accepted pairing -/
theorem isclose_symm (eps : Int) (a b : Val) (ha : WF a) (hb : WF b) : isclose eps a b = isclose eps b a :=
  isclose_comm eps a b

private theorem and_accepted {x y : Res} (h : x.and y ≠ .notAccepted) : x ≠ .notAccepted ∧ y ≠ .notAccepted := by
  cases x <;> cases y <;> simp_all [Res.and]

/-- isclose is REFLEXIVE for every positive tolerance, on every operand the function accepts (`hacc`: a `.idx` operand is
    not accepted — isclose compares index arrays as 1-d ndarrays, which are `.nd` operands here) -/
theorem isclose_refl (eps : Int) (h : 0 < eps) (a : Val) (ha : WF a) (hacc : isclose eps a a ≠ .notAccepted) :
    isclose eps a a = .val true := by
  induction a <;> unfold isclose at hacc ⊢
  case num n => simp [h]
  case idx l => exact absurd rfl hacc
  case nd s d =>
    rw [iscloseNd_eq_spec eps s d s d ha.1 ha.1]
    simp [specCloseNd, List.zipWith_self, h]
  case lit => exact ha.elim
  case just v ih => exact ih ha hacc
  case left v ih => exact ih ha hacc
  case right v ih => exact ih ha hacc
  case pair a b iha ihb =>
    have := and_accepted hacc
    rw [iha ha.1 this.1, ihb ha.2 this.2]; rfl
  all_goals rfl

example : WF (.pair (.num 3) (.pair (.just (.nd [2] [3,4])) .unit)) ∧
    isclose 8 (.pair (.num 3) (.pair (.just (.nd [2] [3,4])) .unit)) (.pair (.num 3) (.pair (.just (.nd [2] [3,4])) .unit)) ≠ .notAccepted := by
  refine ⟨⟨trivial, ⟨by decide, by decide⟩, trivial⟩, ?_⟩
  simp only [isclose.eq_def]; decide

/-- isclose IS the reference on every pairing of well-formed operands, the either-vs-plain arms included (finding
    isclose.either-plain-eps); `iscloseRef` being the same dispatcher over `specCloseNd`, this is `iscloseNd_eq_spec`
    carried through the operand grammar -/
theorem isclose_eq_ref (eps : Int) (a b : Val) (ha : WF a) (hb : WF b) :
    isclose eps a b = iscloseRef eps a b := by
  -- the reference has the same patterns: in each case its own equation applies, with the case's hypotheses as side conditions
  fun_induction isclose eps a b <;> simp only [iscloseRef, ↓reduceIte, Bool.false_eq_true, *] <;>
    simp only [WF] at ha hb <;> simp only [iscloseNd_eq_spec, *]

theorem iscloseRef_ne_oob (eps : Int) (a b : Val) : iscloseRef eps a b ≠ .oob := by
  fun_induction iscloseRef eps a b <;> simp only [ne_eq, reduceCtorEq, not_false_eq_true, and_ne_oob, *]

/-- TOTAL: isclose never reads outside an operand, for every pairing of well-formed operands, shapes equal or not -/
theorem isclose_never_oob (eps : Int) (a b : Val) (ha : WF a) (hb : WF b) : isclose eps a b ≠ .oob :=
  isclose_eq_ref eps a b ha hb ▸ iscloseRef_ne_oob eps a b

/-- called WITHOUT a tolerance (default eps) likewise -/
theorem isclose_default_eq_ref (a b : Val) (ha : WF a) (hb : WF b) :
    isclose defaultEps a b = iscloseRef defaultEps a b := isclose_eq_ref defaultEps a b ha hb

/-- REGRESSION instance for finding isclose.either-plain-eps (repaired in /repo: these arms dropped the caller's tolerance
    and answered false): |3 - 5| < 8, so isclose(either{3}, 5, 8) is true in both operand orders, as the reference says -/
theorem isclose_either_plain_regression :
    isclose 8 (.left (.num 3)) (.num 5) = .val true ∧ isclose 8 (.num 5) (.left (.num 3)) = .val true ∧
    iscloseRef 8 (.left (.num 3)) (.num 5) = .val true ∧
    isclose 8 (.just (.right (.nd [2] [3,4]))) (.nd [2] [5,5]) = iscloseRef 8 (.just (.right (.nd [2] [3,4]))) (.nd [2] [5,5]) := by
  refine ⟨?_, ?_, ?_, ?_⟩
  iterate 3 simp only [isclose.eq_def, iscloseRef.eq_def]; decide
  exact isclose_eq_ref 8 _ _ ⟨by decide, by decide⟩ ⟨by decide, by decide⟩

example : WF (.just (.right (.nd [2] [3,4]))) ∧ WF (.nd [2] [5,5]) := by
  refine ⟨⟨by decide, by decide⟩, ⟨by decide, by decide⟩⟩
example : iscloseRef 8 (.just (.right (.nd [2] [3,4]))) (.nd [2] [5,5]) = .val true := by
  simp only [iscloseRef.eq_def]; decide

example : WF (.nd [2,3] [0,1,2,3,4,5]) ∧ WF (.nd [3,2] [0,1,2,3,4,5]) := by
  refine ⟨⟨by decide, by decide⟩, ⟨by decide, by decide⟩⟩
example : isequal (.nd [2,3] [0,1,2,3,4,5]) (.nd [3,2] [0,1,2,3,4,5]) = .val false := by
  simp only [isequal.eq_def]; decide
example : isequal (.nd [2,3] [0,1,2,3,4,5]) (.nd [2,3] [0,1,2,3,4,5]) = .val true := by
  simp only [isequal.eq_def]; decide
example : isequal (.idx [2,3]) (.idx [2,3,4]) = .val false ∧ isequal (.idx [2,3]) (.idx [2]) = .val false := by
  simp only [isequal.eq_def]; decide
example : isequal (.just (.nd [2] [1,2])) (.nd [2] [1,2]) = .val true := by
  simp only [isequal.eq_def]; decide
example : isequal (.pair (.num 1) (.pair (.idx [1,2]) .unit)) (.pair (.num 1) (.pair (.idx [1,3]) .unit)) = .val false := by
  simp only [isequal.eq_def]; decide

end NmVerif.Props.C18
