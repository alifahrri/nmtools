import NmVerif.Index.Where
import NmVerif.Index.Generators
import NmVerif.Lemmas.BroadcastRule
import NmVerif.Lemmas.ListBasics
import Mathlib.Tactic.Ring
/-
  C04: `where` and the generators (arange, linspace, full / zeros / ones(_like)); same namespace as Props/C04.lean.
  Models: Index/Where.lean (on top of C06's broadcast model), Index/Generators.lean.
-/
namespace NmVerif.Props.C04
open NmVerif NmVerif.Index

/-! ### where(cond, x, y) — NumPy: the three operands are broadcast against each other;
    `out[d] = x'[d] if cond'[d] ≠ 0 else y'[d]` (primes: broadcast operands, i.e. the element at `specBroadcastIdx`) -/

private theorem whereView_some (c x y : Shape) (w : WhereView) (h : whereView c x y = some w) :
    broadcastArraysViews [c, x, y] = some [w.c, w.x, w.y] := by
  revert h
  fun_cases whereView c x y
  · rintro ⟨⟩; assumption
  · nofun

/-- `v` is the operand of shape `s`, broadcast to the shape of `w` -/
private structure Operand (w : WhereView) (s : Shape) (v : IxView) : Prop where
  src : v.src = s
  dst : v.dst = w.dst
  map : ∀ d, InShape d w.dst → v.map d = some (specBroadcastIdx s d)
  inShape : ∀ d, InShape d w.dst → InShape (specBroadcastIdx s d) s

private theorem whereView_spec (c x y : Shape) (w : WhereView) (h : whereView c x y = some w) :
    broadcastShape [c, x, y] = some w.dst ∧ Operand w c w.c ∧ Operand w x w.x ∧ Operand w y w.y := by
  obtain ⟨r, hr, hvs⟩ := Option.bind_eq_some_iff.1 (whereView_some c x y w h)
  obtain rfl : w.dst = r := (C06.broadcastTo_shape c r w.c (List.mapM_eq_some_zip hvs _ List.mem_cons_self)).2
  have op : ∀ p ∈ [(c, w.c), (x, w.x), (y, w.y)], Operand w p.1 p.2 := fun p hp =>
    have hv := List.mapM_eq_some_zip hvs p hp
    ⟨(C06.broadcastTo_shape _ _ _ hv).1, (C06.broadcastTo_shape _ _ _ hv).2,
      fun d hd => (C06.broadcastTo_index_spec _ _ _ hv d hd).1, fun d hd => (C06.broadcastTo_index_spec _ _ _ hv d hd).2⟩
  exact ⟨hr, op _ (.head _), op _ (.tail _ (.head _)), op _ (.tail _ (.tail _ (.head _)))⟩

private theorem whereView_isSome (c x y : Shape) :
    (whereView c x y).isSome = (broadcastArraysViews [c, x, y]).isSome := by
  unfold whereView broadcastArraysViews
  cases broadcastShape [c, x, y] with
  | none => rfl
  | some r =>
    -- three operands, three `broadcast_to`s: all answer and the `match` finds its three views, or one does not
    simp only [Option.bind_some, List.mapM_cons, List.mapM_nil]
    cases broadcastToView c r <;> cases broadcastToView x r <;> cases broadcastToView y r <;> rfl

private theorem allPos3 {c x y : Shape} (hc : Pos c) (hx : Pos x) (hy : Pos y) : C06.AllPos [c, x, y] := by
  intro s hs
  simp only [List.mem_cons, List.not_mem_nil, or_false] at hs
  rcases hs with rfl | rfl | rfl <;> assumption

/-- positive extents: `where` answers Nothing exactly when the three shapes are not broadcast-compatible (NumPy's rule).
    The hypotheses are needed: `whereView [0] [1] [1] = none`, shapes that the rule accepts. -/
theorem where_isSome_iff (c x y : Shape) (hc : Pos c) (hx : Pos x) (hy : Pos y) :
    (whereView c x y).isSome ↔ Compatible [c, x, y] := by
  rw [whereView_isSome]
  exact C06.broadcastArrays_isSome_iff [c, x, y] (by simp) (allPos3 hc hx hy)

theorem where_nothing (c x y : Shape) (hc : Pos c) (hx : Pos x) (hy : Pos y) (h : ¬ Compatible [c, x, y]) :
    whereView c x y = none :=
  Option.not_isSome_iff_eq_none.1 fun hs => h ((where_isSome_iff c x y hc hx hy).1 hs)

/-- positive extents: the result shape is the broadcast of the three shapes, the per-axis maximum (rank = largest rank), and
    each broadcast operand views its own source -/
theorem where_shape (c x y : Shape) (hc : Pos c) (hx : Pos x) (hy : Pos y) (w : WhereView)
    (h : whereView c x y = some w) :
    broadcastShape [c, x, y] = some w.dst ∧ IsAxisMax w.dst [c, x, y] ∧
      w.c.src = c ∧ w.x.src = x ∧ w.y.src = y ∧ w.x.dst = w.dst ∧ w.y.dst = w.dst := by
  obtain ⟨hr, h0, h1, h2⟩ := whereView_spec c x y w h
  exact ⟨hr, C06.broadcast_eq_max [c, x, y] (by simp) (allPos3 hc hx hy) _ hr, h0.src, h1.src, h2.src, h1.dst, h2.dst⟩

/-- `out[d]` is `x` at the broadcast index of `d` where the condition (at ITS broadcast index) is non-zero, else `y` at its
    broadcast index: NumPy's `where` -/
theorem where_elem (c x y : Shape) (w : WhereView) (h : whereView c x y = some w) (cond : Idx → Int) (d : Idx)
    (hd : InShape d w.dst) :
    w.select cond d = some (if cond (specBroadcastIdx c d) ≠ 0 then (false, specBroadcastIdx x d)
                            else (true, specBroadcastIdx y d)) := by
  obtain ⟨_, h0, h1, h2⟩ := whereView_spec c x y w h
  simp only [WhereView.select, h0.map d hd, h1.map d hd, h2.map d hd, Option.bind_some, Option.map_some]
  split <;> rfl

/-- no read of `where` leaves its operand: the condition, and whichever of `x` / `y` is selected -/
theorem where_inBounds (c x y : Shape) (w : WhereView) (h : whereView c x y = some w) (cond : Idx → Int) (d : Idx)
    (hd : InShape d w.dst) :
    InShape (specBroadcastIdx c d) c ∧
      ∀ fl i, w.select cond d = some (fl, i) → InShape i (if fl then y else x) := by
  obtain ⟨_, h0, h1, h2⟩ := whereView_spec c x y w h
  refine ⟨h0.inShape d hd, fun fl i hsel => ?_⟩
  rw [where_elem c x y w h cond d hd] at hsel
  split at hsel <;> cases hsel
  · exact h1.inShape d hd
  · exact h2.inShape d hd

example : Pos [2, 1] ∧ Pos [3] ∧ Pos [1] ∧ (whereView [2, 1] [3] [1]).map (·.dst) = some [2, 3] := by decide
example : whereView [2, 3] [2] [1] = none ∧ ¬ Compatible [[2, 3], [2], [1]] :=
  ⟨by decide, fun h => absurd ((where_isSome_iff _ _ _ (by decide) (by decide) (by decide)).2 h) (by decide)⟩
example : (whereView [2, 1] [3] [1]).map (fun w =>
    (w.select (fun i => if i = [1, 0] then 1 else 0) [1, 2], w.select (fun i => if i = [1, 0] then 1 else 0) [0, 2])) =
    some (some (false, [2]), some (true, [0])) := by decide

/-! ### full / zeros / ones and the `_like` forms: the requested shape (the shape of the array), the constant everywhere -/

theorem full_shape_elem (s : Shape) (v : Int) : (fullGen s v).dst = s ∧ ∀ d, (fullGen s v).elem d = v := ⟨rfl, fun _ => rfl⟩
theorem zeros_shape_elem (s : Shape) : (zerosGen s).dst = s ∧ ∀ d, (zerosGen s).elem d = 0 := ⟨rfl, fun _ => rfl⟩
theorem ones_shape_elem (s : Shape) : (onesGen s).dst = s ∧ ∀ d, (onesGen s).elem d = 1 := ⟨rfl, fun _ => rfl⟩
theorem fullLike_shape_elem (src : Shape) (v : Int) :
    (fullLikeGen src v).dst = src ∧ (zerosLikeGen src).dst = src ∧ (onesLikeGen src).dst = src ∧
    ∀ d, (fullLikeGen src v).elem d = v ∧ (zerosLikeGen src).elem d = 0 ∧ (onesLikeGen src).elem d = 1 :=
  ⟨rfl, rfl, rfl, fun _ => ⟨rfl, rfl, rfl⟩⟩

example : (fullGen [2, 3] 7).dst = [2, 3] ∧ (fullGen [2, 3] 7).elem [1, 2] = 7 ∧ (onesLikeGen [4]).elem [3] = 1 := by decide

/-! ### arange(start, stop, step), integer start / stop, step `sn / sd` (integer grid: `sd = 1`; quarter grid: `sd = 4`).
    NumPy: the values `start + k·step`, `k = 0, 1, …`, that lie strictly before `stop` in the direction of the step,
    i.e. `max(0, ⌈(stop - start) / step⌉)` of them. -/

/-- `max(0, ⌈(stop - start)·sd / sn⌉)` -/
def arangeLenSpec (start stop sn : Int) (sd : Nat) : Nat :=
  let a := (stop - start) * sd
  if 0 < sn then (if 0 < a then (a.toNat + sn.toNat - 1) / sn.toNat else 0)
  else (if a < 0 then ((-a).toNat + (-sn).toNat - 1) / (-sn).toNat else 0)

private theorem lt_ceilCount (a s : Int) (hs : 0 < s) (k : Nat) :
    k < (if 0 < a then (a.toNat + s.toNat - 1) / s.toNat else 0) ↔ (k : Int) * s < a := by
  by_cases ha : 0 < a
  · obtain ⟨A, rfl⟩ := Int.eq_ofNat_of_zero_le (Int.le_of_lt ha)
    obtain ⟨S, rfl⟩ := Int.eq_ofNat_of_zero_le (Int.le_of_lt hs)
    rw [if_pos ha, Int.toNat_natCast, Int.toNat_natCast, Nat.lt_ceilDiv_iff (Int.natCast_pos.1 hs), ← Int.ofNat_lt,
      Int.natCast_mul]
  · rw [if_neg ha]
    exact ⟨fun h => absurd h (Nat.not_lt_zero _), fun h =>
      absurd (Int.lt_of_le_of_lt (Int.mul_nonneg (Int.natCast_nonneg k) (Int.le_of_lt hs)) h) ha⟩

/-- the spec counts exactly the grid points before `stop`: for either sign of the step, `k < len` iff `start + k·step`
    has not reached `stop` (multiplied through by `sd > 0`) -/
theorem arange_len_char (start stop sn : Int) (sd : Nat) (hsn : sn ≠ 0) (k : Nat) :
    k < arangeLenSpec start stop sn sd ↔
      (0 < sn ∧ start * sd + k * sn < stop * sd) ∨ (sn < 0 ∧ stop * sd < start * sd + k * sn) := by
  unfold arangeLenSpec
  by_cases hpos : 0 < sn
  · simp only [if_pos hpos, lt_ceilCount _ sn hpos, Int.sub_mul]
    simp only [hpos, Int.lt_asymm hpos, true_and, false_and, or_false]
    exact ⟨Int.add_lt_of_lt_sub_left, Int.lt_sub_left_of_add_lt⟩
  · -- a negative step is the positive case for `-step` and the distance `start - stop`
    have hneg : sn < 0 := by omega
    have := lt_ceilCount (-((stop - start) * sd)) (-sn) (Int.neg_pos.2 hneg) k
    simp only [Int.neg_pos] at this
    simp only [if_neg hpos]
    rw [this, Int.mul_neg, Int.neg_lt_neg_iff, Int.sub_mul]
    simp only [hneg, hpos, true_and, false_and, false_or]
    exact ⟨Int.lt_add_of_sub_left_lt, Int.sub_left_lt_of_lt_add⟩

/-- the exact-quotient count (what the code computes inside the float-exact range, and what an integer ceiling division
    computes everywhere) is NumPy's count, for either sign of the step — no range restriction -/
theorem arangeLenExact_eq_spec (start stop sn : Int) (sd : Nat) (hsn : sn ≠ 0) :
    arangeLenExact (stop - start) sn sd = arangeLenSpec start stop sn sd := by
  unfold arangeLenExact arangeLenSpec Q.div ceilPos
  simp only [Int.mul_one, Nat.one_mul, Int.natCast_one]
  by_cases hpos : 0 < sn
  · have h2 : sn.natAbs = sn.toNat := by omega
    simp only [hpos, Int.lt_asymm hpos, if_true, if_false, Int.one_mul, h2, gt_iff_lt]
  · have hneg : sn < 0 := by omega
    have h2 : sn.natAbs = (-sn).toNat := by omega
    simp only [hpos, hneg, if_true, if_false, h2, gt_iff_lt, Int.neg_mul, Int.one_mul, Int.neg_pos]

/-- integer step: the length is NumPy's for EVERY start / stop and every non-zero step (exact integer ceiling division; the
    binary32 count of the original code was repaired in /repo, "arange.float32-length") -/
theorem arange_len_int (start stop sn : Int) (hsn : sn ≠ 0) :
    arangeLen start stop sn 1 = some (arangeLenSpec start stop sn 1) := by
  simp only [arangeLen, if_true, hsn, if_false, Option.some.injEq]
  exact arangeLenExact_eq_spec start stop sn 1 hsn

/-- real step `sn / sd`: inside the float-exact range the length is NumPy's, for either sign of the step.  The statement
    admits every `sd > 0`; the model's exact quotient stands for the C++'s binary32 one on the dyadic grids (`sd ∈ {2, 4}`,
    ASSUMPTION "arange quotient" of Index/Generators.lean) only — a step like `7/3` is not a binary32 number. -/
theorem arange_len (start stop sn : Int) (sd : Nat) (hsn : sn ≠ 0) (hsd : 0 < sd)
    (hA : (stop - start).natAbs * sd < 2 ^ 24 ∧ sn.natAbs < 2 ^ 24) :
    arangeLen start stop sn sd = some (arangeLenSpec start stop sn sd) := by
  by_cases h1 : sd = 1
  · subst h1; exact arange_len_int start stop sn hsn
  · have hsd' : ¬ sd = 0 := by omega
    simp only [arangeLen, h1, hsn, hsd', or_self, if_false, hA, and_self, if_true, Option.some.injEq]
    exact arangeLenExact_eq_spec start stop sn sd hsn

/-- an integer step 0 gives an empty range; a real step 0 divides by zero and converts the result to `size_t` (UB) — no
    answer in the model -/
theorem arange_step_zero (start stop : Int) (sd : Nat) :
    arangeLen start stop 0 1 = some 0 ∧ (sd ≠ 1 → arangeLen start stop 0 sd = none) := by
  refine ⟨by simp [arangeLen], fun h => by simp [arangeLen, h]⟩

/-- non-zero step inside the range of `arange_len` (asked for `sd = 1` too, where `arange_len_int` needs none):
    shape `[len]`, element `k` is `start + k·step` (as the fraction `(start·sd + k·sn) / sd`) -/
theorem arange_shape_elem (start stop sn : Int) (sd : Nat) (hsn : sn ≠ 0) (hsd : 0 < sd)
    (hA : (stop - start).natAbs * sd < 2 ^ 24 ∧ sn.natAbs < 2 ^ 24) :
    ∃ g, arangeGen start stop sn sd = some g ∧ g.dst = [arangeLenSpec start stop sn sd] ∧
      ∀ k : Nat, g.elem [k] = ⟨start * sd + k * sn, sd⟩ := by
  simp only [arangeGen, arange_len start stop sn sd hsn hsd hA, Option.map_some]
  exact ⟨_, rfl, rfl, fun _ => rfl⟩

/-- regression guard for the repaired binary32 count -/
example : arangeLen 0 16777217 1 1 = some 16777217 ∧ arangeLen 0 33554433 16777216 1 = some 3 := by decide

example : arangeLenSpec 3 10 3 1 = 3 ∧ arangeLenSpec 10 3 (-3) 1 = 3 ∧ arangeLenSpec 3 10 (-3) 1 = 0 ∧
    arangeLenSpec 0 5 3 4 = 7 := by decide
/-- hypothesis `hA` of `arange_len` -/
example : (7 - 3 : Int).natAbs * 4 < 2 ^ 24 ∧ (-3 : Int).natAbs < 2 ^ 24 := by decide
example : (arangeGen 10 3 (-3) 1).map (fun g => (g.dst, g.elem [2])) = some ([3], ⟨4, 1⟩) := by decide
example : (arangeGen 0 5 3 4).map (fun g => (g.dst, g.elem [6])) = some ([7], ⟨18, 4⟩) := by decide
/-- the literal binary32 path agrees with the exact count on a small grid (sanity check of the ASSUMPTION "arange quotient",
    Index/Generators.lean) -/
example : ((List.range 25).all fun n => (List.range 7).all fun s =>
    arangeLenF32 (n : Int) ((s : Int) + 1) == arangeLenExact n ((s : Int) + 1) 1 &&
    arangeLenF32 (-(n : Int)) (-((s : Int) + 1)) == arangeLenExact (-(n : Int)) (-((s : Int) + 1)) 1) = true := by decide +kernel

/-! ### linspace(start, stop, num, endpoint), start / stop on the quarter grid (`startq / 4`, `stopq / 4`).
    NumPy: `num` samples `start + k·(stop - start)/div`, `div = num - 1` with the endpoint, `num` without; a single sample
    with the endpoint is `start`.  The statement fixes WHICH rational each element is; its floating value is the harness's. -/

theorem linspace_shape (startq stopq : Int) (num : Nat) (endpoint : Bool) :
    (linspaceGen startq stopq num endpoint).dst = [num] := rfl

/-- for `div > 0`, `div = num - 1` (endpoint) or `num`: element `k` is the fraction `(startq·div + k·(stopq - startq)) / (4·div)` -/
theorem linspace_elem (startq stopq : Int) (num : Nat) (endpoint : Bool) (k : Nat) (dv : Nat)
    (hdv : dv = if endpoint then num - 1 else num) (hpos : 0 < dv) :
    (linspaceGen startq stopq num endpoint).elem [k] = ⟨startq * dv + k * (stopq - startq), 4 * dv⟩ := by
  have hd : linspaceDiv num endpoint = dv := by
    unfold linspaceDiv
    cases endpoint with
    | true =>
      simp only [if_true] at hdv ⊢
      have : ¬ num = 0 := by omega
      simp [this, hdv]
    | false => simp [hdv]
  show linspaceElem startq stopq num endpoint k = _
  unfold linspaceElem
  simp only [hd, hpos, if_true]

/-- one sample with the endpoint: `start` itself -/
theorem linspace_single (startq stopq : Int) : (linspaceGen startq stopq 1 true).elem [0] = ⟨startq, 4⟩ := rfl

/-- for `div > 0` (with the endpoint: at least two samples): the first sample is `start`; with the endpoint the last one is
    `stop` (equalities of fractions, cross-multiplied) -/
theorem linspace_endpoints (startq stopq : Int) (num : Nat) (endpoint : Bool) (dv : Nat)
    (hdv : dv = if endpoint then num - 1 else num) (hpos : 0 < dv) :
    (let e := (linspaceGen startq stopq num endpoint).elem [0]; e.num * 4 = startq * e.den) ∧
    (endpoint = true → let e := (linspaceGen startq stopq num endpoint).elem [num - 1]; e.num * 4 = stopq * e.den) := by
  refine ⟨?_, ?_⟩
  · rw [linspace_elem startq stopq num endpoint 0 dv hdv hpos]
    simp only
    push_cast
    ring
  · intro he
    subst he
    simp only [if_true] at hdv
    rw [linspace_elem startq stopq num true (num - 1) dv (by simp [hdv]) hpos, ← hdv]
    simp only
    push_cast
    ring

example : (linspaceGen 0 16 5 true).elem [3] = ⟨48, 16⟩ ∧ (linspaceGen 0 16 5 false).elem [3] = ⟨48, 20⟩ := by decide
/-- hypotheses of `linspace_elem` -/
example : (4 : Nat) = (if true then 5 - 1 else 5) ∧ 0 < 4 := by decide

end NmVerif.Props.C04
