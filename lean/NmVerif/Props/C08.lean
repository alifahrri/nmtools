import NmVerif.Index.Reduce
import NmVerif.Lemmas.Reduce
import NmVerif.Lemmas.ReduceTrace
import NmVerif.Lemmas.ReduceAccumulate
import NmVerif.Lemmas.ReduceMean
/-
  C08 — Reductions and accumulations fold exactly the addressed elements, in order.

  MODEL  `NmVerif.Reduce.reduce / reduceElem / reduceReads / accumulate …` (mirror of remove_dims, reduction_slices,
         reduce_t, reduce_t<None>, accumulate_t, reducer_t); `NmVerif.Reduce.diagonal / trace` (Index/ReduceTrace.lean:
         view::trace = view::sum over the last axis of view::diagonal, the diagonal index functions being C16's mirrors)
  SPEC   `specShape`, `addressed`, `specReduceElem`, `accumAddressed`, `specAccumElem` (NumPy)
  Every theorem: any rank, any axis list NumPy accepts (negative entries, any order), keepdims either way, initial
  absent/present, element type and binary `op` ARBITRARY (no commutativity / associativity).  On the extents three
  hypotheses occur, named by the suffix: `…_any_shape` / `…_any_offset` none (extents 0 allowed), `…_pos_axes` the reduced
  extents positive (`PosAxes`), no suffix all extents positive (`Pos`); the last are instances of the others.
  (`reduce_elem_eq_foldl_pos_axes` bears the suffix and has no hypothesis on the extents; `mean_eq_sum_div_count_pos_axes`
  and `vector_norm_eq_pos_axes` take `hR` and do not use it.)

  A fold over no element (a reduced axis of extent 0, an empty diagonal) is the initial value, else the identity the
  functor declares (`reduce_elem_eq_numpy_any_shape`, `reduce_elem_empty_fold`, `sum/prod_elem_eq_any_shape`,
  `trace_eq_sum_diag_any_offset`) — the behaviour of the tree repaired by fixes/C08-trace-empty-diagonal.diff.
-/
namespace NmVerif.Props.C08
open NmVerif NmVerif.Reduce

variable {α : Type}

/-- `index::remove_dims` gives the NumPy result shape: single / several axes, negative axes, any order, keepdims both
    ways, None — and never runs into its UB branches on an axis argument NumPy accepts -/
theorem remove_dims_eq_numpy (s : Shape) (axis : AxisArg) (keep : Bool) (hv : ValidAxes s.length axis) :
    removeDims s axis keep = some (specShape s (axisSet s.length axis) keep) :=
  removeDims_eq_spec s axis keep hv

/-- the reduce view exists and has the NumPy shape -/
theorem reduce_shape_eq_numpy (op : α → α → α) (init : Option α) (a : Arr α) (axis : AxisArg) (keep : Bool)
    (hv : ValidAxes a.shape.length axis) :
    ∃ v, reduce op init a axis keep = some v ∧ v.shape = specShape a.shape (axisSet a.shape.length axis) keep := by
  rw [reduce, removeDims_eq_spec a.shape axis keep hv]
  exact ⟨_, rfl, rfl⟩

/-! ### reduce: which elements, in which order -/

/-- the view reads, for result index `j`, exactly the source multi-indices whose non-reduced coordinates match `j`
    — each once, in increasing C order (`addressed` is a `filter` of the C-order enumeration `allIdx`) —
    for EVERY shape, extents 0 included (then nothing is addressed when a reduced extent is 0, and there is no
    result index `j` at all when a kept extent is 0) -/
theorem reduce_reads_eq_addressed_any_shape (s : Shape) (axis : AxisArg) (keep : Bool)
    (hv : ValidAxes s.length axis) (j : Idx) (hj : InShape j (specShape s (axisSet s.length axis) keep)) :
    reduceReads s axis keep j = some (addressed s (axisSet s.length axis) keep j) :=
  reduceReads_eq_addressed s axis keep hv j hj

theorem reduce_reads_eq_addressed (s : Shape) (hs : Pos s) (axis : AxisArg) (keep : Bool)
    (hv : ValidAxes s.length axis) (j : Idx) (hj : InShape j (specShape s (axisSet s.length axis) keep)) :
    reduceReads s axis keep j = some (addressed s (axisSet s.length axis) keep j) :=
  reduceReads_eq_addressed s axis keep hv j hj

/-- element `j` of the reduce view = NumPy: left fold `op(acc, x)` from the initial value (or the first element) over the
    addressed elements in increasing C order.  `op` is arbitrary.  No hypothesis on the extents, the reduced ones included:
    `reduceElem` is the view of a functor without identity, and over no element that is the initial value or undefined (`none`),
    as `foldFirst` is. -/
theorem reduce_elem_eq_foldl_pos_axes (op : α → α → α) (init : Option α) (a : Arr α) (axis : AxisArg) (keep : Bool)
    (hv : ValidAxes a.shape.length axis) (j : Idx)
    (hj : InShape j (specShape a.shape (axisSet a.shape.length axis) keep)) :
    reduceElem op init a axis keep j = specReduceElem op init a (axisSet a.shape.length axis) keep j :=
  reduceElem_eq_spec op init a axis keep hv j hj

theorem reduce_elem_eq_foldl (op : α → α → α) (init : Option α) (a : Arr α) (axis : AxisArg) (keep : Bool)
    (hs : Pos a.shape) (hv : ValidAxes a.shape.length axis) (j : Idx)
    (hj : InShape j (specShape a.shape (axisSet a.shape.length axis) keep)) :
    reduceElem op init a axis keep j = specReduceElem op init a (axisSet a.shape.length axis) keep j :=
  reduce_elem_eq_foldl_pos_axes op init a axis keep hv j hj

/-- on accepted arguments with positive reduced extents no element of the view is UB: the fold list is never empty -/
theorem reduce_elem_defined_pos_axes (op : α → α → α) (init : Option α) (a : Arr α) (axis : AxisArg) (keep : Bool)
    (hv : ValidAxes a.shape.length axis) (hR : PosAxes a.shape (axisSet a.shape.length axis)) (j : Idx)
    (hj : InShape j (specShape a.shape (axisSet a.shape.length axis) keep)) :
    ∃ v, reduceElem op init a axis keep j = some v := by
  rw [reduce_elem_eq_foldl_pos_axes op init a axis keep hv j hj]
  cases init with
  | some i0 => exact ⟨_, rfl⟩
  | none => exact foldFirst_map_defined op _ (addressed_ne_nil_posAxes a.shape _ keep hR j hj)

theorem reduce_elem_defined (op : α → α → α) (init : Option α) (a : Arr α) (axis : AxisArg) (keep : Bool)
    (hs : Pos a.shape) (hv : ValidAxes a.shape.length axis) (j : Idx)
    (hj : InShape j (specShape a.shape (axisSet a.shape.length axis) keep)) :
    ∃ v, reduceElem op init a axis keep j = some v :=
  reduce_elem_defined_pos_axes op init a axis keep hv (posAxes_of_pos hs _) j hj

/-- EVERY shape — extents 0 included, reduced or kept — and a functor with or without identity (`ident` = what
    `op_type::identity()` returns, `none` if the functor declares none): element `j` of the view = NumPy's
    `ufunc.reduce`: the left fold of the addressed elements in increasing C order; when there is none (a reduced axis of
    extent 0) the initial value, else the identity, else NumPy's error / the code's assert (`none`). -/
theorem reduce_elem_eq_numpy_any_shape (ident : Option α) (op : α → α → α) (init : Option α) (a : Arr α) (axis : AxisArg)
    (keep : Bool) (hv : ValidAxes a.shape.length axis) (j : Idx)
    (hj : InShape j (specShape a.shape (axisSet a.shape.length axis) keep)) :
    reduceElemId ident op init a axis keep j = specReduceElemId ident op init a (axisSet a.shape.length axis) keep j :=
  reduceElemId_eq_spec ident op init a axis keep hv j hj

/-- a fold over no element (some reduced axis has extent 0): the initial value, else the identity of the functor
    (repaired defect `reduce.empty-fold`: the code used to unwrap the Nothing that `view::flatten` gives for a zero-size
    array) -/
theorem reduce_elem_empty_fold (ident : Option α) (op : α → α → α) (init : Option α) (a : Arr α) (axis : AxisArg)
    (keep : Bool) (hv : ValidAxes a.shape.length axis) (hR : ¬ PosAxes a.shape (axisSet a.shape.length axis)) (j : Idx)
    (hj : InShape j (specShape a.shape (axisSet a.shape.length axis) keep)) :
    reduceElemId ident op init a axis keep j = (match init with | some i => some i | none => ident) := by
  rw [reduceElemId_eq_spec ident op init a axis keep hv j hj, specReduceElemId,
    addressed_eq_nil_of_zero_axis a.shape _ keep j hR]
  rfl

/-- a KEPT axis of extent 0: the result has the NumPy shape (`remove_dims_eq_numpy`, no positivity needed) and no
    element at all — nothing is evaluated -/
theorem reduce_zero_kept_extent_empty (s : Shape) (R : List Nat) (keep : Bool) (k : Nat) (hk : k ∉ R)
    (h0 : s[k]? = some 0) : allIdx (specShape s R keep) = [] := by
  refine allIdx_eq_nil_of_not_pos (fun hp => Nat.lt_irrefl 0 (hp 0 ?_))
  have hmem : (0, k) ∈ s.zipIdx := List.mem_zipIdx_iff_getElem?.2 (by simpa using h0)
  unfold specShape
  cases keep
  · exact List.mem_map.2 ⟨(0, k), List.mem_filter.2 ⟨hmem, by simp [hk]⟩, rfl⟩
  · exact List.mem_map.2 ⟨(0, k), hmem, by simp [hk]⟩

/-- the order in which the axes are listed is irrelevant: same view.
    Holds for every axis list, valid or not. -/
theorem reduce_axes_order_irrelevant (op : α → α → α) (init : Option α) (a : Arr α) (l l' : List Int)
    (keep : Bool) (h : l.Perm l') :
    reduce op init a (some l) keep = reduce op init a (some l') keep := by
  have hval : (∀ x ∈ l, ValidAxis a.shape.length x) ↔ (∀ x ∈ l', ValidAxis a.shape.length x) :=
    ⟨fun hx y hy => hx y (h.mem_iff.2 hy), fun hx y hy => hx y (h.mem_iff.1 hy)⟩
  by_cases hv : ∀ x ∈ l, ValidAxis a.shape.length x
  · exact reduceId_congr none op init a l l' keep hv (hval.1 hv) (fun _ => (h.map _).mem_iff) (fun _ => h.length_eq)
  · simp [reduce, removeDims, unwrapAxes, normalizeAxes_eq, hv, mt hval.2 hv]

/-- AN AXIS NAMED SEVERAL TIMES (NumPy refuses the argument; the code does not look): with keepdims the view depends
    only on the SET of normalised axes — repetitions, order and sign spelling are all irrelevant.  (Without keepdims
    `remove_dims` sizes its result from the length of the list and writes past it: UB, `reduce … = none` in the model.) -/
theorem reduce_keepdims_depends_on_axis_set (op : α → α → α) (init : Option α) (a : Arr α) (l l' : List Int)
    (hl : ∀ x ∈ l, ValidAxis a.shape.length x) (hl' : ∀ x ∈ l', ValidAxis a.shape.length x)
    (h : ∀ k, k ∈ l.map (normAxis a.shape.length) ↔ k ∈ l'.map (normAxis a.shape.length)) :
    reduce op init a (some l) true = reduce op init a (some l') true :=
  reduceId_congr none op init a l l' true hl hl' h (fun h => absurd h Bool.noConfusion)

/-- an axis named several times, with keepdims: the view is NumPy's result for the set of axes named (the slices never
    look for repetitions) -/
theorem reduce_repeated_axes_keepdims (op : α → α → α) (init : Option α) (a : Arr α) (l : List Int)
    (hs : Pos a.shape) (hl : ∀ x ∈ l, ValidAxis a.shape.length x) (j : Idx)
    (hj : InShape j (specShape a.shape (l.map (normAxis a.shape.length)) true)) :
    (reduce op init a (some l) true).map (fun v => (v.shape, v.get j)) =
      some (specShape a.shape (l.map (normAxis a.shape.length)) true,
            specReduceElem op init a (l.map (normAxis a.shape.length)) true j) := by
  rw [reduce, removeDims_keep a.shape l hl]
  refine congrArg (fun e => some (_, e)) ?_
  show reduceElemId none op init a (some l) true j = _
  rw [reduceElemId_eq_reads, reduceReads_some a.shape l true hl j hj, Option.bind_some, foldNumpy_none]
  rfl

/-- every source index the view reads lies inside the source shape — for every shape, extents 0 included -/
theorem reduce_inBounds_any_shape (s : Shape) (axis : AxisArg) (keep : Bool)
    (hv : ValidAxes s.length axis) (j : Idx) (hj : InShape j (specShape s (axisSet s.length axis) keep)) :
    ∃ r, reduceReads s axis keep j = some r ∧ ∀ i ∈ r, InShape i s :=
  ⟨_, reduceReads_eq_addressed s axis keep hv j hj, fun _ hi => mem_allIdx_inShape (List.mem_filter.1 hi).1⟩

theorem reduce_inBounds (s : Shape) (hs : Pos s) (axis : AxisArg) (keep : Bool)
    (hv : ValidAxes s.length axis) (j : Idx) (hj : InShape j (specShape s (axisSet s.length axis) keep)) :
    ∃ r, reduceReads s axis keep j = some r ∧ ∀ i ∈ r, InShape i s :=
  reduce_inBounds_any_shape s axis keep hv j hj

/-! ### named reductions as instances -/

/-- `view::sum` = `reduce(add_t)` on EVERY shape: over no element it is the initial value, else 0 (`np.sum`) -/
theorem sum_elem_eq_any_shape [Add α] [OfNat α 0] (init : Option α) (a : Arr α) (axis : AxisArg) (keep : Bool)
    (hv : ValidAxes a.shape.length axis) (j : Idx)
    (hj : InShape j (specShape a.shape (axisSet a.shape.length axis) keep)) :
    (sum init a axis keep).map (fun v => (v.shape, v.get j)) =
      some (specShape a.shape (axisSet a.shape.length axis) keep,
            foldNumpy (some 0) (· + ·) init ((addressed a.shape (axisSet a.shape.length axis) keep j).map a.get)) :=
  reduceId_at (some 0) (· + ·) init a axis keep hv (reduceElemId_eq_spec _ _ init a axis keep hv j hj)

/-- `view::prod` = `reduce(multiply_t)` on EVERY shape: over no element it is the initial value, else 1 (`np.prod`) -/
theorem prod_elem_eq_any_shape [Mul α] [OfNat α 1] (init : Option α) (a : Arr α) (axis : AxisArg) (keep : Bool)
    (hv : ValidAxes a.shape.length axis) (j : Idx)
    (hj : InShape j (specShape a.shape (axisSet a.shape.length axis) keep)) :
    (prodReduce init a axis keep).map (fun v => (v.shape, v.get j)) =
      some (specShape a.shape (axisSet a.shape.length axis) keep,
            foldNumpy (some 1) (· * ·) init ((addressed a.shape (axisSet a.shape.length axis) keep j).map a.get)) :=
  reduceId_at (some 1) (· * ·) init a axis keep hv (reduceElemId_eq_spec _ _ init a axis keep hv j hj)

theorem sum_elem_eq_pos_axes [Add α] [OfNat α 0] (init : Option α) (a : Arr α) (axis : AxisArg) (keep : Bool)
    (hv : ValidAxes a.shape.length axis) (hR : PosAxes a.shape (axisSet a.shape.length axis)) (j : Idx)
    (hj : InShape j (specShape a.shape (axisSet a.shape.length axis) keep)) :
    (sum init a axis keep).map (fun v => (v.shape, v.get j)) =
      some (specShape a.shape (axisSet a.shape.length axis) keep,
            foldFirst (· + ·) init ((addressed a.shape (axisSet a.shape.length axis) keep j).map a.get)) :=
  reduceId_at (some 0) (· + ·) init a axis keep hv (reduceElemId_eq_spec_posAxes _ _ init a axis keep hv hR j hj)

theorem prod_elem_eq_pos_axes [Mul α] [OfNat α 1] (init : Option α) (a : Arr α) (axis : AxisArg) (keep : Bool)
    (hv : ValidAxes a.shape.length axis) (hR : PosAxes a.shape (axisSet a.shape.length axis)) (j : Idx)
    (hj : InShape j (specShape a.shape (axisSet a.shape.length axis) keep)) :
    (prodReduce init a axis keep).map (fun v => (v.shape, v.get j)) =
      some (specShape a.shape (axisSet a.shape.length axis) keep,
            foldFirst (· * ·) init ((addressed a.shape (axisSet a.shape.length axis) keep j).map a.get)) :=
  reduceId_at (some 1) (· * ·) init a axis keep hv (reduceElemId_eq_spec_posAxes _ _ init a axis keep hv hR j hj)

/-- `view::sum` = `reduce(add_t)`: NumPy `sum` element -/
theorem sum_elem_eq [Add α] [OfNat α 0] (init : Option α) (a : Arr α) (axis : AxisArg) (keep : Bool)
    (hs : Pos a.shape) (hv : ValidAxes a.shape.length axis) (j : Idx)
    (hj : InShape j (specShape a.shape (axisSet a.shape.length axis) keep)) :
    (sum init a axis keep).map (fun v => (v.shape, v.get j)) =
      some (specShape a.shape (axisSet a.shape.length axis) keep,
            foldFirst (· + ·) init ((addressed a.shape (axisSet a.shape.length axis) keep j).map a.get)) :=
  sum_elem_eq_pos_axes init a axis keep hv (posAxes_of_pos hs _) j hj

/-- `view::prod` = `reduce(multiply_t)` -/
theorem prod_elem_eq [Mul α] [OfNat α 1] (init : Option α) (a : Arr α) (axis : AxisArg) (keep : Bool)
    (hs : Pos a.shape) (hv : ValidAxes a.shape.length axis) (j : Idx)
    (hj : InShape j (specShape a.shape (axisSet a.shape.length axis) keep)) :
    (prodReduce init a axis keep).map (fun v => (v.shape, v.get j)) =
      some (specShape a.shape (axisSet a.shape.length axis) keep,
            foldFirst (· * ·) init ((addressed a.shape (axisSet a.shape.length axis) keep j).map a.get)) :=
  prod_elem_eq_pos_axes init a axis keep hv (posAxes_of_pos hs _) j hj

/-- `view::amax` = `reduce(maximum_t)` with `maximum(t,u) = t > u ? t : u` -/
theorem amax_elem_eq [LT α] [DecidableRel (α := α) (· < ·)] (init : Option α) (a : Arr α) (axis : AxisArg) (keep : Bool)
    (hs : Pos a.shape) (hv : ValidAxes a.shape.length axis) (j : Idx)
    (hj : InShape j (specShape a.shape (axisSet a.shape.length axis) keep)) :
    (amax init a axis keep).map (fun v => (v.shape, v.get j)) =
      some (specShape a.shape (axisSet a.shape.length axis) keep,
            foldFirst maximum init ((addressed a.shape (axisSet a.shape.length axis) keep j).map a.get)) :=
  reduceId_at none maximum init a axis keep hv (reduceElem_eq_spec maximum init a axis keep hv j hj)

/-- `view::amin` = `reduce(minimum_t)` with `minimum(t,u) = t < u ? t : u` -/
theorem amin_elem_eq [LT α] [DecidableRel (α := α) (· < ·)] (init : Option α) (a : Arr α) (axis : AxisArg) (keep : Bool)
    (hs : Pos a.shape) (hv : ValidAxes a.shape.length axis) (j : Idx)
    (hj : InShape j (specShape a.shape (axisSet a.shape.length axis) keep)) :
    (amin init a axis keep).map (fun v => (v.shape, v.get j)) =
      some (specShape a.shape (axisSet a.shape.length axis) keep,
            foldFirst minimum init ((addressed a.shape (axisSet a.shape.length axis) keep j).map a.get)) :=
  reduceId_at none minimum init a axis keep hv (reduceElem_eq_spec minimum init a axis keep hv j hj)

/-! ### compositions: plumbing over abstract element operations -/

/-- `view::mean` = `divide(reduce_add(a, normalised axis, …), mean_divisor)`: each element is the NumPy sum of the
    addressed elements divided by *their number* (the divisor the code computes from the shape is the count of
    folded elements); `add`, `divn` are abstract (promotion to float and the division itself are C07's) -/
theorem mean_eq_sum_div_count_pos_axes (add : α → α → α) (divn : α → Nat → α) (a : Arr α) (axis : AxisArg) (keep : Bool)
    (hv : ValidAxes a.shape.length axis) (hR : PosAxes a.shape (axisSet a.shape.length axis)) :
    ∃ v, mean add divn a axis keep = some v ∧ v.shape = specShape a.shape (axisSet a.shape.length axis) keep ∧
      ∀ j, InShape j v.shape →
        v.get j = (specReduceElem add none a (axisSet a.shape.length axis) keep j).map
                    (fun x => divn x (addressed a.shape (axisSet a.shape.length axis) keep j).length) :=
  mean_eq_spec add divn a axis keep hv

theorem mean_eq_sum_div_count (add : α → α → α) (divn : α → Nat → α) (a : Arr α) (axis : AxisArg) (keep : Bool)
    (hs : Pos a.shape) (hv : ValidAxes a.shape.length axis) :
    ∃ v, mean add divn a axis keep = some v ∧ v.shape = specShape a.shape (axisSet a.shape.length axis) keep ∧
      ∀ j, InShape j v.shape →
        v.get j = (specReduceElem add none a (axisSet a.shape.length axis) keep j).map
                    (fun x => divn x (addressed a.shape (axisSet a.shape.length axis) keep j).length) :=
  mean_spec add divn a axis keep hs hv

/-- `view::vector_norm` = `power(sum(power(fabs(a), ord), axis, …), 1/ord)`: the fold runs over the addressed elements
    of the element-wise pre-processed array, then the post-processing is applied per result element -/
theorem vector_norm_eq_pos_axes (add : α → α → α) (pre post : α → α) (a : Arr α) (axis : AxisArg) (keep : Bool)
    (hv : ValidAxes a.shape.length axis) (hR : PosAxes a.shape (axisSet a.shape.length axis)) :
    ∃ v, vectorNorm add pre post a axis keep = some v ∧
      v.shape = specShape a.shape (axisSet a.shape.length axis) keep ∧
      ∀ j, InShape j v.shape →
        v.get j = (foldFirst add none ((addressed a.shape (axisSet a.shape.length axis) keep j).map
                    (fun i => pre (a.get i)))).map post :=
  reduce_map_spec add none (a.map pre) axis keep hv (Option.map post)

theorem vector_norm_eq (add : α → α → α) (pre post : α → α) (a : Arr α) (axis : AxisArg) (keep : Bool)
    (hs : Pos a.shape) (hv : ValidAxes a.shape.length axis) :
    ∃ v, vectorNorm add pre post a axis keep = some v ∧
      v.shape = specShape a.shape (axisSet a.shape.length axis) keep ∧
      ∀ j, InShape j v.shape →
        v.get j = (foldFirst add none ((addressed a.shape (axisSet a.shape.length axis) keep j).map
                    (fun i => pre (a.get i)))).map post :=
  vector_norm_eq_pos_axes add pre post a axis keep hv (posAxes_of_pos hs _)

/-- `view::var` = `divide(sum(square(fabs(input - mean(input, axis, keepdims=True))), axis, keepdims), N - ddof)`:
    each element is NumPy's variance of exactly the addressed elements — their squared deviations from *their own*
    mean, summed in C order, divided by `count - ddof`.  The broadcast of the keepdims mean against the input is the
    index map C06 proves (`proj R true`); element operations abstract. -/
theorem var_eq_mean_sq_dev_pos_axes (add sub : α → α → α) (sqabs : α → α) (divn : α → Nat → α) (a : Arr α)
    (axis : AxisArg) (ddof : Nat) (keep : Bool) (hv : ValidAxes a.shape.length axis)
    (hR : PosAxes a.shape (axisSet a.shape.length axis)) :
    ∃ v, var add sub sqabs divn a axis ddof keep = some v ∧
      v.shape = specShape a.shape (axisSet a.shape.length axis) keep ∧
      ∀ j, InShape j v.shape →
        v.get j = specVarElem add sub sqabs divn a (axisSet a.shape.length axis) keep ddof j :=
  var_spec_posAxes add sub sqabs divn a axis ddof keep hv hR

theorem var_eq_mean_sq_dev (add sub : α → α → α) (sqabs : α → α) (divn : α → Nat → α) (a : Arr α)
    (axis : AxisArg) (ddof : Nat) (keep : Bool) (hs : Pos a.shape) (hv : ValidAxes a.shape.length axis) :
    ∃ v, var add sub sqabs divn a axis ddof keep = some v ∧
      v.shape = specShape a.shape (axisSet a.shape.length axis) keep ∧
      ∀ j, InShape j v.shape →
        v.get j = specVarElem add sub sqabs divn a (axisSet a.shape.length axis) keep ddof j :=
  var_spec_posAxes add sub sqabs divn a axis ddof keep hv (posAxes_of_pos hs _)

/-- `view::stddev` = `sqrt(var(…))`, element-wise -/
theorem stddev_eq_sqrt_var_pos_axes (add sub : α → α → α) (sqabs sqrt : α → α) (divn : α → Nat → α) (a : Arr α)
    (axis : AxisArg) (ddof : Nat) (keep : Bool) (hv : ValidAxes a.shape.length axis)
    (hR : PosAxes a.shape (axisSet a.shape.length axis)) :
    ∃ v, stddev add sub sqabs sqrt divn a axis ddof keep = some v ∧
      v.shape = specShape a.shape (axisSet a.shape.length axis) keep ∧
      ∀ j, InShape j v.shape →
        v.get j = (specVarElem add sub sqabs divn a (axisSet a.shape.length axis) keep ddof j).map sqrt := by
  obtain ⟨v, h1, h2, h3⟩ := var_spec_posAxes add sub sqabs divn a axis ddof keep hv hR
  exact ⟨⟨v.shape, fun j => (v.get j).map sqrt⟩, by rw [stddev, h1]; rfl, h2, fun j hj => congrArg (Option.map sqrt) (h3 j hj)⟩

theorem stddev_eq_sqrt_var (add sub : α → α → α) (sqabs sqrt : α → α) (divn : α → Nat → α) (a : Arr α)
    (axis : AxisArg) (ddof : Nat) (keep : Bool) (hs : Pos a.shape) (hv : ValidAxes a.shape.length axis) :
    ∃ v, stddev add sub sqabs sqrt divn a axis ddof keep = some v ∧
      v.shape = specShape a.shape (axisSet a.shape.length axis) keep ∧
      ∀ j, InShape j v.shape →
        v.get j = (specVarElem add sub sqabs divn a (axisSet a.shape.length axis) keep ddof j).map sqrt :=
  stddev_eq_sqrt_var_pos_axes add sub sqabs sqrt divn a axis ddof keep hv (posAxes_of_pos hs _)

/-- `view::trace(a, offset, axis1, axis2)` = `sum(diagonal(a, offset, axis1, axis2), -1)` agrees with `np.trace` for
    every rank ≥ 2, every pair of distinct accepted axes (negative ones counted from the end, either order), every
    offset whose diagonal is non-empty (`max(-offset,0) < n1`, `max(offset,0) < n2`; the other extents arbitrary): the
    result has the other extents in order, and element `j` is the left fold, in increasing `i`, of exactly the
    diagonal elements `a[j; axis1 ↦ i + max(-offset,0), axis2 ↦ i + max(offset,0)]`, `i < min(n1 - max(-offset,0),
    n2 - max(offset,0))` (`Linalg.specTrace`, the index list C16 uses) — never empty, every read inside the source.
    `add` is arbitrary. -/
theorem trace_eq_sum_diag (add : α → α → α) (zero : Option α) (a : Arr α) (off axis1 axis2 : Int) (n1 n2 : Nat)
    (h1 : ValidAxis a.shape.length axis1) (h2 : ValidAxis a.shape.length axis2)
    (h12 : normAxis a.shape.length axis1 ≠ normAxis a.shape.length axis2)
    (hn1 : a.shape[normAxis a.shape.length axis1]? = some n1)
    (hn2 : a.shape[normAxis a.shape.length axis2]? = some n2)
    (hlo : (-off).toNat < n1) (hhi : off.toNat < n2) :
    ∃ v sp, trace add zero a off axis1 axis2 = some v ∧
      Linalg.specTrace a.shape off (normAxis a.shape.length axis1) (normAxis a.shape.length axis2) = some sp ∧
      v.shape = sp.shape ∧
      ∀ j, InShape j sp.shape →
        v.get j = foldFirst add none ((sp.get j).map a.get) ∧ sp.get j ≠ [] ∧ ∀ i ∈ sp.get j, InShape i a.shape := by
  obtain ⟨v, sp, hv, hsp, hsh, hel⟩ := trace_spec add zero a off axis1 axis2 n1 n2 h1 h2 h12 hn1 hn2
  refine ⟨v, sp, hv, hsp, hsh, fun j hj => ?_⟩
  obtain ⟨e1, e2, e3⟩ := hel j hj
  have hne : sp.get j ≠ [] :=
    List.ne_nil_of_length_pos (e2 ▸ Nat.lt_min.2 ⟨Nat.sub_pos_of_lt hlo, Nat.sub_pos_of_lt hhi⟩)
  exact ⟨by rw [e1, specTraceElem, foldNumpy_of_ne_nil _ _ _ _ hne], hne, e3⟩

/-- `view::trace` = `np.trace` for EVERY offset: an empty diagonal (offset beyond the extent, an extent 0) gives `zero`, the identity of the
    sum (`np.trace` = 0; repaired defect `trace.empty-diagonal`) -/
theorem trace_eq_sum_diag_any_offset (add : α → α → α) (zero : Option α) (a : Arr α) (off axis1 axis2 : Int) (n1 n2 : Nat)
    (h1 : ValidAxis a.shape.length axis1) (h2 : ValidAxis a.shape.length axis2)
    (h12 : normAxis a.shape.length axis1 ≠ normAxis a.shape.length axis2)
    (hn1 : a.shape[normAxis a.shape.length axis1]? = some n1)
    (hn2 : a.shape[normAxis a.shape.length axis2]? = some n2) :
    ∃ v sp, trace add zero a off axis1 axis2 = some v ∧
      Linalg.specTrace a.shape off (normAxis a.shape.length axis1) (normAxis a.shape.length axis2) = some sp ∧
      v.shape = sp.shape ∧
      ∀ j, InShape j sp.shape →
        v.get j = foldNumpy zero add none ((sp.get j).map a.get) ∧ ∀ i ∈ sp.get j, InShape i a.shape := by
  obtain ⟨v, sp, hv, hsp, hsh, hel⟩ := trace_spec add zero a off axis1 axis2 n1 n2 h1 h2 h12 hn1 hn2
  exact ⟨v, sp, hv, hsp, hsh, fun j hj => ⟨(hel j hj).1, (hel j hj).2.2⟩⟩

theorem accumulate_shape (op : α → α → α) (a : Arr α) (axis : Int) : (accumulate op a axis).shape = a.shape := rfl

/-- for every axis NumPy accepts (`-dim ≤ axis < dim`, negative = counted from the last axis) the view reads `d` with
    coordinate `ax = axis mod dim` running over `0..d[ax]`, in that order -/
theorem accumulate_reads_eq (s : Shape) (axis : Int) (hv : ValidAxis s.length axis) (d : Idx) (hd : InShape d s) :
    accumulateReads s axis d = accumAddressed (normAxis s.length axis) d :=
  accumulateReads_eq s axis hv d hd.length_eq

/-- element `d` of the accumulate view = NumPy `op.accumulate(a, axis)`: the fold of `a[…, 0..d[ax], …]`,
    positive and negative axes alike -/
theorem accumulate_eq_scan (op : α → α → α) (a : Arr α) (axis : Int) (hv : ValidAxis a.shape.length axis) (d : Idx)
    (hd : InShape d a.shape) :
    accumulateElem op a axis d = specAccumElem op a (normAxis a.shape.length axis) d := by
  rw [accumulateElem_eq_reads, accumulateReads_eq a.shape axis hv d hd.length_eq, specAccumElem]
  cases accumAddressed (normAxis a.shape.length axis) d <;> rfl

/-- a fact about the SPEC alone: NumPy's `accumulate` element is the *running* fold along the axis — first element
    copied, each next one `op(previous result, source)` -/
theorem accumulate_running (op : α → α → α) (a : Arr α) (ax : Nat) (d : Idx) (hax : ax < d.length) :
    specAccumElem op a ax (d.set ax 0) = some (a.get (d.set ax 0)) ∧
    ∀ m, specAccumElem op a ax (d.set ax (m+1)) =
      (specAccumElem op a ax (d.set ax m)).map (fun acc => op acc (a.get (d.set ax (m+1)))) := by
  constructor
  · simp [specAccumElem, accumAddressed, hax, foldFirst]
  · intro m
    simp only [specAccumElem, accumAddressed, List.getElem?_set_self hax, List.set_set]
    rw [List.range_succ, List.map_append, List.map_append]
    simp only [List.map_cons, List.map_nil]
    rw [List.range_succ_eq_map, List.map_cons, List.map_cons]
    simp [foldFirst, List.foldl_append]

/-- `view::cumsum` = `accumulate(add_t)` -/
theorem cumsum_eq_scan [Add α] (a : Arr α) (axis : Int) (hv : ValidAxis a.shape.length axis) (d : Idx)
    (hd : InShape d a.shape) :
    (cumsum a axis).shape = a.shape ∧
      (cumsum a axis).get d = specAccumElem (· + ·) a (normAxis a.shape.length axis) d :=
  ⟨rfl, accumulate_eq_scan _ a axis hv d hd⟩

/-- `view::cumprod` = `accumulate(multiply_t)` -/
theorem cumprod_eq_scan [Mul α] (a : Arr α) (axis : Int) (hv : ValidAxis a.shape.length axis) (d : Idx)
    (hd : InShape d a.shape) :
    (cumprod a axis).shape = a.shape ∧
      (cumprod a axis).get d = specAccumElem (· * ·) a (normAxis a.shape.length axis) d :=
  ⟨rfl, accumulate_eq_scan _ a axis hv d hd⟩

/-! ### non-vacuity: the hypotheses are satisfiable on non-trivial values, and the statements say something -/

example : Pos [2,3,2] ∧ ValidAxes 3 (some [-1, 0]) ∧ InShape [0,2,0] (specShape [2,3,2] (axisSet 3 (some [-1,0])) true) := by
  decide
example : specShape [2,3,4] (axisSet 3 (some [-1, 0])) false = [3] ∧ specShape [2,3,4] (axisSet 3 none) true = [1,1,1] := by
  decide
example : addressed [2,3,2] (axisSet 3 (some [1])) false [1,0] = [[1,0,0],[1,1,0],[1,2,0]] := by decide
example : reduceReads [2,3,2] (some [-2]) false [1,0] = some [[1,0,0],[1,1,0],[1,2,0]] := by decide
example : reduceElem (fun x y => 31 * x + y) none (Arr.iota [2,3,2]) (some [1]) false [1,0]
    = some ((6 * 31 + 8) * 31 + 10) := by decide
example : accumulateElem (fun x y => 31 * x + y) (Arr.iota [2,3]) 1 [1,2] = some ((3 * 31 + 4) * 31 + 5) := by decide
example : ValidAxis 2 (-1) ∧ normAxis 2 (-1) = 1 ∧ InShape [1,2] [2,3] := by decide
example : accumulateElem (fun x y => 31 * x + y) (Arr.iota [2,3]) (-1) [1,2] = some ((3 * 31 + 4) * 31 + 5) := by decide
example : accumulateReads [2,3] (-2) [1,2] = some [[0,2],[1,2]] := by decide
example : ¬ ValidAxes 2 (some [0, -2]) ∧ ¬ ValidAxes 2 (some [2]) := by decide
-- trace: hypotheses satisfiable on a rank-3 array with a negative axis and a negative offset; the statement computes
example : ValidAxis 3 (-1) ∧ ValidAxis 3 0 ∧ normAxis 3 (-1) ≠ normAxis 3 0 ∧ [2,3,4][normAxis 3 (-1)]? = some 4 ∧
    [2,3,4][normAxis 3 0]? = some 2 ∧ (-(-2 : Int)).toNat < 4 ∧ (-2 : Int).toNat < 2 := by decide
example : (trace (· + ·) (some 0) (Arr.iota [2,3,4]) (-2) (-1) 0).map (fun v => (v.shape, v.get [1])) = some ([3], some (6 + 19)) := by
  decide
example : (Linalg.specTrace [2,3,4] (-2) 2 0).map (fun sp => (sp.shape, sp.get [1])) = some ([3], [[0,1,2],[1,1,3]]) := by
  decide
example : (trace (· + ·) (some 0) (Arr.iota [3,4]) 1 0 1).map (fun v => (v.shape, v.get [])) = some ([], some (1 + 6 + 11)) := by decide
-- the repaired defects, as regression guards: an empty diagonal sums to 0, a fold over no element is the initial value / the identity
example : (trace (· + ·) (some 0) (Arr.iota [3,4]) 4 0 1).map (fun v => (v.shape, v.get [])) = some ([], some 0) := by decide
example : reduceElemId (some 0) (· + ·) (some 5) (⟨[2,0], fun _ => (0 : Int)⟩ : Arr Int) (some [1]) false [0] = some 5 := by decide
example : (sum none (⟨[2,0], fun _ => (7 : Int)⟩ : Arr Int) (some [1]) false).map (fun v => (v.shape, v.get [1])) = some ([2], some 0) := by decide
example : (prodReduce none (⟨[0], fun _ => (7 : Int)⟩ : Arr Int) none false).map (fun v => (v.shape, v.get [])) = some ([], some 1) := by decide
-- zero extents: reduced extents positive, a kept extent 0 (no result element); a reduced extent 0 (nothing addressed)
example : ValidAxes 3 (some [-1]) ∧ PosAxes [2,0,3] (axisSet 3 (some [-1])) ∧ ¬ Pos [2,0,3] ∧
    specShape [2,0,3] (axisSet 3 (some [-1])) false = [2,0] ∧ allIdx [2,0] = [] := by decide
example : ValidAxes 3 (some [1]) ∧ ¬ PosAxes [2,0,3] (axisSet 3 (some [1])) ∧
    InShape [1,2] (specShape [2,0,3] (axisSet 3 (some [1])) false) ∧ addressed [2,0,3] (axisSet 3 (some [1])) false [1,2] = [] := by
  decide
example : PosAxes [0,3] (axisSet 2 (some [1])) ∧ PosAxes [2,3] (axisSet 2 none) ∧ ¬ PosAxes [2,0] (axisSet 2 none) := by decide
example : reduceElem (fun x y => 31 * x + y) (some 7) (⟨[2,0,3], fun _ => 1⟩ : Arr Nat) (some [1]) false [1,2] = some 7 ∧
    reduceElem (fun x y => 31 * x + y) none (⟨[2,0,3], fun _ => 1⟩ : Arr Nat) (some [1]) false [1,2] = none := by decide
example : (1 : Nat) ∉ [2] ∧ [4,0,3][1]? = some 0 ∧ specShape [4,0,3] [2] true = [4,0,1] := by decide
-- repeated axes under keepdims: hypotheses satisfiable with a genuine repetition in two spellings; the statement computes
example : (∀ x ∈ [1, -2, 1], ValidAxis 3 x) ∧ [1, -2, 1].map (normAxis 3) = [1, 1, 1] ∧
    InShape [1,0,1] (specShape [2,3,2] ([1, -2, 1].map (normAxis 3)) true) := by decide
example : (reduce (fun x y => 31 * x + y) none (Arr.iota [2,3,2]) (some [1, -2, 1]) true).map (fun v => (v.shape, v.get [1,0,1]))
    = some ([2,1,2], some ((7 * 31 + 9) * 31 + 11)) := by decide
example : reduce (fun x y => 31 * x + y) none (Arr.iota [2,3,2]) (some [1, 1]) false = none := by decide
-- mean / var of the rows of [[0,1,2],[3,4,5]] over Nat with truncating division and truncating subtraction (exact values
-- would need a field): row 1 has mean (3+4+5)/3 = 4 and var (ddof 0) ((3-4)² + (4-4)² + (5-4)²)/3 = (0+0+1)/3
example : (mean (· + ·) (fun x n => x / n) (Arr.iota [2,3]) (some [-1]) false).map (fun v => (v.shape, v.get [1]))
    = some ([2], some 4) := by decide
example : specVarElem (· + ·) (fun x y => x - y) (fun x => x * x) (fun x n => x / n) (Arr.iota [2,3]) [1] false 0 [1]
    = some ((0 + 0 + 1) / 3) := by decide

end NmVerif.Props.C08
