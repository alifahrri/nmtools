/-
  NmVerif.Basic — L0 of the model: shapes, strides, offsets, multi-indices.

  Mirrors (loop for loop, with `List Nat` for every index container kind):
    include/nmtools/array/index/product.hpp          product
    include/nmtools/array/index/compute_strides.hpp  stride / compute_strides
    include/nmtools/array/index/compute_offset.hpp   compute_offset
    include/nmtools/array/index/compute_indices.hpp  compute_indices
    include/nmtools/array/index/ndindex.hpp          ndindex_t::operator[]
    include/nmtools/array/ndarray/base_ndarray.hpp   row_major_offset_t / column_major_offset_t

  Core Lean only (no Mathlib): this file is linked into the `driver` executable.

  Where a lemma stands.  At the root: the equations of `prod` and `strides`, the parallel inductions `inShape_ind` /
  `eqLength_ind`, and what a hypothesis `Pos s` or `InShape i s` YIELDS (`prod_pos` among them).  Under `Shape.`: what
  ESTABLISHES `Pos` or `InShape` (`prod_pos_iff` is `prod_pos` with its converse) and `prod` of particular lists.
-/
namespace NmVerif

abbrev Shape := List Nat
abbrev Idx := List Nat

/-- `index::product` -/
def prod : List Nat → Nat
  | [] => 1
  | x :: xs => x * prod xs

/-- `index::compute_strides`: entry k is `∏_{j>k} shape[j]` (the loop of `index::stride`). -/
def strides : Shape → List Nat
  | [] => []
  | _ :: xs => prod xs :: strides xs

/-- `index::compute_offset(indices, strides)`: `Σ strides[i]*indices[i]`. -/
def computeOffset : Idx → List Nat → Nat
  | i :: is, s :: ss => s * i + computeOffset is ss
  | _, _ => 0

/-- `index::compute_indices(offset, shape, strides)`: `(offset / strides[i]) % shape[i]`. -/
def computeIndices (off : Nat) : Shape → List Nat → Idx
  | sh :: shs, st :: sts => (off / st % sh) :: computeIndices off shs sts
  | _, _ => []

/-- `ndindex_t::operator[](i)` -/
def ndindex (s : Shape) (i : Nat) : Idx := computeIndices i s (strides s)

/-- `column_major_offset_t`: `shape_ = reverse(shape)`, `strides_ = reverse(compute_strides(shape_))`. -/
def colStrides (s : Shape) : List Nat := (strides s.reverse).reverse

/-- multi-index lies inside the shape: same length, pointwise `<`. -/
def InShape : Idx → Shape → Prop
  | [], [] => True
  | i :: is, s :: ss => i < s ∧ InShape is ss
  | _, _ => False

instance decInShape : (i : Idx) → (s : Shape) → Decidable (InShape i s)
  | [], [] => isTrue trivial
  | i :: is, s :: ss =>
      match Nat.decLt i s, decInShape is ss with
      | isTrue h1, isTrue h2 => isTrue ⟨h1, h2⟩
      | isFalse h1, _ => isFalse (fun h => h1 h.1)
      | _, isFalse h2 => isFalse (fun h => h2 h.2)
  | [], _ :: _ => isFalse (fun h => h)
  | _ :: _, [] => isFalse (fun h => h)

/-- all extents positive (the guard of C01 and most index properties). -/
def Pos (s : List Nat) : Prop := ∀ x ∈ s, 0 < x

instance (s : List Nat) : Decidable (Pos s) := by unfold Pos; exact inferInstance

/-- all multi-indices of a shape in row-major (C, lexicographic) order: the SPEC enumeration. -/
def allIdx : Shape → List Idx
  | [] => [[]]
  | a :: t => (List.range a).flatMap (fun i => (allIdx t).map (i :: ·))

theorem Pos.tail {a : Nat} {t : List Nat} (h : Pos (a :: t)) : Pos t :=
  fun x hx => h x (List.mem_cons_of_mem _ hx)

theorem Pos.head {a : Nat} {t : List Nat} (h : Pos (a :: t)) : 0 < a := h a List.mem_cons_self

theorem prod_pos {s : List Nat} (h : Pos s) : 0 < prod s := by
  induction s with
  | nil => exact Nat.one_pos
  | cons a t ih => exact Nat.mul_pos h.head (ih h.tail)

theorem prod_append (a b : List Nat) : prod (a ++ b) = prod a * prod b := by
  induction a with
  | nil => exact (Nat.one_mul _).symm
  | cons x xs ih =>
    show x * prod (xs ++ b) = x * prod xs * prod b
    rw [ih, Nat.mul_assoc]

theorem prod_snoc (pre : List Nat) (c : Nat) : prod (pre ++ [c]) = prod pre * c := by
  rw [prod_append, prod, prod, Nat.mul_one]

theorem prod_mid (pre post : List Nat) (A : Nat) : prod (pre ++ A :: post) = prod pre * A * prod post := by
  rw [prod_append, prod, Nat.mul_assoc]

theorem prod_reverse (s : List Nat) : prod s.reverse = prod s := by
  induction s with
  | nil => rfl
  | cons a t ih => rw [List.reverse_cons, prod_snoc, ih, Nat.mul_comm, prod]

theorem strides_length (s : Shape) : (strides s).length = s.length := by
  induction s with
  | nil => rfl
  | cons a t ih => exact congrArg (· + 1) ih

theorem inShape_ind {motive : (i : Idx) → (s : Shape) → InShape i s → Prop} (nil : motive [] [] trivial)
    (cons : ∀ i0 it a t (h0 : i0 < a) (ht : InShape it t), motive it t ht → motive (i0 :: it) (a :: t) ⟨h0, ht⟩)
    (i : Idx) (s : Shape) (h : InShape i s) : motive i s h := by
  induction i generalizing s with
  | nil => cases s with | nil => exact nil | cons _ _ => exact h.elim
  | cons i0 it ih => cases s with | nil => exact h.elim | cons a t => exact cons i0 it a t h.1 h.2 (ih t h.2)

theorem eqLength_ind {motive : (xs ys : List Nat) → xs.length = ys.length → Prop} (nil : motive [] [] rfl)
    (cons : ∀ x xs y ys (h : xs.length = ys.length), motive xs ys h → motive (x :: xs) (y :: ys) (congrArg (· + 1) h)) :
    ∀ xs ys h, motive xs ys h
  | [], [], _ => nil
  | x :: xs, y :: ys, h => cons x xs y ys (Nat.succ.inj h) (eqLength_ind nil cons xs ys _)

theorem InShape.length_eq {i : Idx} {s : Shape} (h : InShape i s) : i.length = s.length := by
  induction i, s, h using inShape_ind with
  | nil => rfl
  | cons _ _ _ _ _ _ ih => exact congrArg (· + 1) ih

theorem Shape.pos_nil : Pos [] := fun _ h => nomatch h

theorem Shape.pos_cons {a : Nat} {t : List Nat} (ha : 0 < a) (ht : Pos t) : Pos (a :: t) :=
  fun x hx => (List.mem_cons.mp hx).elim (fun e => e ▸ ha) (ht x)

theorem pos_of_inShape {i : Idx} {s : Shape} (h : InShape i s) : Pos s := by
  induction i, s, h using inShape_ind with
  | nil => exact Shape.pos_nil
  | cons _ _ _ _ h0 _ ih => exact Shape.pos_cons (Nat.zero_lt_of_lt h0) ih

theorem prod_tail_le {s : List Nat} (hs : Pos s) : prod s.tail ≤ prod s := by
  cases s with
  | nil => simp
  | cons a t =>
    simp only [List.tail_cons, prod]
    exact Nat.le_mul_of_pos_left _ hs.head

theorem strides_pos {s : List Nat} (hs : Pos s) : Pos (strides s) := by
  induction s with
  | nil => exact Shape.pos_nil
  | cons a t ih => exact Shape.pos_cons (prod_pos hs.tail) (ih hs.tail)

namespace Shape

theorem pos_of_subset {l s : List Nat} (h : ∀ x ∈ l, x ∈ s) (hs : Pos s) : Pos l :=
  fun x hx => hs x (h x hx)

theorem pos_append {s t : List Nat} : Pos (s ++ t) ↔ Pos s ∧ Pos t :=
  List.forall_mem_append

theorem pos_reverse {s : List Nat} : Pos s.reverse ↔ Pos s :=
  ⟨pos_of_subset fun _ hx => List.mem_reverse.mpr hx, pos_of_subset fun _ hx => List.mem_reverse.mp hx⟩

theorem prod_eq_zero_iff {s : List Nat} : prod s = 0 ↔ 0 ∈ s := by
  induction s with
  | nil => exact Iff.intro (fun h => absurd h Nat.one_ne_zero) (fun h => nomatch h)
  | cons a t ih =>
    rw [prod, Nat.mul_eq_zero, ih, List.mem_cons]
    exact or_congr_left eq_comm

theorem prod_pos_iff {s : List Nat} : 0 < prod s ↔ Pos s :=
  ⟨fun h x hx => Nat.pos_of_ne_zero fun e => Nat.ne_of_gt h (prod_eq_zero_iff.mpr (e ▸ hx)), prod_pos⟩

theorem prod_replicate_one (n : Nat) : prod (List.replicate n 1) = 1 := by
  induction n with
  | zero => rfl
  | succ n ih => rw [List.replicate_succ, prod, ih]

/-- the test for 1 is a parameter: callers spell it `!= 1` or `≠ 1` -/
theorem prod_filter_ne_one (p : Nat → Bool) (hp : ∀ x, p x = false → x = 1) (s : List Nat) :
    prod (s.filter p) = prod s := by
  induction s with
  | nil => rfl
  | cons a t ih =>
    cases h : p a with
    | true => rw [List.filter_cons_of_pos h, prod, prod, ih]
    | false => rw [List.filter_cons_of_neg (by rw [h]; exact Bool.false_ne_true), ih, prod, hp a h, Nat.one_mul]

theorem inShape_append {a b s t : List Nat} (h1 : InShape a s) (h2 : InShape b t) : InShape (a ++ b) (s ++ t) := by
  induction a, s, h1 using inShape_ind with
  | nil => exact h2
  | cons _ _ _ _ h0 _ ih => exact ⟨h0, ih⟩

theorem inShape_append_iff (i s t : List Nat) :
    InShape i (s ++ t) ↔ InShape (i.take s.length) s ∧ InShape (i.drop s.length) t := by
  induction s generalizing i with
  | nil => exact Iff.intro (fun h => ⟨trivial, h⟩) (fun h => h.2)
  | cons e s ih =>
    cases i with
    | nil => exact ⟨False.elim, fun h => h.1⟩
    | cons x xs => exact (and_congr_right fun _ => ih xs).trans and_assoc.symm

theorem inShape_append_split {d s t : List Nat} :
    InShape d (s ++ t) ↔ ∃ p q, d = p ++ q ∧ InShape p s ∧ InShape q t :=
  ⟨fun h => ⟨_, _, (List.take_append_drop s.length d).symm, (inShape_append_iff d s t).mp h⟩,
    fun ⟨_, _, e, h1, h2⟩ => e ▸ inShape_append h1 h2⟩

theorem inShape_iff_getElem? (i s : List Nat) :
    InShape i s ↔ i.length = s.length ∧ ∀ (k x e : Nat), i[k]? = some x → s[k]? = some e → x < e := by
  constructor
  · intro h
    induction i, s, h using inShape_ind with
    | nil => exact ⟨rfl, fun k x e h => nomatch h⟩
    | cons x xs a t h0 _ ih =>
      refine ⟨congrArg (· + 1) ih.1, fun k y e hy he => ?_⟩
      cases k with
      | zero => cases hy; cases he; exact h0
      | succ k => exact ih.2 k y e hy he
  · rintro ⟨hl, h⟩
    induction i, s, hl using eqLength_ind with
    | nil => trivial
    | cons x xs a t _ ih => exact ⟨h 0 x a rfl rfl, ih fun k => h (k + 1)⟩

theorem inShape_set {d s : List Nat} {x e : Nat} (k : Nat) (h : InShape d s) (hx : x < e) :
    InShape (d.set k x) (s.set k e) := by
  induction d, s, h using inShape_ind generalizing k with
  | nil => trivial
  | cons _ _ _ _ h0 ht ih =>
    cases k with
    | zero => exact ⟨hx, ht⟩
    | succ k => exact ⟨h0, ih k⟩

theorem inShape_zipWith_mod (d s : List Nat) (hl : d.length = s.length) (hs : Pos s) :
    InShape (List.zipWith (· % ·) d s) s := by
  induction d, s, hl using eqLength_ind with
  | nil => trivial
  | cons x xs a t _ ih => exact ⟨Nat.mod_lt _ hs.head, ih hs.tail⟩

theorem zipWith_mod_self {d s : List Nat} (h : InShape d s) : List.zipWith (· % ·) d s = d := by
  induction d, s, h using inShape_ind with
  | nil => rfl
  | cons _ _ _ _ h0 _ ih => rw [List.zipWith_cons_cons, Nat.mod_eq_of_lt h0, ih]

end Shape

end NmVerif
