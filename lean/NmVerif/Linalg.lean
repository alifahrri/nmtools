import NmVerif.Basic
import NmVerif.Arr
import NmVerif.Index.MatmulBroadcast
import NmVerif.Index.Matmul
/-
  MODEL and SPEC of the linear-algebra views (property C16).

  Everything is *symbolic in the data*: the operands are the leaf arrays `Arr.ident s` whose element at `i` is the
  multi-index `i` itself, every view combinator is polymorphic in the element type, so what a routine returns is, for
  each destination index, the list of product terms `(lhs index, rhs index)` it adds up, in the order the reducer folds
  them.  `valueAt` turns such a term list into a number for concrete operand data (the driver does that for the
  correspondence run; the value theorems are corollaries of the term theorems).

  MODEL (mirrors include/nmtools/array/view/*.hpp as compositions of the view combinators below)
    matmulV1   view::matmul      matmul.hpp:356-442  (slices of row/column, multiply, reduce_add over everything)
    matmulV2   view::matmulv2    matmul.hpp:945-988  (tile, reshape, transpose, reshape, multiply, sum(-1))
    dot, inner, outer, vecdot, tensordot (integer / explicit axes), kron, trace (through diagonal)
  SPEC  (NumPy's definitions, written directly on indices)
    specMatmul, specDot, specInner, specOuter, specVecdot, specTensordot, specKron, specTrace
  Core Lean only.
-/
namespace NmVerif
open NmVerif.MB
namespace Linalg

/-! ## view combinators (polymorphic in the element type) -/

variable {α β γ : Type}

/-- leaf operand with symbolic data: the element at `i` is `i` -/
def ident (s : Shape) : Arr Idx := ⟨s, id⟩

/-- `view::reshape(a, t)` for a target without `-1`: `Nothing` unless the element counts agree;
    element `d` = source element at `compute_indices(compute_offset(d, strides t), src_shape)` -/
def reshape (a : Arr α) (t : Shape) : Option (Arr α) :=
  if prod a.shape = prod t then
    some ⟨t, fun d => a.get (ndindex a.shape (computeOffset d (strides t)))⟩
  else none

/-- `view::flatten` -/
def flatten (a : Arr α) : Arr α := ⟨[prod a.shape], fun d => a.get (ndindex a.shape (d.headD 0))⟩

/-- `index::shape_tile`: right-aligned product of shape and reps, rank = max -/
def shapeTile (s r : List Nat) : List Nat :=
  let n := max s.length r.length
  let s' := List.replicate (n - s.length) 1 ++ s
  let r' := List.replicate (n - r.length) 1 ++ r
  List.zipWith (· * ·) s' r'

/-- `index::tile`: from the right, while the source axis exists: `ret[ai] = d[bi] % shape[ai]` -/
def tileIdx (d : Idx) (s : Shape) : Idx := List.zipWith (· % ·) (d.drop (d.length - s.length)) s

/-- `view::tile(a, reps)` -/
def tile (a : Arr α) (reps : List Nat) : Arr α := ⟨shapeTile a.shape reps, fun d => a.get (tileIdx d a.shape)⟩

/-- `index::scatter(d, axes)`: `ret[axes[i]] = d[i]` on a zero-initialised `ret` -/
def scatter (d : Idx) (axes : List Nat) : Idx :=
  (d.zip axes).foldl (fun acc p => acc.set p.2 p.1) (List.replicate d.length 0)

/-- `view::transpose(a, axes)`: `shape[i] = a.shape[axes[i]]`, element `d` = source element at `scatter(d, axes)`;
    the axes are not validated by the view (an out-of-range axis is modelled as `none`) -/
def transpose (a : Arr α) (axes : List Nat) : Option (Arr α) :=
  match axes.mapM (fun k => a.shape[k]?) with
  | some sh => some ⟨sh, fun d => a.get (scatter d axes)⟩
  | none => none

/-- a broadcasting binary ufunc (`view::multiply`): `Nothing` unless the shapes broadcast -/
def bcast2 (f : α → β → γ) (a : Arr α) (b : Arr β) : Option (Arr γ) :=
  match broadcastShape a.shape b.shape with
  | some sh => some ⟨sh, fun d => f (a.get (bcIdx d a.shape)) (b.get (bcIdx d b.shape))⟩
  | none => none

/-- `view::sum(a, axis = (-1, …, -n))`, keepdims = false: the last `n` axes are reduced; the reducer walks the
    sliced sub-array flattened in row-major order (reduce.hpp: `apply_slice` → `flatten` → left fold), so the terms
    come in `allIdx` order of the reduced extents -/
def sumLast (n : Nat) (a : Arr α) : Arr (List α) :=
  let k := a.shape.length - n
  ⟨a.shape.take k, fun d => (allIdx (a.shape.drop k)).map (fun r => a.get (d ++ r))⟩

/-- lhs and rhs term of an elementwise product -/
abbrev Term := Idx × Idx

def mulT (a b : Arr Idx) : Option (Arr Term) := bcast2 Prod.mk a b

/-! ## MODEL: the routines as the headers compose them -/

/-- `view::matmul` (`matmul_t`): shape by `shape_matmul`, `none` when it refuses the operands (`C16.matmul_isSome_iff`);
    element `d`: `index::matmul` gives the two slice lists, `apply_slice` takes the row of lhs and
    the column of rhs (two 1-d views; a 1-d operand is taken whole), `multiply` broadcasts them, `reduce_add(…, None)`
    folds everything.  `none` as an element = an out-of-range read of the result index (not reachable for an index
    inside the result shape, `matmul_elem_eq_sum`). -/
def matmulV1 (sa sb : Shape) : Option (Arr (Option (List Term))) :=
  match shapeMatmul sa sb with
  | none => none
  | some dst => some ⟨dst, fun d =>
      match matmulSlices d sa sb dst, getNeg? sa 1, (if sb.length = 1 then sb[0]? else getNeg? sb 2) with
      | some (lb, row, rb, col), some k, some k' =>
        let l : Arr Idx := ⟨[k], fun i => lb ++ row.toList ++ i⟩
        let r : Arr Idx := ⟨[k'], fun i => rb ++ i ++ col.toList⟩
        (mulT l r).map (fun m => ((sumLast 1 m).get []))
      | _, _, _ => none⟩

/-- `view::matmulv2` -/
def matmulV2 (sa sb : Shape) : Option (Arr (List Term)) := do
  let lhs := ident sa
  let rhs := ident sb
  let reps := matmulLhsTile sa sb
  let axes := matmulRhsTranspose sb.length
  let tfL := matmulLhsReshape sa sb
  let a ← reshape (tile lhs reps) tfL
  let b ← transpose rhs axes
  let tfR := matmulRhsReshape a.shape b.shape
  let c ← reshape b tfR
  let m ← mulT a c
  pure (sumLast 1 m)

/-- `index::dot_lhs_tile` -/
def dotLhsTile (ls rs : Shape) : List Nat :=
  let r := List.replicate ls.length 1
  if 1 < rs.length then
    match getNeg? rs 1 with
    | some n => setNeg r 1 n
    | none => r
  else r

/-- `index::dot_rhs_transpose` -/
def dotRhsTranspose (rs : Shape) : List Nat :=
  if 1 < rs.length then swapLast2 (List.range rs.length) else List.range rs.length

/-- `index::dot_lhs_reshape`: `dst_dim = max(lhs_dim + rhs_dim - 2, lhs_dim) (+1 when rhs_dim > 1)`, ones,
    the first `lhs_dim-1` entries from `lhs_shape`, then `[-2] = rhs[-1]`, `[-1] = rhs[-2]` (or `[-1] = rhs[-1]` for 1-d rhs) -/
def dotLhsReshape (ls rs : Shape) : Option (List Nat) :=
  let ldim := ls.length
  let rdim := rs.length
  let d0 := if ldim + rdim - 2 < ldim ∨ ldim + rdim < 2 then ldim else ldim + rdim - 2
  let dstDim := if 1 < rdim then d0 + 1 else d0
  let r := ls.take (ldim - 1) ++ List.replicate (dstDim - (ldim - 1)) 1
  if 1 < rdim then
    match getNeg? rs 1, getNeg? rs 2 with
    | some n, some k => if 2 ≤ r.length then some (setNeg (setNeg r 2 n) 1 k) else none
    | _, _ => none
  else
    match getNeg? rs 1 with
    | some k => if 1 ≤ r.length then some (setNeg r 1 k) else none
    | none => none

/-- `view::dot` -/
def dot (sa sb : Shape) : Option (Arr (List Term)) := do
  let reps := dotLhsTile sa sb
  let dstShape ← dotLhsReshape sa sb
  let axes := dotRhsTranspose sb
  let tfL ← reshape (tile (ident sa) reps) dstShape
  let tfR ← transpose (ident sb) axes
  let m ← mulT tfL tfR
  pure (sumLast 1 m)

/-- `index::inner_lhs_reshape`: `dst_dim = max(lhs_dim + rhs_dim - 1, lhs_dim)`, ones, first `lhs_dim-1` from lhs, last = `lhs[-1]` -/
def innerLhsReshape (ls rs : Shape) : Option (List Nat) :=
  let ldim := ls.length
  let rdim := rs.length
  let dstDim := if ldim + rdim - 1 > ldim then ldim + rdim - 1 else ldim
  let r := ls.take (ldim - 1) ++ List.replicate (dstDim - (ldim - 1)) 1
  match getNeg? ls 1 with
  | some k => if 1 ≤ r.length then some (setNeg r 1 k) else none
  | none => none

/-- `view::inner` -/
def inner (sa sb : Shape) : Option (Arr (List Term)) := do
  let dstShape ← innerLhsReshape sa sb
  let l ← reshape (ident sa) dstShape
  let m ← mulT l (ident sb)
  pure (sumLast 1 m)

/-- `view::outer`: `multiply(reshape(flatten lhs, (-1, 1)), flatten rhs)`; the `-1` resolves to the element count -/
def outer (sa sb : Shape) : Option (Arr Term) := do
  let fl := flatten (ident sa)
  let fr := flatten (ident sb)
  let l ← reshape fl [prod sa, 1]
  mulT l fr

/-- `view::vecdot` (keepdims = false) -/
def vecdot (sa sb : Shape) : Option (Arr (List Term)) := do
  let m ← mulT (ident sa) (ident sb)
  if m.shape.length = 0 then none else pure (sumLast 1 m)

/-- `index::normalize_axis` for one axis -/
def normAxis (a : Int) (dim : Nat) : Option Nat :=
  if -(dim : Int) ≤ a ∧ a < dim then some (if a < 0 then (a + dim).toNat else a.toNat) else none

/-- the non-listed axes in increasing order followed by the listed ones in the given order
    (`tensordot_lhs_transpose` / `tensordot_rhs_transpose` with explicit axes) -/
def moveToEnd (dim : Nat) (axes : List Nat) : List Nat :=
  (List.range dim).filter (fun i => !axes.contains i) ++ axes

/-- `index::tensordot_lhs_reshape(shape(a), rhs_shape, sum_axis)`: `dst_dim = lhs_dim + rhs_dim - n`, ones,
    first `lhs_dim - n` and last `n` entries from the (transposed) lhs shape -/
def tensordotLhsReshape (ls : Shape) (rdim n : Nat) : List Nat :=
  ls.take (ls.length - n) ++ List.replicate (rdim - n) 1 ++ ls.drop (ls.length - n)

/-- `view::tensordot` after the axes have been split into (lhs transpose axes, rhs transpose axes, number of summed axes) -/
def tensordotCore (sa sb : Shape) (lt rt : List Nat) (n : Nat) : Option (Arr (List Term)) := do
  let a ← transpose (ident sa) lt
  let lsh := tensordotLhsReshape a.shape sb.length n
  let b ← reshape a lsh
  let c ← transpose (ident sb) rt
  let d ← mulT b c
  pure (sumLast n d)

/-- `view::tensordot(lhs, rhs, n)` with an integer: lhs untouched, the first `n` rhs axes moved to the end -/
def tensordotInt (sa sb : Shape) (n : Nat) : Option (Arr (List Term)) :=
  tensordotCore sa sb (List.range sa.length) (moveToEnd sb.length (List.range n)) n

/-- `view::tensordot(lhs, rhs, (lhs_axes, rhs_axes))`; `normalize_axis` is unwrapped unchecked in the C++ (`none` here) -/
def tensordotAxes (sa sb : Shape) (la ra : List Int) : Option (Arr (List Term)) := do
  let la' ← la.mapM (normAxis · sa.length)
  let ra' ← ra.mapM (normAxis · sb.length)
  tensordotCore sa sb (moveToEnd sa.length la') (moveToEnd sb.length ra') la.length

/-- `index::kron_dst_transpose(lhs_dim, rhs_dim)`: the recursion on the rank difference, literally -/
def kronDstTranspose : Nat → Nat → Nat → List Nat
  | 0, l, r => List.range (l + r)
  | fuel + 1, l, r =>
    let dst := l + r
    let init := List.range dst
    if l = r then
      let r1 := (List.range (dst / 2)).foldl (fun acc i => acc.set (i * 2) i) init
      (List.range (dst / 2)).foldl (fun acc i => acc.set (i * 2 + 1) (i + dst / 2)) r1
    else if l < r then
      let ia := kronDstTranspose fuel l (r - 1)
      let r1 := (List.range (dst - 1)).foldl (fun acc i => acc.set i (ia.getD i 0)) init
      (List.range l).foldl (fun acc i =>
        -- idx = -(i+1)*2 : swap entries at len-2(i+1) and len-2(i+1)-1
        let p := dst - 2 * (i + 1)
        let x := acc.getD p 0
        let y := acc.getD (p - 1) 0
        (acc.set p y).set (p - 1) x) r1
    else
      let ia := kronDstTranspose fuel l (r + 1)
      let r1 := (List.range dst).foldl (fun acc i => acc.set i (ia.getD i 0)) init
      (List.range r).foldl (fun acc i =>
        -- idx = -(2i+1) : swap entries at len-(2i+1) and len-(2i+1)-1
        let p := dst - (2 * i + 1)
        let x := acc.getD p 0
        let y := acc.getD (p - 1) 0
        (acc.set p y).set (p - 1) x) r1

/-- `index::kron_dst_reshape`: right-aligned product, the longer shape's leading extents copied -/
def kronDstReshape (ls rs : Shape) : List Nat :=
  let n := max ls.length rs.length
  let l' := List.replicate (n - ls.length) 1 ++ ls
  let r' := List.replicate (n - rs.length) 1 ++ rs
  List.zipWith (· * ·) l' r'

/-- `view::kron` -/
def kron (sa sb : Shape) : Option (Arr Term) := do
  let ldim := sa.length
  let rdim := sb.length
  let lsh := sa ++ List.replicate rdim 1            -- kron_lhs_reshape
  let axes := kronDstTranspose (ldim + rdim + 1) ldim rdim
  let dst := kronDstReshape sa sb
  let a ← reshape (ident sa) lsh
  let b := tile a sb
  let c ← mulT b (ident sb)
  let d ← transpose c axes
  reshape d dst

/-- `index::shape_diagonal`: the other axes in order, then
    `min(offset < 0 ? n1 + offset : n1, offset > 0 ? n2 - offset : n2)` (in `nm_index_t`), clamped at 0 -/
def shapeDiagonal (s : Shape) (offset : Int) (ax1 ax2 : Nat) : Option Shape :=
  match s[ax1]?, s[ax2]? with
  | some n1, some n2 =>
    let rest := ((List.range s.length).filter (fun i => i ≠ ax1 ∧ i ≠ ax2)).filterMap (fun i => s[i]?)
    let s1 : Int := if offset < 0 then (n1 : Int) + offset else n1
    let s2 : Int := if offset > 0 then (n2 : Int) - offset else n2
    let m := if s1 < s2 then s1 else s2
    -- `src_i = (src_i < 0 ? 0 : src_i)`: an offset beyond the extent selects an empty diagonal
    some (rest ++ [(if m < 0 then 0 else m).toNat])
  | _, _ => none

/-- the loop of `index::diagonal`: walking the source axes `0..dim-1`, every axis other than the two diagonal ones takes
    the next destination coordinate (`at(indices, idx_i++)`); the two assignments after the loop
    (`result[axis1] = v1; result[axis2] = v2`, the second one winning when the axes coincide) are folded in -/
def diagonalFill (ax1 ax2 : Nat) (v1 v2 : Int) : List Nat → Idx → List Int
  | [], _ => []
  | i :: is, ds =>
    if i = ax2 then v2 :: diagonalFill ax1 ax2 v1 v2 is ds
    else if i = ax1 then v1 :: diagonalFill ax1 ax2 v1 v2 is ds
    else
      match ds with
      | x :: xs => (x : Int) :: diagonalFill ax1 ax2 v1 v2 is xs
      | [] => 0 :: diagonalFill ax1 ax2 v1 v2 is []

/-- `index::diagonal(src_shape, indices, offset, axis1, axis2)`:
    `result[axis1] = indices[-1] + (offset < 0 ? -offset : 0)`, `result[axis2] = indices[-1] + (offset > 0 ? offset : 0)` -/
def diagonalIdx (srcDim : Nat) (d : Idx) (offset : Int) (ax1 ax2 : Nat) : List Int :=
  match d.getLast? with
  | some last =>
    diagonalFill ax1 ax2 ((last : Int) + (if offset < 0 then -offset else 0)) ((last : Int) + (if offset > 0 then offset else 0))
      (List.range srcDim) d
  | none => []

/-- element read of a leaf `ndarray_t` at a (possibly wrapped) index: `data_.at(Σ strides·idx mod 2^64)`;
    `some p` = buffer position `p` is read, `none` = the range check of the buffer throws -/
def leafRead (s : Shape) (i : List Int) : Option Nat :=
  let off : Int := ((strides s).zip i).foldl (fun acc p => acc + (p.1 : Int) * p.2) 0
  if 0 ≤ off ∧ off < prod s then some off.toNat else none

/-- `view::trace(a, offset, axis1, axis2)` = `sum(diagonal(a, offset, axis1, axis2), -1)`; elements are the buffer
    positions read (`none` = out-of-range access) -/
def trace (s : Shape) (offset : Int) (axis1 axis2 : Int) : Option (Arr (List (Option Nat))) := do
  let ax1 ← normAxis axis1 s.length
  let ax2 ← normAxis axis2 s.length
  let dsh ← shapeDiagonal s offset ax1 ax2
  let diag : Arr (Option Nat) := ⟨dsh, fun d => leafRead s (diagonalIdx s.length d offset ax1 ax2)⟩
  if dsh.length = 0 then none else pure (sumLast 1 diag)

/-! ## contracted-extent validation (fix C15-contraction-extent)

  `view::matmulv2`, `view::inner`, `view::vecdot`, `view::tensordot` end in a broadcasting `multiply` of the re-arranged
  operands, which alone would pair a contracted axis of extent 1 with a partner of any extent.  Since the fix each of them
  returns the pipeline result only if the contracted extents are equal (shapes known at run time: `Nothing` otherwise);
  `view::tensordot` with an integer `n` first refuses `n` beyond the number of dimensions of an operand.
  The un-validated pipelines above (`matmulV2`, `inner`, `vecdot`, `tensordotCore` …) stay as they are: the views below are
  "pipeline, then the check", in the order of the C++ (the models of `linear` / `bilinear` in NN/ use the pipelines on
  operands that pass the check). -/

/-- the check of the repaired `view::inner` / `view::vecdot`: the last extents agree (or an operand has no axis at all) -/
def lastAligned (sa sb : Shape) : Bool := sa.length == 0 || sb.length == 0 || sa.getLast? == sb.getLast?

/-- `view::matmulv2` (repaired): the pipeline result, unless `index::shape_matmul` refuses the operand shapes -/
def matmulV2C (sa sb : Shape) : Option (Arr (List Term)) :=
  (matmulV2 sa sb).bind (fun r => if (shapeMatmul sa sb).isSome then some r else none)

/-- `view::inner` (repaired) -/
def innerC (sa sb : Shape) : Option (Arr (List Term)) :=
  (inner sa sb).bind (fun r => if lastAligned sa sb then some r else none)

/-- `view::vecdot` (repaired) -/
def vecdotC (sa sb : Shape) : Option (Arr (List Term)) :=
  (vecdot sa sb).bind (fun r => if lastAligned sa sb then some r else none)

/-- the check of the repaired `view::tensordot`: the last `n` extents of the two transposed operands agree pairwise
    (`n` not beyond either rank) -/
def tensordotAligned (sa sb : Shape) (lt rt : List Nat) (n : Nat) : Bool :=
  match lt.mapM (fun k => sa[k]?), rt.mapM (fun k => sb[k]?) with
  | some ash, some csh =>
    decide (n ≤ ash.length) && decide (n ≤ csh.length) && (ash.drop (ash.length - n) == csh.drop (csh.length - n))
  | _, _ => false

def tensordotCoreC (sa sb : Shape) (lt rt : List Nat) (n : Nat) : Option (Arr (List Term)) :=
  (tensordotCore sa sb lt rt n).bind (fun r => if tensordotAligned sa sb lt rt n then some r else none)

/-- `view::tensordot(lhs, rhs, n)` (repaired): `Nothing` for `n` beyond a rank, then the pipeline and the extent check -/
def tensordotIntC (sa sb : Shape) (n : Nat) : Option (Arr (List Term)) :=
  if n ≤ sa.length ∧ n ≤ sb.length then
    tensordotCoreC sa sb (List.range sa.length) (moveToEnd sb.length (List.range n)) n
  else none

/-- `view::tensordot(lhs, rhs, (lhs_axes, rhs_axes))` (repaired); the axes themselves are still unwrapped unchecked -/
def tensordotAxesC (sa sb : Shape) (la ra : List Int) : Option (Arr (List Term)) := do
  let la' ← la.mapM (normAxis · sa.length)
  let ra' ← ra.mapM (normAxis · sb.length)
  tensordotCoreC sa sb (moveToEnd sa.length la') (moveToEnd sb.length ra') la.length

/-! ## SPEC: NumPy's definitions -/

/-- batch part / matrix part of a matmul operand (NumPy: a 1-d lhs is promoted by prepending a 1, a 1-d rhs by appending) -/
def batchOf (s : Shape) : Shape := s.take (s.length - 2)

/-- `np.matmul` shape: broadcast batch ++ [m] (unless lhs is 1-d) ++ [n] (unless rhs is 1-d); needs equal contraction lengths -/
def specMatmulShape (sa sb : Shape) : Option Shape :=
  match sa.getLast?, (if sb.length = 1 then sb.head? else sb[sb.length - 2]?) with
  | some k, some k' =>
    if k = k' then
      (broadcastShape (batchOf sa) (batchOf sb)).map (fun bs =>
        bs ++ (if sa.length = 1 then [] else (sa[sa.length - 2]?).toList)
           ++ (if sb.length = 1 then [] else sb.getLast?.toList))
    else none
  | _, _ => none

/-- `np.matmul` element: `out[β…, i, j] = Σ_k a[β_a…, i, k] · b[β_b…, k, j]` with `β` broadcast to each operand's batch
    shape; the `i` (resp. `j`) coordinate is absent when lhs (resp. rhs) is 1-d -/
def specMatmulTerms (sa sb : Shape) (d : Idx) : List Term :=
  match sa.getLast? with
  | none => []
  | some k =>
    let nb := d.length - (if sa.length = 1 then 0 else 1) - (if sb.length = 1 then 0 else 1)
    let β := d.take nb
    let i := if sa.length = 1 then [] else (d[nb]?).toList
    let j := if sb.length = 1 then [] else d.getLast?.toList
    (List.range k).map (fun kk =>
      (bcIdx β (batchOf sa) ++ i ++ [kk], bcIdx β (batchOf sb) ++ [kk] ++ j))

def specMatmul (sa sb : Shape) : Option (Arr (List Term)) :=
  (specMatmulShape sa sb).map (fun sh => ⟨sh, specMatmulTerms sa sb⟩)

/-- `np.dot`: `dot(a,b)[i…, j…, m] = Σ_k a[i…, k] · b[j…, k, m]` (rhs 1-d: `Σ_k a[i…,k]·b[k]`) -/
def specDot (sa sb : Shape) : Option (Arr (List Term)) :=
  match sa.getLast?, (if sb.length = 1 then sb.head? else sb[sb.length - 2]?) with
  | some k, some k' =>
    if k = k' then
      let ia := sa.length - 1
      let jb := sb.length - 2
      some ⟨sa.take ia ++ sb.take jb ++ (if sb.length = 1 then [] else sb.getLast?.toList), fun d =>
        (List.range k).map (fun kk =>
          (d.take ia ++ [kk], (d.drop ia).take jb ++ [kk] ++ (if sb.length = 1 then [] else d.getLast?.toList)))⟩
    else none
  | _, _ => none

/-- `np.inner`: `inner(a,b)[i…, j…] = Σ_k a[i…, k] · b[j…, k]` -/
def specInner (sa sb : Shape) : Option (Arr (List Term)) :=
  match sa.getLast?, sb.getLast? with
  | some k, some k' =>
    if k = k' then
      let ia := sa.length - 1
      some ⟨sa.take ia ++ sb.take (sb.length - 1), fun d =>
        (List.range k).map (fun kk => (d.take ia ++ [kk], d.drop ia ++ [kk]))⟩
    else none
  | _, _ => none

/-- `np.outer`: `out[i, j] = a.ravel()[i] · b.ravel()[j]` -/
def specOuter (sa sb : Shape) : Arr Term :=
  ⟨[prod sa, prod sb], fun d =>
    match d with
    | [x, y] => (ndindex sa x, ndindex sb y)
    | _ => ([], [])⟩

/-- `np.vecdot`: the last axes (equal length) are contracted, the leading axes broadcast -/
def specVecdot (sa sb : Shape) : Option (Arr (List Term)) :=
  match sa.getLast?, sb.getLast? with
  | some k, some k' =>
    if k = k' then
      (broadcastShape (sa.take (sa.length - 1)) (sb.take (sb.length - 1))).map (fun bs =>
        ⟨bs, fun d => (List.range k).map (fun kk =>
          (bcIdx d (sa.take (sa.length - 1)) ++ [kk], bcIdx d (sb.take (sb.length - 1)) ++ [kk]))⟩)
    else none
  | _, _ => none

/-- walk the axes `0..dim-1`: axis `axes[t]` gets `c[t]`, every other axis the next unused coordinate of `free` -/
def placeIdx (axes : List Nat) (c : Idx) : List Nat → Idx → Idx
  | [], _ => []
  | i :: is, free =>
    match (axes.zip c).lookup i with
    | some v => v :: placeIdx axes c is free
    | none =>
      match free with
      | f :: fs => f :: placeIdx axes c is fs
      | [] => []

/-- `np.tensordot(a, b, (la, ra))`: `out[i_free…, j_free…] = Σ_c a[i_free, c at la] · b[j_free, c at ra]`, `c` running
    over the contracted extents (taken from `a`) in row-major order of the listed axes; needs distinct in-range axes,
    equal counts and equal paired extents -/
def specTensordot (sa sb : Shape) (la ra : List Nat) : Option (Arr (List Term)) :=
  if la.length = ra.length ∧ la.Nodup ∧ ra.Nodup ∧ (∀ x ∈ la, x < sa.length) ∧ (∀ x ∈ ra, x < sb.length)
     ∧ la.map (fun x => sa[x]?) = ra.map (fun x => sb[x]?) then
    let fa := ((List.range sa.length).filter (fun i => !la.contains i))
    let fb := ((List.range sb.length).filter (fun i => !ra.contains i))
    let ext := la.filterMap (fun x => sa[x]?)
    some ⟨fa.filterMap (fun i => sa[i]?) ++ fb.filterMap (fun i => sb[i]?), fun d =>
      (allIdx ext).map (fun c =>
        (placeIdx la c (List.range sa.length) (d.take fa.length), placeIdx ra c (List.range sb.length) (d.drop fa.length)))⟩
  else none

/-- `np.kron`: shapes right-aligned (the shorter padded with leading ones), `out.shape[t] = a'[t]·b'[t]`,
    `out[d] = a[d[t] / b'[t] …] · b[d[t] % b'[t] …]` (padded axes dropped again) -/
def specKron (sa sb : Shape) : Arr Term :=
  let n := max sa.length sb.length
  let a' := List.replicate (n - sa.length) 1 ++ sa
  let b' := List.replicate (n - sb.length) 1 ++ sb
  ⟨List.zipWith (· * ·) a' b', fun d =>
    ((List.zipWith (· / ·) d b').drop (n - sa.length), (List.zipWith (· % ·) d b').drop (n - sb.length))⟩

/-- `np.trace(a, offset, axis1, axis2)`: the two axes removed, `out[rest] = Σ_i a[rest; axis1 = i + max(-offset,0), axis2 = i + max(offset,0)]`,
    `i` below the diagonal length `max(0, min(n1 - max(-offset,0), n2 - max(offset,0)))` -/
def specTrace (s : Shape) (offset : Int) (ax1 ax2 : Nat) : Option (Arr (List Idx)) :=
  match s[ax1]?, s[ax2]? with
  | some n1, some n2 =>
    if ax1 ≠ ax2 then
      let o1 := (-offset).toNat
      let o2 := offset.toNat
      let len := min (n1 - o1) (n2 - o2)
      let restAxes := (List.range s.length).filter (fun i => i ≠ ax1 ∧ i ≠ ax2)
      some ⟨restAxes.filterMap (fun i => s[i]?), fun d =>
        (List.range len).map (fun i => placeIdx [ax1, ax2] [i + o1, i + o2] (List.range s.length) d)⟩
    else none
  | _, _ => none

/-! ## values for concrete data -/

/-- Σ of products over a term list -/
def valueAt (A B : Idx → Int) (ts : List Term) : Int := (ts.map (fun t => A t.1 * B t.2)).foldl (· + ·) 0

end Linalg
end NmVerif
