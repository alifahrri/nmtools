/-
  L4 `Functional` — functors, currying, composition, combinators, extraction (C14).

  Mirrors include/nmtools/array/functional/functor.hpp, function_composition.hpp, combinator.hpp, compute_graph.hpp,
  utility/ct_map.hpp, utility/ct_digraph.hpp:

    fmap_t<F, Arity, N_OUT>                       `Functor`: arity + a map from (attributes, exactly `arity` operands) to N_OUT results
    functor_t<F, operands_t, attributes_t>        `Fn`: fmap + attributes bound by operator[] + operands bound so far
    functor_t::arity = F::arity - len(operands)   `Fn.arity`
    apply_function_t<functor_t>::operator()       `applyFn`   (0-arity apply / return self / apply and pass the rest / curry / apply)
    functor_composition_t<tuple<functors...>, operands>   `Comp`
    operator* (4 overloads)                       `FC.mul` : all of them are list append (operands held by a composition are dropped)
    apply_function_t<functor_composition_t>::operator()   `applyComp` / `run`: take the LAST functor, apply it to the first `arity`
                                                  operands, put the result(s) in front of the remaining operands, recurse
    combinator::swap / dup_n / dig_n / bury_n     operand-list rearrangements
    get_function_composition(view)                `compile`  : function * (composition of each view operand, visited last to first),
                                                  each operand through the `if constexpr` chain `View.dispatch` (alias / view / number-or-array)
    get_function_operands(view)                   `operandsOf`: leaves of the operands, visited first to last
    get_compute_graph(view)                       `IView.graph` over ct_map / ct_digraph (`Graph.addNode` = insert-if-absent, `addEdge`)

  `V` = operand values (arrays / views, opaque), `A` = attribute values.  Core Lean only (linked into the driver).
-/
namespace NmVerif.Functional

/-- `fmap_t<F,Arity,N_OUT>` -/
structure Functor (A V : Type) where
  arity : Nat
  fmap : List A → List V → List V

/-- `functor_t<F,operands_t,attributes_t>` -/
structure Fn (A V : Type) where
  f : Functor A V
  attrs : List A
  held : List V

namespace Fn
variable {A V : Type}

def ofFunctor (f : Functor A V) : Fn A V := ⟨f, [], []⟩

/-- `functor_t::arity` -/
def arity (g : Fn A V) : Nat := g.f.arity - g.held.length

/-- `operator[]`: `tuple_append(attributes, new_attribute)` -/
def withAttr (g : Fn A V) (a : A) : Fn A V := { g with attrs := g.attrs ++ [a] }

/-- currying: `initialize_operands(functor.operands, new_operands...)` -/
def bind (g : Fn A V) (xs : List V) : Fn A V := { g with held := g.held ++ xs }

/-- the fmap call with everything bound so far plus `xs` -/
def call (g : Fn A V) (xs : List V) : List V := g.f.fmap g.attrs (g.held ++ xs)

end Fn

/-- what applying operands to a functor returns: still a functor (currying) or the operand tuple / result -/
inductive Res (A V : Type) where
  | curried (g : Fn A V)
  | values (vs : List V)

/-- `apply_function_t<functor_t>::operator()(new_operands...)`, functor.hpp:368-428 -/
def applyFn {A V : Type} (g : Fn A V) (new : List V) : Res A V :=
  if new.length = 0 then
    if g.arity = 0 then .values (g.call []) else .curried g
  else if g.arity < new.length then
    -- apply to the first `arity` operands, push / cat the result in front of the others
    .values (g.call (new.take g.arity) ++ new.drop g.arity)
  else if new.length < g.arity then .curried (g.bind new)
  else .values (g.call new)

/-- operands given chunk by chunk (`f (a) (b,c) (d)`); applying to a finished result is not a C++ program: `none` -/
def applyChunks {A V : Type} (g : Fn A V) : List (List V) → Option (Res A V)
  | [] => some (.curried g)
  | c :: cs =>
    match applyFn g c with
    | .curried g' => applyChunks g' cs
    | .values vs => if cs.isEmpty then some (.values vs) else none

/-! ### compositions -/

/-- `functor_composition_t` -/
structure Comp (A V : Type) where
  fs : List (Fn A V)
  held : List V

/-- `functor_composition_t::arity`: Σ arity_i, minus one for every functor but the right-most -/
def Comp.arity {A V : Type} (c : Comp A V) : Int :=
  (c.fs.map (fun g => (g.arity : Int))).sum - ((c.fs.length : Int) - 1)

inductive CRes (A V : Type) where
  | curried (c : Comp A V)
  | values (vs : List V)

/-- the stack machine: `rfs` = the functors still to run, next one first (= the composition reversed).
    `none` = neither enough operands for the next functor nor a positive remaining arity (the C++ returns nothing). -/
def run {A V : Type} : List (Fn A V) → List V → Option (CRes A V)
  | [], ops => some (.values ops)
  | g :: rest, ops =>
    if g.arity ≤ ops.length then
      run rest (g.call (ops.take g.arity) ++ ops.drop g.arity)
    else
      let c : Comp A V := ⟨(g :: rest).reverse, ops⟩
      if 0 < c.arity - ops.length then some (.curried c) else none

/-- `apply_function_t<functor_composition_t>::operator()(new_operands...)`, functor.hpp:450-528 -/
def applyComp {A V : Type} (c : Comp A V) (new : List V) : Option (CRes A V) :=
  run c.fs.reverse (c.held ++ new)

/-- a functor or a composition, the two operand kinds of `operator*` -/
inductive FC (A V : Type) where
  | fn (g : Fn A V)
  | comp (fs : List (Fn A V))

def FC.toList {A V : Type} : FC A V → List (Fn A V)
  | .fn g => [g]
  | .comp fs => fs

/-- the four `operator*` overloads (functor.hpp:288-300,348-366) -/
def FC.mul {A V : Type} : FC A V → FC A V → FC A V
  | .fn f, .fn g => .comp [f, g]
  | .fn f, .comp gs => .comp (f :: gs)              -- tuple_cat(tuple{*this}, other.functors)
  | .comp fs, .comp gs => .comp (fs ++ gs)          -- tuple_cat(left.functors, right.functors)
  | .comp fs, .fn g => .comp (fs ++ [g])            -- tuple_append(left.functors, right)

/-! ### combinators (combinator.hpp) -/

def swapF {A V : Type} : Functor A V :=
  ⟨2, fun _ xs => match xs with | [a, b] => [b, a] | _ => xs⟩
/-- `dup_n<N>` -/
def dupF {A V : Type} (n : Nat) : Functor A V :=
  ⟨1, fun _ xs => match xs with | [a] => List.replicate n a | _ => xs⟩
/-- `dig_n<N>`: operand N comes to the front -/
def digF {A V : Type} (n : Nat) : Functor A V :=
  ⟨n + 1, fun _ xs => match xs[n]? with | some x => x :: (xs.take n ++ xs.drop (n + 1)) | none => xs⟩
/-- `bury_n<N>`: the front operand goes to position N -/
def buryF {A V : Type} (n : Nat) : Functor A V :=
  ⟨n + 1, fun _ xs => match xs with | x :: r => r.take n ++ x :: r.drop n | [] => xs⟩

/-! ### views and extraction -/

/-- a view function: `arity` operands, one result -/
structure VFun (A V : Type) where
  arity : Nat
  fmap1 : List A → List V → V

def VFun.toFunctor {A V : Type} (f : VFun A V) : Functor A V := ⟨f.arity, fun ats xs => [f.fmap1 ats xs]⟩

mutual
/-- the view tree.  An operand of a view is one of the kinds the extraction code tells apart by type traits
    (`get_function_composition_t`, function_composition.hpp:46-66,89-125; `get_function_operands_t`, functor.hpp:788-811):

      leaf  i   a host array (pointer / bounded array):          `is_ndarray ∧ ¬is_view`
      alias i   `view::alias(x_i, id)` of a host array:           `is_view`, `is_same_view<alias_t>`
      lit   i   a number literal (`add(a, 2)`), held by value:     `is_num ∧ ¬is_view`
      node      an ARRAY-valued view function of its operands:     `is_view ∧ is_ndarray`
      snode     a NUMBER-valued view (a reduction over ALL axes, `reduce_add(a, None)`, keepdims false: a 0-d result
                that broadcasts like a scalar):                     `is_view ∧ is_num`

    `id` = which operand of the program (host array or literal).  Broadcast views that a ufunc puts around its operands
    are part of the ufunc node (`get_function_composition` looks through them — the dispatch below is applied to what is
    inside — and the ufunc functor re-creates them). -/
inductive View (A V : Type) where
  | leaf (id : Nat)
  | alias (id : Nat)
  | lit (id : Nat)
  | node (f : VFun A V) (attrs : List A) (args : Args A V)
  | snode (f : VFun A V) (attrs : List A) (args : Args A V)
inductive Args (A V : Type) where
  | nil
  | cons (v : View A V) (rest : Args A V)
end

/-- `meta::is_view_v<operand_t>` -/
def View.isView {A V : Type} : View A V → Bool
  | .leaf _ => false | .alias _ => true | .lit _ => false | .node .. => true | .snode .. => true
/-- `meta::is_same_view_v<view::alias_t, operand_t>` -/
def View.isAlias {A V : Type} : View A V → Bool
  | .alias _ => true | _ => false
/-- `meta::is_num_v<operand_t>`: number literals AND number-valued views -/
def View.isNum {A V : Type} : View A V → Bool
  | .lit _ => true | .snode .. => true | _ => false
/-- `meta::is_ndarray_v<operand_t>` -/
def View.isNdarray {A V : Type} : View A V → Bool
  | .leaf _ => true | .alias _ => true | .node .. => true | _ => false

/-- the `if constexpr` chain applied to every operand (after looking through the broadcast_to of a ufunc), with `sub` =
    `get_function_composition(operand)`:
      `is_same_view_v<alias_t, operand_t>`                     → `init`                    ("finish")
      `is_view_v<operand_t>`                                   → `init * sub`
      `(is_num_v || is_ndarray_v) && !is_view_v`               → `init`
    (anything else is refused by the `static_assert` in front of the chain: `View.operandKindOk`).  The order of the
    tests matters: a number-valued view satisfies `is_num_v` too. -/
def View.dispatch {A V : Type} (v : View A V) (sub : List (Fn A V)) : List (Fn A V) :=
  if v.isAlias then [] else if v.isView then sub else []

/-- the `static_assert` in front of the chain -/
def View.operandKindOk {A V : Type} (v : View A V) : Bool :=
  v.isView || ((v.isNum || v.isNdarray) && !v.isView)

mutual
/-- host evaluation -/
def View.denote {A V : Type} (env : Nat → V) : View A V → V
  | .leaf i => env i
  | .alias i => env i
  | .lit i => env i
  | .node f ats args => f.fmap1 ats (Args.denote env args)
  | .snode f ats args => f.fmap1 ats (Args.denote env args)
def Args.denote {A V : Type} (env : Nat → V) : Args A V → List V
  | .nil => []
  | .cons v rest => View.denote env v :: Args.denote env rest
end

mutual
/-- `get_function_composition`: `function * sub-composition(operand N-1) * … * sub-composition(operand 0)` -/
def View.compile {A V : Type} : View A V → List (Fn A V)
  | .leaf _ => []
  | .alias _ => []
  | .lit _ => []
  | .node f ats args => ⟨f.toFunctor, ats, []⟩ :: Args.compileRev args
  | .snode f ats args => ⟨f.toFunctor, ats, []⟩ :: Args.compileRev args
/-- sub-compositions of the operands, visited from the last operand to the first, each through the operand dispatch -/
def Args.compileRev {A V : Type} : Args A V → List (Fn A V)
  | .nil => []
  | .cons v rest => Args.compileRev rest ++ View.dispatch v (View.compile v)
end

mutual
/-- `get_function_operands`: leaves, operands visited first to last (ids of the host arrays / literals, one per occurrence);
    a view operand (`is_view_v`: alias, array- or number-valued view) is descended into, anything else is appended -/
def View.operandsOf {A V : Type} : View A V → List Nat
  | .leaf i => [i]
  | .alias i => [i]
  | .lit i => [i]
  | .node _ _ args => Args.operandsOf args
  | .snode _ _ args => Args.operandsOf args
def Args.operandsOf {A V : Type} : Args A V → List Nat
  | .nil => []
  | .cons v rest => View.operandsOf v ++ Args.operandsOf rest
end

def Args.length {A V : Type} : Args A V → Nat
  | .nil => 0
  | .cons _ rest => 1 + rest.length

/-- a view function applied to nothing but host arrays / aliases / literals -/
def View.isLeaf {A V : Type} : View A V → Bool
  | .leaf _ => true | .alias _ => true | .lit _ => true | _ => false

def Args.allLeaves {A V : Type} : Args A V → Bool
  | .nil => true
  | .cons v rest => v.isLeaf && rest.allLeaves

mutual
/-- the trees on which extraction is right: every node has as many operands as its arity and only its FIRST operand
    may itself be a view (array- or number-valued) -/
def View.leftLinear {A V : Type} : View A V → Bool
  | .leaf _ => true
  | .alias _ => true
  | .lit _ => true
  | .node f _ args => (args.length == f.arity) && Args.leftLinear args
  | .snode f _ args => (args.length == f.arity) && Args.leftLinear args
def Args.leftLinear {A V : Type} : Args A V → Bool
  | .nil => true
  | .cons v rest => View.leftLinear v && rest.allLeaves
end

mutual
/-- every node has as many operands as its arity (what the view constructors guarantee); sub-views in any position -/
def View.wellFormed {A V : Type} : View A V → Bool
  | .leaf _ => true
  | .alias _ => true
  | .lit _ => true
  | .node f _ args => (args.length == f.arity) && Args.wellFormed args
  | .snode f _ args => (args.length == f.arity) && Args.wellFormed args
def Args.wellFormed {A V : Type} : Args A V → Bool
  | .nil => true
  | .cons v rest => View.wellFormed v && Args.wellFormed rest
end

mutual
/-- SPEC of the operand list: leaves in reading order, by an accumulator passed right to left (independent of `operandsOf`) -/
def View.leavesAcc {A V : Type} : View A V → List Nat → List Nat
  | .leaf i, acc => i :: acc
  | .alias i, acc => i :: acc
  | .lit i, acc => i :: acc
  | .node _ _ args, acc => Args.leavesAcc args acc
  | .snode _ _ args, acc => Args.leavesAcc args acc
def Args.leavesAcc {A V : Type} : Args A V → List Nat → List Nat
  | .nil, acc => acc
  | .cons v rest, acc => View.leavesAcc v (Args.leavesAcc rest acc)
end

mutual
/-- number of operations in a view tree (array- and number-valued views alike) -/
def View.nOps {A V : Type} : View A V → Nat
  | .leaf _ => 0
  | .alias _ => 0
  | .lit _ => 0
  | .node _ _ args => 1 + Args.nOps args
  | .snode _ _ args => 1 + Args.nOps args
def Args.nOps {A V : Type} : Args A V → Nat
  | .nil => 0
  | .cons v rest => View.nOps v + Args.nOps rest
end

mutual
/-- SPEC of what the extracted composition must consist of: the operations of the view tree in EXECUTION order (post-order:
    operands first to last, then the node), each with the attribute list its view carries (`view.attributes()`: axis, shape,
    … and the op of a ufunc WITH its run-time parameters — leaky_relu slope, elu alpha, hardtanh bounds, …) -/
def View.opsPost {A V : Type} : View A V → List (VFun A V × List A)
  | .leaf _ => []
  | .alias _ => []
  | .lit _ => []
  | .node f ats args => Args.opsPost args ++ [(f, ats)]
  | .snode f ats args => Args.opsPost args ++ [(f, ats)]
def Args.opsPost {A V : Type} : Args A V → List (VFun A V × List A)
  | .nil => []
  | .cons v rest => View.opsPost v ++ Args.opsPost rest
end

/-- `get_function(view)` = `functor[view.attributes()]`: the functor of the view function with the view's attributes bound, no operands -/
def VFun.bindAttrs {A V : Type} (p : VFun A V × List A) : Fn A V := ⟨p.1.toFunctor, p.2, []⟩

/-! ### compute graph over ct_map / ct_digraph -/

/-- `ct_digraph`: two insertion-ordered `ct_map`s (node → out-edges, node → data) that always have the same keys
    (`add_node` inserts into both, nothing else inserts), kept here as one list of entries `(key, data, out-edges)` -/
structure Graph (L : Type) where
  entries : List (Nat × L × List Nat)

namespace Graph
variable {L : Type}
def empty : Graph L := ⟨[]⟩
def keys (g : Graph L) : List Nat := g.entries.map (·.1)
def hasNode (g : Graph L) (k : Nat) : Bool := g.keys.contains k
/-- `add_node` = `ct_map::insert`: a key that is already present is left alone (first one wins) -/
def addNode (g : Graph L) (k : Nat) (l : L) : Graph L :=
  if g.hasNode k then g else ⟨g.entries ++ [(k, l, [])]⟩
/-- `add_edge(from, to)`: appended to the out-edges of `from` unless present; `none` = `from` is not a node
    (`ct_map::at` answers CT_MAP_OUT_OF_RANGE: the C++ does not compile) -/
def addEdge (g : Graph L) (src dst : Nat) : Option (Graph L) :=
  if g.hasNode src then
    some ⟨g.entries.map fun e => if e.1 == src && !e.2.2.contains dst then (e.1, e.2.1, e.2.2 ++ [dst]) else e⟩
  else none
def entryEdges (e : Nat × L × List Nat) : List (Nat × Nat) := e.2.2.map fun d => (e.1, d)
def edges (g : Graph L) : List (Nat × Nat) := g.entries.flatMap entryEdges
def nodes (g : Graph L) : List (Nat × L) := g.entries.map fun e => (e.1, e.2.1)
end Graph

/-- node labels of the model graph -/
inductive GLabel where
  | leaf (id : Nat)                 -- which host array
  | op (operands : List Nat)        -- `node_t::operands`: node ids of the inputs, in operand order
deriving DecidableEq, Repr

mutual
/-- view tree decorated with the node id of every leaf occurrence and every operation -/
inductive IView where
  | leaf (nid : Nat) (id : Nat)
  | node (nid : Nat) (args : IArgs)
inductive IArgs where
  | nil
  | cons (v : IView) (rest : IArgs)
end

def IView.nid : IView → Nat
  | .leaf n _ => n
  | .node n _ => n

def IArgs.ids : IArgs → List Nat
  | .nil => []
  | .cons v rest => v.nid :: rest.ids

def IArgs.len : IArgs → Nat
  | .nil => 0
  | .cons _ rest => 1 + rest.len

/-- merge `sub` into `g` the way both `get_compute_graph_t` specialisations do: for every key of `sub` (insertion order)
    `add_node(key, data)` then `add_edge(key, out)` for its out-edges -/
def Graph.mergeEntry {L : Type} (acc : Graph L) (e : Nat × L × List Nat) : Option (Graph L) :=
  e.2.2.foldlM (fun a d => a.addEdge e.1 d) (acc.addNode e.1 e.2.1)
def Graph.merge {L : Type} (g sub : Graph L) : Option (Graph L) :=
  sub.entries.foldlM Graph.mergeEntry g

mutual
/-- `get_compute_graph` with the node ids the decorators carry: sub-graphs of the operands merged first to last, then
    `add_node(id, node_t{functor, operand ids})`, then `add_edge(operand id, id)` for every operand -/
def IView.graph : IView → Option (Graph GLabel)
  | .leaf n i => some (Graph.empty.addNode n (.leaf i))
  | .node n args => do
      let g ← IArgs.graph args Graph.empty
      let g := g.addNode n (.op args.ids)
      args.ids.foldlM (fun a src => a.addEdge src n) g
def IArgs.graph : IArgs → Graph GLabel → Option (Graph GLabel)
  | .nil, g => some g
  | .cons v rest, g => do
      let sub ← IView.graph v
      let g' ← g.merge sub
      IArgs.graph rest g'
end

mutual
/-- all node ids of a decorated tree, reading order (operands first to last, then the node) -/
def IView.allIds : IView → List Nat
  | .leaf n _ => [n]
  | .node n args => IArgs.allIds args ++ [n]
def IArgs.allIds : IArgs → List Nat
  | .nil => []
  | .cons v rest => IView.allIds v ++ IArgs.allIds rest
end

mutual
/-- SPEC: one node per leaf occurrence (labelled with its host array) and per operation (labelled with its inputs) -/
def IView.specNodes : IView → List (Nat × GLabel)
  | .leaf n i => [(n, .leaf i)]
  | .node n args => IArgs.specNodes args ++ [(n, .op args.ids)]
def IArgs.specNodes : IArgs → List (Nat × GLabel)
  | .nil => []
  | .cons v rest => IView.specNodes v ++ IArgs.specNodes rest
end

mutual
/-- SPEC: edges exactly from each operation's inputs -/
def IView.specEdges : IView → List (Nat × Nat)
  | .leaf _ _ => []
  | .node n args => IArgs.specEdges args ++ args.ids.map (fun s => (s, n))
def IArgs.specEdges : IArgs → List (Nat × Nat)
  | .nil => []
  | .cons v rest => IView.specEdges v ++ IArgs.specEdges rest
end

/-- `index::generate_alias(ids, base = 512, prime = 1033)`: polynomial rolling hash -/
def generateAlias (ids : List Nat) (base : Nat := 512) (prime : Nat := 1033) : Nat :=
  ids.foldl (fun r x => (r * base + x) % prime) 0

end NmVerif.Functional
