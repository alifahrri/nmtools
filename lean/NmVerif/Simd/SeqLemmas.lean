import NmVerif.Simd.Loop
import NmVerif.Simd.LoopLemmas
/-
  "Sequential block writer" lemmas: an evaluator whose steps write the blocks
  [pos g, pos g + len g) one after the other, each starting where the previous one ended
  (`Contig`), writes every cell of [s, e) exactly once and in order; if every block receives the
  corresponding block of `new`, the buffer ends as `new` on [s, e) and untouched elsewhere (`seq_blocks`).
  Every evaluator loop of Simd/Loop.lean and Simd/Eval.lean that fills an output buffer is an instance: packed loop + tail,
  eval_binary BROADCASTED_2D, eval_outer, the row pass of the vertical reduction, the cell loop of eval_matmul.
-/
namespace NmVerif.Simd
open NmVerif

variable {β γ : Type}

/-- the blocks of `steps` tile `[s, e)` contiguously, in order -/
inductive Contig (pos len : γ → Nat) : Nat → List γ → Nat → Prop
  | nil (s : Nat) : Contig pos len s [] s
  | cons {s e : Nat} {g : γ} {t : List γ} : pos g = s → Contig pos len (s + len g) t e → Contig pos len s (g :: t) e

namespace Contig
variable {pos len : γ → Nat}

theorem le {s e : Nat} {l : List γ} (h : Contig pos len s l e) : s ≤ e := by
  induction h with
  | nil => exact Nat.le_refl _
  | cons _ _ ih => omega

theorem append {s m e : Nat} {l₁ l₂ : List γ} (h₁ : Contig pos len s l₁ m) (h₂ : Contig pos len m l₂ e) :
    Contig pos len s (l₁ ++ l₂) e := by
  induction h₁ with
  | nil => simpa using h₂
  | cons hp _ ih => exact Contig.cons hp (ih h₂)

theorem map {δ : Type} (f : δ → γ) {s e : Nat} {l : List δ}
    (h : Contig (fun d => pos (f d)) (fun d => len (f d)) s l e) : Contig pos len s (l.map f) e := by
  induction h with
  | nil => exact Contig.nil _
  | cons hp _ ih => exact Contig.cons hp ih

theorem congr {pos' len' : γ → Nat} {s e : Nat} {l : List γ} (h : Contig pos len s l e)
    (hp : ∀ g ∈ l, pos' g = pos g) (hl : ∀ g ∈ l, len' g = len g) : Contig pos' len' s l e := by
  induction h with
  | nil => exact Contig.nil _
  | @cons s e g t hpg _ ih =>
    refine Contig.cons (by rw [hp g (by simp)]; exact hpg) ?_
    rw [hl g (by simp)]
    exact ih (fun x hx => hp x (by simp [hx])) (fun x hx => hl x (by simp [hx]))

/-- every cell of `[s, e)` is written exactly once, in increasing order -/
theorem blocks {s e : Nat} {l : List γ} (h : Contig pos len s l e) :
    l.flatMap (fun g => List.range' (pos g) (len g)) = List.range' s (e - s) := by
  induction h with
  | nil => simp
  | @cons s e g t hp ht ih =>
    rw [List.flatMap_cons, ih, hp, List.range'_append_1, Nat.sub_add_eq, Nat.add_sub_cancel' (Nat.le_sub_of_add_le' ht.le)]

end Contig

theorem Contig.run {pos len : Nat → Nat} (w base a m : Nat)
    (h : ∀ j, j < m → pos (a + j) = base + j * w ∧ len (a + j) = w) :
    Contig pos len base (List.range' a m) (base + m * w) := by
  induction m with
  | zero => rw [Nat.zero_mul]; exact Contig.nil _
  | succ m ih =>
    obtain ⟨hp, hl⟩ := h m (Nat.lt_succ_self m)
    rw [List.range'_concat, Nat.one_mul]
    refine (ih fun j hj => h j (Nat.lt_succ_of_lt hj)).append (Contig.cons hp ?_)
    rw [hl, Nat.add_assoc, ← Nat.succ_mul]
    exact Contig.nil _

/-! ### the two row layouts of the enumerators

  A row of `C` cells is visited either as `C / N` registers followed by `C % N` single cells (`binary_2d_simd`,
  `reduction_2d` VERTICAL) or as `C / N` registers followed, if `C % N ≠ 0`, by one partial register (`outer_simd`,
  `matmul_simd_inner`, `reduction_2d` HORIZONTAL). -/

def cellSteps (N C : Nat) : Nat := C / N + C % N

def cellCol (N C j : Nat) : Nat := if j < C / N then j * N else C / N * N + (j - C / N)

def cellLen (N C j : Nat) : Nat := if j < C / N then N else 1

theorem cellCol_add_cellLen_le (N C j : Nat) (hj : j < cellSteps N C) : cellCol N C j + cellLen N C j ≤ C := by
  have := Nat.div_add_mod' C N
  unfold cellCol cellLen cellSteps at *
  by_cases hp : j < C / N
  · rw [if_pos hp, if_pos hp]; exact chunk_le hp
  · rw [if_neg hp, if_neg hp]; omega

theorem Contig.row_cells {pos len : Nat → Nat} (N C base a : Nat)
    (h : ∀ j, j < cellSteps N C → pos (a + j) = base + cellCol N C j ∧ len (a + j) = cellLen N C j) :
    Contig pos len base (List.range' a (cellSteps N C)) (base + C) := by
  have h1 := Contig.run (pos := pos) (len := len) N base a (C / N) (fun j hj => by
    have := h j (Nat.lt_add_right _ hj)
    rwa [cellCol, cellLen, if_pos hj, if_pos hj] at this)
  have h2 := Contig.run (pos := pos) (len := len) 1 (base + C / N * N) (a + C / N) (C % N) (fun j hj => by
    rw [Nat.mul_one]
    have := h (C / N + j) (Nat.add_lt_add_left hj _)
    rwa [cellCol, cellLen, if_neg (Nat.not_lt.2 (Nat.le_add_right _ _)), if_neg (Nat.not_lt.2 (Nat.le_add_right _ _)),
      Nat.add_sub_cancel_left, ← Nat.add_assoc, ← Nat.add_assoc] at this)
  have := h1.append h2
  rwa [List.range'_append_1, Nat.mul_one, Nat.add_assoc, Nat.div_add_mod'] at this

def padSteps (N n : Nat) : Nat := n / N + (if n % N ≠ 0 then 1 else 0)

theorem lt_padSteps {N n s : Nat} (hs : s < padSteps N n) : s < n / N ∨ (s = n / N ∧ n % N ≠ 0) := by
  unfold padSteps at hs
  split at hs <;> omega

theorem padSteps_mul_ge (N K : Nat) (hN : 0 < N) : K ≤ padSteps N K * N := by
  have := Nat.div_add_mod' K N
  have := Nat.mod_lt K hN
  unfold padSteps
  split
  · rw [Nat.add_mul]; omega
  · rw [Nat.add_zero]; omega

theorem padSteps_succ {N C : Nat} (hN : 0 < N) (hC : 0 < C) : ∃ k, padSteps N C = k + 1 :=
  Nat.exists_eq_succ_of_ne_zero (fun h => by have := padSteps_mul_ge N C hN; rw [h, Nat.zero_mul] at this; omega)

def padLen (N n s : Nat) : Nat := if s < n / N then N else n % N

theorem mul_add_padLen_le {N n s : Nat} (hs : s < padSteps N n) : s * N + padLen N n s ≤ n := by
  unfold padLen
  rcases lt_padSteps hs with h | ⟨rfl, -⟩
  · rw [if_pos h]; exact chunk_le h
  · rw [if_neg (Nat.lt_irrefl _)]; exact Nat.le_of_eq (Nat.div_add_mod' n N)

theorem Contig.row_padded {pos len : Nat → Nat} (N C base a : Nat)
    (h : ∀ j, j < padSteps N C → pos (a + j) = base + j * N ∧ len (a + j) = padLen N C j) :
    Contig pos len base (List.range' a (padSteps N C)) (base + C) := by
  have hdm := Nat.div_add_mod' C N
  have h1 := Contig.run (pos := pos) (len := len) N base a (C / N) (fun j hj => by
    have := h j (Nat.lt_of_lt_of_le hj (Nat.le_add_right _ _))
    rwa [padLen, if_pos hj] at this)
  unfold padSteps at h ⊢
  by_cases h0 : C % N ≠ 0
  · rw [if_pos h0] at h ⊢
    obtain ⟨hp, hl⟩ := h (C / N) (Nat.lt_succ_self _)
    rw [padLen, if_neg (Nat.lt_irrefl _)] at hl
    rw [List.range'_concat, Nat.one_mul]
    refine h1.append (Contig.cons hp ?_)
    rw [hl, Nat.add_assoc, hdm]
    exact Contig.nil _
  · rw [Decidable.not_not.1 h0, Nat.add_zero] at hdm
    rw [hdm] at h1
    rwa [if_neg h0, Nat.add_zero]

theorem Contig.rows {pos len : Nat → Nat} (Cs n Q : Nat)
    (h : ∀ q, q < Q → Contig pos len (q * n) (List.range' (q * Cs) Cs) (q * n + n)) :
    Contig pos len 0 (List.range (Q * Cs)) (Q * n) := by
  induction Q with
  | zero => simpa using Contig.nil 0
  | succ Q ih =>
    rw [Nat.succ_mul, Nat.succ_mul, List.range_eq_range', ← List.range'_append_1, ← List.range_eq_range', Nat.zero_add]
    exact (ih fun q hq => h q (Nat.lt_succ_of_lt hq)).append (h Q (Nat.lt_succ_self Q))

theorem exists_row_col {i R Cs : Nat} (h : i < R * Cs) : ∃ q s, q < R ∧ s < Cs ∧ i = q * Cs + s := by
  have hCs : 0 < Cs := Nat.pos_of_ne_zero (fun h0 => by rw [h0] at h; exact Nat.not_lt_zero _ h)
  exact ⟨i / Cs, i % Cs, (Nat.div_lt_iff_lt_mul hCs).2 h, Nat.mod_lt _ hCs, (Nat.div_add_mod' i Cs).symm⟩

theorem storeu_block (res old : List β) (p len : Nat) (hlen : res.length = old.length) (h : p + len ≤ old.length) :
    storeu (res.take p ++ old.drop p) p ((res.drop p).take len) = some (res.take (p + len) ++ old.drop (p + len)) := by
  have hp := Nat.le_of_add_right_le h
  have hl : ((res.drop p).take len).length = len := length_take_drop (hlen ▸ h)
  have ht : (res.take p).length = p := List.length_take_of_le (hlen ▸ hp)
  rw [storeu, hl, if_pos (by rw [List.length_take_append_drop (hlen ▸ hp) hp]; exact h), List.take_left' ht,
    ← List.drop_drop, List.drop_left' ht, List.drop_drop, List.take_add]

/-- the invariant is `new.take s ++ old.drop s`; a step only has to store its block on a buffer of that form, and only when
    the block lies inside the buffer -/
theorem seq_blocks (new old : List β) {pos len : γ → Nat} (body : List β → γ → Option (List β))
    (hlen : new.length = old.length) {steps : List γ} {s e : Nat} (hc : Contig pos len s steps e) (he : e ≤ old.length)
    (hb : ∀ g ∈ steps, pos g + len g ≤ old.length →
      body (new.take (pos g) ++ old.drop (pos g)) g
        = storeu (new.take (pos g) ++ old.drop (pos g)) (pos g) ((new.drop (pos g)).take (len g))) :
    steps.foldlM body (new.take s ++ old.drop s) = some (new.take e ++ old.drop e) := by
  induction hc with
  | nil => rfl
  | @cons s e g t hp ht ih =>
    have hle := Nat.le_trans ht.le he
    subst hp
    rw [List.foldlM_cons, hb g (by simp) hle, storeu_block new old _ _ hlen hle]
    exact ih he (fun x hx => hb x (by simp [hx]))

theorem packedStarts_contig (lanes n : Nat) (hl : 0 < lanes) :
    Contig id (fun _ => lanes) 0 (packedStarts lanes n) (n / lanes * lanes) := by
  rw [packedStarts_eq lanes n hl, List.range_eq_range']
  have := Contig.run (pos := (· * lanes)) (len := fun _ => lanes) lanes 0 0 (n / lanes) (fun j _ => ⟨by simp, rfl⟩)
  rw [Nat.zero_add] at this
  exact Contig.map (pos := id) (len := fun _ => lanes) (· * lanes) this

/-- the leftover loop: the cells from `s` on, one `writeAt` each -/
theorem tail_cells (res out : List β) (s m n : Nat) (hs : s + m = n) (body : List β → Nat → Option (List β))
    (hres : res.length = n) (hout : out.length = n)
    (hT : ∀ i o (hi : i < res.length), o.length = n → body o i = writeAt o i res[i]) :
    (List.range' s m).foldlM body (res.take s ++ out.drop s) = some res := by
  have hlen : res.length = out.length := hres.trans hout.symm
  have hc := Contig.run (pos := id) (len := fun _ => 1) 1 s s m (fun j _ => ⟨by rw [Nat.mul_one]; rfl, rfl⟩)
  rw [Nat.mul_one, hs] at hc
  rw [seq_blocks res out body hlen hc (Nat.le_of_eq hout.symm) (by
    intro g _ hb
    have hg : g < res.length := hlen ▸ hb
    have hp := Nat.le_of_add_right_le hb
    rw [hT g _ hg ((List.length_take_append_drop (hlen ▸ hp) hp).trans hout), writeAt_eq_storeu, id,
      List.drop_eq_getElem_cons hg]
    rfl), List.take_of_length_le (Nat.le_of_eq hres), List.drop_of_length_le (Nat.le_of_eq hout), List.append_nil]

/-- the two loops of `eval_unary` / `eval_binary` SAME_SHAPE: a packed body that stores its register of `res` and a tail
    body that writes its cell of `res` leave `res`, whatever `out` held -/
theorem packed_then_tail (res out : List β) (lanes n : Nat) (hl : 0 < lanes)
    (bodyP bodyT : List β → Nat → Option (List β))
    (hres : res.length = n) (hout : out.length = n)
    (hP : ∀ i o, i + lanes ≤ n → bodyP o i = storeu o i ((res.drop i).take lanes))
    (hT : ∀ i o (hi : i < res.length), o.length = n → bodyT o i = writeAt o i res[i]) :
    ((packedStarts lanes n).foldlM bodyP out).bind (fun o => (tailIdx lanes n).foldlM bodyT o) = some res := by
  have hM := Nat.div_mul_le_self n lanes
  have h1 := seq_blocks res out bodyP (hres.trans hout.symm) (packedStarts_contig lanes n hl)
    (hout ▸ hM) (fun g _ hb => hP g _ (hout ▸ hb))
  rw [List.take_zero, List.drop_zero, List.nil_append] at h1
  rw [h1, Option.bind_some]
  exact tail_cells res out _ _ n (Nat.add_sub_cancel' hM) bodyT hres hout hT

theorem cells_fold (res out : List β) (n : Nat) (body : List β → Nat → Option (List β))
    (hres : res.length = n) (hout : out.length = n)
    (hbody : ∀ i o (hi : i < res.length), o.length = n → body o i = some (o.set i res[i])) :
    (List.range n).foldlM body out = some res := by
  have := tail_cells res out 0 n n (Nat.zero_add n) body hres hout
    (fun i o hi ho => by rw [hbody i o hi ho, writeAt, if_pos (by omega)])
  rwa [List.take_zero, List.drop_zero, List.nil_append, ← List.range_eq_range'] at this

theorem foldl_set_range (v : Nat → β) (out : List β) (n : Nat) (h : out.length = n) :
    (List.range n).foldl (fun o i => o.set i (v i)) out = (List.range n).map v := by
  have := cells_fold ((List.range n).map v) out n (fun o i => pure (o.set i (v i))) (by simp) h
    (fun i o hi _ => by simp)
  rw [List.foldlM_pure] at this
  exact Option.some.inj this

end NmVerif.Simd
