import NmVerif.Simd.Loop
import NmVerif.Lemmas.NDAWrite
import NmVerif.Lemmas.ListBasics
/-
  Lemmas on the model of Simd/Loop.lean: the index sequence of the packed loop, `allSome` as `mapM`, what `loadu` / `storeu` /
  `writeAt` do on a buffer, a row-major array read through its buffer, and the rows (`rowOf`) of a row-major buffer.
-/
namespace NmVerif.Simd
open NmVerif

variable {α β γ : Type}

/-- the assumption on a binary intrinsic wrapper (`LaneWise2` of Props/C12.lean is this statement) -/
def LaneOp2 (N : Nat) (packOp : List α → List α → List β) (op : α → α → β) : Prop :=
  ∀ xs ys, xs.length = N → ys.length = N → packOp xs ys = List.zipWith op xs ys

theorem chunk_le {j C N : Nat} (h : j < C / N) : j * N + N ≤ C :=
  Nat.le_trans (Nat.mul_add_self_le_mul N h) (Nat.div_mul_le_self C N)

/-- `for (i; i + lanes ≤ n; i += lanes)` from any start `i`: `Nat.div_eq` unfolds `(n - i) / lanes` the way the loop steps -/
theorem packedLoopIdx_eq (lanes n : Nat) (hl : 0 < lanes) (fuel i : Nat) (h : (n - i) / lanes < fuel) :
    packedLoopIdx lanes n fuel i = List.range' i ((n - i) / lanes) lanes := by
  fun_induction packedLoopIdx lanes n fuel i with
  | case1 => exact absurd h (Nat.not_lt_zero _)
  | case2 fuel i hi ih =>
    rw [Nat.div_eq (n - i), if_pos ⟨hl, Nat.le_sub_of_add_le' hi⟩, Nat.sub_sub] at h ⊢
    rw [List.range'_succ, ih (Nat.lt_of_succ_lt_succ h)]
  | case3 fuel i hi => rw [Nat.div_eq_of_lt (by omega)]; rfl

theorem range'_zero_step (m step : Nat) : List.range' 0 m step = (List.range m).map (· * step) := by
  induction m with
  | zero => rfl
  | succ m ih => rw [List.range'_concat, ih, List.range_succ, List.map_append, Nat.zero_add, Nat.mul_comm]; rfl

theorem packedStarts_eq (lanes n : Nat) (hl : 0 < lanes) :
    packedStarts lanes n = (List.range (n / lanes)).map (· * lanes) := by
  rw [packedStarts, packedLoopIdx_eq lanes n hl (n + 1) 0 (Nat.lt_succ_of_le (Nat.div_le_self _ _)), Nat.sub_zero,
    range'_zero_step]

theorem lane_lt {p w j n : Nat} (hj : j < w) (h : p + w ≤ n) : p + j < n := by omega

/-- so the `List.mapM_*` lemmas of ListBasics speak about `allSome` -/
theorem allSome_map (l : List γ) (g : γ → Option α) : allSome (l.map g) = l.mapM g := by
  induction l with
  | nil => rfl
  | cons x xs ih =>
    rw [List.map_cons, List.mapM_cons]
    cases g x with
    | none => rfl
    | some v => rw [allSome, ih]; cases List.mapM g xs <;> rfl

theorem allSome_map_some (l : List γ) (g : γ → α) : allSome (l.map (fun k => some (g k))) = some (l.map g) := by
  rw [allSome_map]; exact List.mapM_eq_some_map fun _ _ => rfl

theorem allSome_congr {l : List γ} {g h : γ → Option α} (e : ∀ x ∈ l, g x = h x) :
    allSome (l.map g) = allSome (l.map h) := by
  rw [allSome_map, allSome_map]; exact List.mapM_option_congr e

theorem length_take_drop {l : List α} {a w : Nat} (h : a + w ≤ l.length) : ((l.drop a).take w).length = w :=
  List.length_take_of_le (List.length_drop ▸ Nat.le_sub_of_add_le' h)

theorem loadu_eq {buf : List α} {i lanes : Nat} (h : i + lanes ≤ buf.length) :
    loadu buf i lanes = some ((buf.drop i).take lanes) := by simp [loadu, h]

theorem storeu_eq {buf : List α} {i : Nat} {reg : List α} (h : i + reg.length ≤ buf.length) :
    storeu buf i reg = some (buf.take i ++ reg ++ buf.drop (i + reg.length)) := by simp [storeu, h]

theorem allSome_of_getElem? (g : Nat → Option α) (res : List α) (n : Nat) (hlen : res.length = n)
    (h : ∀ k, k < n → g k = res[k]?) : allSome ((List.range n).map g) = some res := by
  rw [allSome_map]; exact List.mapM_range_eq_some_iff.mpr ⟨hlen, h⟩

theorem allSome_range (g : Nat → Option β) (n : Nat) (h : ∀ k, k < n → (g k).isSome) :
    ∃ res, allSome ((List.range n).map g) = some res ∧ res.length = n ∧ ∀ k, k < n → res[k]? = g k := by
  obtain ⟨res, hr⟩ := List.exists_mapM_of_isSome fun k hk => h k (List.mem_range.mp hk)
  obtain ⟨h1, h2⟩ := List.mapM_range_eq_some_iff.mp hr
  exact ⟨res, by rw [allSome_map, hr], h1, fun k hk => (h2 k hk).symm⟩

theorem allSome_window (data : List α) (b C : Nat) (h : b + C ≤ data.length) :
    allSome ((List.range C).map (fun k => data[b + k]?)) = some ((data.drop b).take C) :=
  allSome_of_getElem? _ _ C (length_take_drop h)
    (fun k hk => by rw [List.getElem?_take, if_pos hk, List.getElem?_drop])

theorem writeAt_eq_storeu (o : List α) (p : Nat) (v : α) : writeAt o p v = storeu o p [v] := by
  unfold writeAt storeu
  by_cases h : p < o.length
  · rw [if_pos h, if_pos (show p + [v].length ≤ o.length from h), List.set_eq_take_append_cons_drop, if_pos h]
    simp
  · rw [if_neg h, if_neg (show ¬ p + [v].length ≤ o.length from h)]

theorem length_of_shape {a : NDA α} (hw : a.WF) {s : List Nat} (hs : a.shape = s) : a.data.length = prod s :=
  hs ▸ hw

theorem length_of_shape_2d {a : NDA α} (hw : a.WF) {R C : Nat} (hs : a.shape = [R, C]) : a.data.length = R * C := by
  rw [length_of_shape hw hs]; simp [prod]

theorem get?_rowMajor_2d (a : NDA α) (R C r c : Nat) (hs : a.shape = [R, C]) (hr : a.colMajor = false) :
    a.get? [r, c] = a.data[r * C + c]? := by
  rw [NDA.get?_rowMajor a hr, hs]
  simp only [strides, prod, computeOffset, Nat.mul_one, Nat.one_mul, Nat.add_zero]
  rw [Nat.mul_comm C]

theorem logical_rowMajor (a : NDA α) (hw : a.WF) (hr : a.colMajor = false) :
    logical a = some a.data :=
  allSome_of_getElem? _ a.data _ hw (fun k hk => NDA.get?_ndindex_rowMajor a hr k hk)

/-- row `i` of a row-major `(R, C)` buffer -/
def rowOf (inp : List α) (C i : Nat) : List α := (inp.drop (i * C)).take C

theorem drop_take_row (buf : List α) (C ρ a w : Nat) (h1 : a + w ≤ C) :
    (buf.drop (ρ * C + a)).take w = ((rowOf buf C ρ).drop a).take w := by
  unfold rowOf
  rw [List.drop_take, List.take_take, List.drop_drop, Nat.min_eq_left (Nat.le_sub_of_add_le' h1)]

theorem loadu_row (inp : List α) (C i a w : Nat) (h1 : a + w ≤ C) (h2 : i * C + C ≤ inp.length) :
    loadu inp (i * C + a) w = some (((rowOf inp C i).drop a).take w) := by
  rw [loadu_eq (by omega), drop_take_row inp C i a w h1]

theorem rowOf_length (inp : List α) (C i : Nat) (h2 : i * C + C ≤ inp.length) : (rowOf inp C i).length = C :=
  length_take_drop h2

theorem length_zipWith_rows (f : α → α → α) (a b : List α) (C i j : Nat)
    (ha : i * C + C ≤ a.length) (hb : j * C + C ≤ b.length) :
    (List.zipWith f (rowOf a C i) (rowOf b C j)).length = C := by
  rw [List.length_zipWith, rowOf_length a C i ha, rowOf_length b C j hb, Nat.min_self]

theorem rowOf_replicate (e : α) (R C ρ : Nat) (h : ρ < R) : rowOf (List.replicate (R * C) e) C ρ = List.replicate C e := by
  unfold rowOf
  rw [List.drop_replicate, List.take_replicate, Nat.min_eq_left (Nat.le_sub_of_add_le' (Nat.mul_add_self_le_mul C h))]

theorem rowOf_mid {pre row post : List α} {C ρ : Nat} (hpre : pre.length = ρ * C) (hrow : row.length = C) :
    rowOf (pre ++ (row ++ post)) C ρ = row := by
  unfold rowOf
  rw [List.drop_left' hpre, List.take_left' hrow]

theorem rowOf_getElem? (data : List α) (Q r c : Nat) (hc : c < Q) : (rowOf data Q r)[c]? = data[r * Q + c]? := by
  unfold rowOf
  rw [List.getElem?_take, if_pos hc, List.getElem?_drop]

end NmVerif.Simd
