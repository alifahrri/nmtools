import NmVerif.Simd.Eval
import NmVerif.Simd.ReduceLemmas
/-
  An n-d row-major reduction over ANY axis as the 2-d problem the evaluators work on.  The shape is split at the axis,
  `pre ++ A :: post`.  `get?_midAxis` reads element `k` of the axis for output cell `o` at a buffer offset; with it the reference
  `scalarReduceAxis` becomes a list of `axisCell`s on the buffer (`scalarReduceAxis_cells`), which the row-wise results of the
  HORIZONTAL and VERTICAL evaluators are compared with (`scalarReduceAxis_lastAxis`, `axisCells_of_rowFold`).  The
  `keepdims` flag changes the shape of the result, not the number of its cells (`prod_reduceOutShape`).
-/
namespace NmVerif.Simd
open NmVerif IsCommMonoid

variable {α : Type}

theorem set_mid (I J : List Nat) (x k : Nat) : (I ++ x :: J).set I.length k = I ++ k :: J := by
  induction I with
  | nil => rfl
  | cons a t ih => simp [ih]

theorem eraseIdx_mid (pre post : List Nat) (A : Nat) : (pre ++ A :: post).eraseIdx pre.length = pre ++ post := by
  induction pre with
  | nil => rfl
  | cons a t ih => simp [ih]

theorem insertIdx_mid (I J : List Nat) (k : Nat) : (I ++ J).insertIdx I.length k = I ++ k :: J := by
  induction I with
  | nil => simp
  | cons a t ih => simp [ih]

theorem exists_mid (shape : List Nat) (axis : Nat) (h : axis < shape.length) :
    ∃ pre A post, shape = pre ++ A :: post ∧ pre.length = axis :=
  ⟨shape.take axis, shape[axis], shape.drop (axis + 1),
   by rw [List.getElem_cons_drop, List.take_append_drop], List.length_take_of_le (Nat.le_of_lt h)⟩

theorem ndindex_keep (pre post : List Nat) (o : Nat) :
    ndindex (pre ++ 1 :: post) o = ndindex pre (o / prod post) ++ 0 :: ndindex post (o % prod post) := by
  have h : pre ++ 1 :: post = (pre ++ [1]) ++ post := by simp
  rw [h, Shape.ndindex_append, ndindex_snoc]
  simp [Nat.mod_one]

/-- element `(I, k, J)` of a row-major array of shape `pre ++ A :: post` sits at `(offset(I)·A + k)·prod post + offset(J)` -/
theorem get?_midAxis (a : NDA α) (pre post : List Nat) (A o k : Nat) (hsh : a.shape = pre ++ A :: post)
    (hr : a.colMajor = false) (hpost : Pos post) (ho : o < prod pre * prod post) :
    a.get? ((ndindex (pre ++ 1 :: post) o).set pre.length k)
      = a.data[(o / prod post * A + k) * prod post + o % prod post]? := by
  have hQ : 0 < prod post := prod_pos hpost
  have hq : o / prod post < prod pre := (Nat.div_lt_iff_lt_mul hQ).2 ho
  have hlen : (ndindex pre (o / prod post)).length = pre.length := Shape.ndindex_length pre _
  rw [ndindex_keep, ← hlen, set_mid, NDA.get?_rowMajor a hr, hsh, Shape.offset_append _ _ _ _ hlen]
  simp only [strides, computeOffset, prod, Shape.offset_ndindex hq, Shape.offset_ndindex (Nat.mod_lt o hQ)]
  rw [Nat.add_mul, Nat.mul_assoc, Nat.mul_comm k, Nat.add_assoc]

theorem reductionNdReshape_h (pre : List Nat) (C axis : Nat) :
    reductionNdReshape .horizontal (pre ++ [C]) axis = (prod pre, C) := by
  cases pre with
  | nil => rfl
  | cons p t => simp [reductionNdReshape]

theorem reductionNdReshape_v (pre post : List Nat) (A : Nat) (hpost : post ≠ []) :
    reductionNdReshape .vertical (pre ++ A :: post) pre.length = (prod pre * A, prod post) := by
  have hpl : 0 < post.length := List.length_pos_iff.2 hpost
  unfold reductionNdReshape
  rw [if_neg (by simp only [List.length_append, List.length_cons]; omega), List.take_length_add_append,
      List.drop_length_add_append]
  exact congrArg (·, prod post) (prod_snoc pre A)

/-- output cell `o` of a reduction over the axis of extent `A` of a row-major `(…, A, Q-many)` buffer: left fold, from its
    first element, of the `A` buffer elements `(o/Q·A + k)·Q + o%Q` -/
def axisCell (op : α → α → α) (data : List α) (A Q o : Nat) : Option α :=
  match allSome ((List.range A).map (fun k => data[(o / Q * A + k) * Q + o % Q]?)) with
  | some (x :: xs) => some (xs.foldl op x)
  | _ => none

theorem scalarReduceAxis_cells (op : α → α → α) (a : NDA α) (pre post : List Nat) (A : Nat)
    (hsh : a.shape = pre ++ A :: post) (hr : a.colMajor = false) (hpost : Pos post) :
    scalarReduceAxis op a pre.length
      = allSome ((List.range (prod pre * prod post)).map (axisCell op a.data A (prod post))) := by
  unfold scalarReduceAxis keepShape
  have hset : a.shape.set pre.length 1 = pre ++ 1 :: post := by rw [hsh]; exact set_mid pre post A 1
  have hget : a.shape.getD pre.length 0 = A := by rw [hsh]; simp
  have hprod : prod (pre ++ 1 :: post) = prod pre * prod post := by rw [prod_mid]; simp
  simp only [hset, hget, hprod]
  apply allSome_congr
  intro o ho
  have ho' : o < prod pre * prod post := by simpa using ho
  unfold axisCell
  rw [allSome_congr (h := fun k => a.data[(o / prod post * A + k) * prod post + o % prod post]?)
        (fun k _ => get?_midAxis a pre post A o k hsh hr hpost ho')]
  rfl

theorem scalarReduceAxis_lastAxis (op : α → α → α) (e : α) (hm : IsCommMonoid op e) (a : NDA α) (pre : List Nat) (C : Nat)
    (hsh : a.shape = pre ++ [C]) (hw : a.WF) (hr : a.colMajor = false) (hC : 0 < C) :
    scalarReduceAxis op a pre.length
      = some ((List.range (prod pre)).map (fun o => msum op e (rowOf a.data C o))) := by
  have hlen : a.data.length = prod pre * C := (length_of_shape hw hsh).trans (prod_snoc pre C)
  rw [scalarReduceAxis_cells op a pre [] C hsh hr (fun _ h => nomatch h),
      ← allSome_map_some (List.range (prod pre)) (fun o => msum op e (rowOf a.data C o))]
  simp only [prod, Nat.mul_one]
  apply allSome_congr
  intro o ho
  have hrow : o * C + C ≤ a.data.length := hlen ▸ Nat.mul_add_self_le_mul C (List.mem_range.1 ho)
  have hrl := rowOf_length a.data C o hrow
  unfold axisCell
  simp only [Nat.div_one, Nat.mod_one, Nat.mul_one, Nat.add_zero]
  rw [allSome_window a.data (o * C) C hrow]
  show (match some (rowOf a.data C o) with | some (x :: xs) => some (xs.foldl op x) | _ => none) = _
  cases hrw : rowOf a.data C o with
  | nil => rw [hrw] at hrl; simp at hrl; omega
  | cons x xs => exact congrArg some (hm.msum_cons_eq_foldl x xs).symm

/-- no bounds needed: `zipWith` truncates, so an `init` or a row too short for column `c` makes both sides `none` -/
theorem foldl_zipWith_getElem? (op : α → α → α) (rows : Nat → List α) (c : Nat) (ks : List Nat) (init : List α) :
    (ks.foldl (fun acc k => List.zipWith op acc (rows k)) init)[c]?
      = init[c]?.bind fun x => (allSome (ks.map fun k => (rows k)[c]?)).map fun col => col.foldl op x := by
  induction ks generalizing init with
  | nil => rw [List.foldl_nil]; cases init[c]? <;> rfl
  | cons k ks ih =>
    rw [List.foldl_cons, ih, List.getElem?_zipWith, List.map_cons]
    cases init[c]? with
    | none => rfl
    | some x =>
      cases (rows k)[c]? with
      | none => rfl
      | some y => show _ = Option.map _ (Option.map _ _); rw [Option.map_map]; rfl

/-- a buffer whose rows are the column-wise folds (from the identity row) of the input rows `ρA … ρA+A−1` is,
    cell by cell, the reference: only `e ⊕ x = x` is needed (no re-association happens on this path) -/
theorem axisCells_of_rowFold (op : α → α → α) (e : α) (hid : ∀ x, op e x = x) (data res : List α) (P A Q : Nat)
    (hA : 0 < A) (hQ : 0 < Q) (hlen : res.length = P * Q)
    (hrow : ∀ ρ, ρ < P → rowOf res Q ρ
        = (List.range A).foldl (fun acc k => List.zipWith op acc (rowOf data Q (ρ * A + k))) (List.replicate Q e)) :
    allSome ((List.range (P * Q)).map (axisCell op data A Q)) = some res := by
  apply allSome_of_getElem? _ _ _ hlen
  intro o ho
  have hc : o % Q < Q := Nat.mod_lt _ hQ
  have h1 : res[o]? = (rowOf res Q (o / Q))[o % Q]? := by rw [rowOf_getElem? _ _ _ _ hc, Nat.div_add_mod']
  rw [h1, hrow _ ((Nat.div_lt_iff_lt_mul hQ).2 ho), foldl_zipWith_getElem?, List.getElem?_replicate, if_pos hc, Option.bind_some]
  unfold axisCell
  rw [allSome_congr (h := fun k => (rowOf data Q (o / Q * A + k))[o % Q]?) (fun k _ => (rowOf_getElem? data Q _ _ hc).symm)]
  cases h : allSome ((List.range A).map fun k => (rowOf data Q (o / Q * A + k))[o % Q]?) with
  | none => rfl
  | some col =>
    cases col with
    | nil => rw [allSome_map] at h; have := (List.mapM_range_eq_some_iff.mp h).1; simp at this; omega
    | cons x xs => rw [Option.map_some, List.foldl_cons, hid]

theorem scalarReduceAxis_outSize1 (op : α → α → α) (a : NDA α) (pre post : List Nat) (A : Nat)
    (hsh : a.shape = pre ++ A :: post) (hw : a.WF) (hr : a.colMajor = false) (hpost : Pos post)
    (hout : prod pre * prod post = 1) :
    scalarReduceAxis op a pre.length = (scalarReduceAll op a).map (fun r => [r]) := by
  have hP : prod pre = 1 := Nat.eq_one_of_mul_eq_one_right hout
  have hQ : prod post = 1 := Nat.eq_one_of_mul_eq_one_left hout
  have hlen : a.data.length = A := by rw [length_of_shape hw hsh, prod_mid, hP, hQ]; simp
  rw [scalarReduceAxis_cells op a pre post A hsh hr hpost, hP, hQ]
  unfold scalarReduceAll
  rw [logical_rowMajor a hw hr]
  simp only [Nat.mul_one, List.range_one, List.map_cons, List.map_nil, axisCell, Nat.div_one, Nat.zero_mul, Nat.zero_add,
    Nat.mod_one, Nat.add_zero]
  have hwin := allSome_window a.data 0 A (by omega)
  simp only [Nat.zero_add, List.drop_zero] at hwin
  rw [hwin, List.take_of_length_le (Nat.le_of_eq hlen)]
  cases a.data with
  | nil => rfl
  | cons x xs => rfl

theorem prod_reduceOutShape (shape : List Nat) (axis : Nat) (h : axis < shape.length) (keep : Bool) :
    prod (reduceOutShape shape axis keep) = prod (keepShape shape axis) := by
  cases keep with
  | true => simp [reduceOutShape]
  | false =>
    obtain ⟨pre, A, post, rfl, rfl⟩ := exists_mid shape axis h
    simp only [reduceOutShape, keepShape, Bool.false_eq_true, if_false]
    rw [eraseIdx_mid, set_mid, prod_mid, prod_append]; simp

/-- the `if` by which `simdReduceAxis` / `simdReduceAxisK` normalise the axis as written: `axis` and `axis − dim` both give `axis` -/
theorem axis_norm (dim axis : Nat) (hlt : axis < dim) (axisI : Int)
    (hax : axisI = (axis : Int) ∨ axisI = (axis : Int) - (dim : Int)) :
    (if axisI < 0 then axisI + (dim : Int) else axisI) = (axis : Int) := by
  rcases hax with h | h <;> subst h
  · rw [if_neg (by omega)]
  · rw [if_pos (by omega)]; omega

end NmVerif.Simd
