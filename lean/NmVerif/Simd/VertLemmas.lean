import NmVerif.Simd.Eval
import NmVerif.Simd.SeqLemmas
import NmVerif.Simd.EnumLemmas
/-
  VERTICAL reduction (`simdReduceVertical`): every input row `i` is accumulated, register by register and then
  cell by cell, into output row `i / A`.  Throughout, the input is seen as `R` rows of `C` cells and the output as `Ro` rows,
  `A` is the extent of the reduced axis (`R = Ro · A`: input rows `ρA … ρA + A − 1` go to output row `ρ`).
  One input row is a sequential block write inside its output row (`vert_row`, an instance of `seq_blocks`); the loop over the
  input rows finishes the output rows one after the other (`vloop_groups`).
-/
namespace NmVerif.Simd
open NmVerif

variable {α : Type}

/-- closed form of `reduction_2d` VERTICAL at step `(i, j)`: the odd `> n_ops` test of the C++ selects
    exactly the register column `j·N` for `j < C/N` and the scalar column `C/N·N + (j − C/N)` after it -/
theorem reduction2d_v (N i j Ro R C A : Nat) (hN : 0 < N) (hA : 0 < A) (hdiv : R / Ro = A) :
    reduction2d .vertical N i j (Ro, C) (R, C)
      = some (⟨if j < C / N then Tag.ACCUMULATE_PACKED else Tag.ACCUMULATE, (i / A) * C + cellCol N C j⟩,
              ⟨if j < C / N then Tag.PACKED else Tag.SCALAR, i * C + cellCol N C j⟩) := by
  -- the `> n_ops` test: false on the registers (`j < C/N`), false at `j = C/N` where both branches give `C/N·N`, and
  -- true on the later single cells
  have hidx : ∀ off, (if j * N > C then off + (C / N * N + (j - C / N)) else off + j * N) = off + cellCol N C j := by
    intro off
    unfold cellCol
    by_cases hp : j < C / N
    · rw [if_neg (Nat.not_lt.2 (Nat.le_of_add_right_le (chunk_le hp))), if_pos hp]
    · rw [if_neg hp]
      rcases Nat.eq_or_lt_of_le (Nat.le_of_not_lt hp) with he | hlt
      · rw [← he, if_neg (Nat.not_lt.2 (Nat.div_mul_le_self C N)), Nat.sub_self, Nat.add_zero]
      · rw [if_pos (Nat.lt_of_lt_of_le (Nat.lt_div_mul_add hN) (Nat.mul_add_self_le_mul N hlt))]
  have hpk : j * N + N ≤ C ↔ j < C / N := by rw [← Nat.succ_mul, ← Nat.le_div_iff_mul_le hN]; exact Nat.succ_le_iff
  unfold reduction2d
  simp only [hdiv, hidx, hpk, decide_eq_true_eq, if_neg (Nat.ne_of_gt hA)]

theorem readAt_row (buf : List α) (C ρ c : Nat) (hc : c < C) (hb : ρ * C + C ≤ buf.length) :
    ∃ x, readAt buf (ρ * C + c) = some x ∧ ((rowOf buf C ρ).drop c).take 1 = [x] := by
  have hlt : c < (rowOf buf C ρ).length := by rw [rowOf_length buf C ρ hb]; exact hc
  refine ⟨(rowOf buf C ρ)[c], ?_, by rw [List.drop_eq_getElem_cons hlt]; rfl⟩
  rw [readAt, ← rowOf_getElem? buf C ρ c hc, List.getElem?_eq_getElem hlt]

/-- step `(i, j)` of the VERTICAL loop stores, at its block of output row `i / A`, that block combined lane-wise with the same
    block of input row `i`; the single cell of an ACCUMULATE step is a block of length 1, so both tags are one `storeu` -/
theorem vertStep_row (N : Nat) (packOp : List α → List α → List α) (op : α → α → α)
    (inp : List α) (outShape inpShape : List Nat) (axis R C Ro A : Nat)
    (hp : LaneOp2 N packOp op)
    (hN : 0 < N) (hA : 0 < A) (hdiv : R / Ro = A)
    (hRC : reductionNdReshape .vertical inpShape axis = (R, C))
    (hOut : reductionNdReshape .vertical outShape axis = (Ro, C))
    (i j : Nat) (hj : j < cellSteps N C) (hiC : i * C + C ≤ inp.length) (cur : List α) (hoC : (i / A) * C + C ≤ cur.length) :
    vertStep N packOp op inp outShape inpShape axis cur (i * cellSteps N C + j)
      = storeu cur ((i / A) * C + cellCol N C j)
          (List.zipWith op (((rowOf cur C (i / A)).drop (cellCol N C j)).take (cellLen N C j))
            (((rowOf inp C i).drop (cellCol N C j)).take (cellLen N C j))) := by
  have hvb := cellCol_add_cellLen_le N C j hj
  have hat := reductionAt_row .vertical N outShape inpShape axis (cellSteps N C) i j _ hRC rfl hj
  rw [hOut] at hat
  unfold vertStep
  rw [hat, reduction2d_v N i j Ro R C A hN hA hdiv]
  simp only [Option.bind_eq_bind, Option.bind_some]
  unfold cellLen at hvb ⊢
  by_cases hpk : j < C / N
  · simp only [if_pos hpk] at hvb ⊢
    rw [if_pos trivial, loadu_row inp C i _ N hvb hiC, loadu_row cur C (i / A) _ N hvb hoC]
    simp only [Option.bind_some]
    rw [hp _ _ (length_take_drop (by rw [rowOf_length cur C _ hoC]; exact hvb))
          (length_take_drop (by rw [rowOf_length inp C _ hiC]; exact hvb))]
  · simp only [if_neg hpk] at hvb ⊢
    obtain ⟨x, hx, hxb⟩ := readAt_row inp C i (cellCol N C j) hvb hiC
    obtain ⟨y, hy, hyb⟩ := readAt_row cur C (i / A) (cellCol N C j) hvb hoC
    rw [if_pos trivial, hx, hy, hxb, hyb]
    exact writeAt_eq_storeu _ _ _

/-- output row `ρ` accumulates input row `i`, cell by cell; all other cells are unchanged -/
def rowUpd (op : α → α → α) (inp : List α) (C : Nat) (o : List α) (ρ i : Nat) : List α :=
  o.take (ρ * C) ++ List.zipWith op (rowOf o C ρ) (rowOf inp C i) ++ o.drop (ρ * C + C)

theorem rowUpd_block (op : α → α → α) (inp : List α) (C : Nat) (o : List α) (ρ i a w : Nat)
    (ho : ρ * C + C ≤ o.length) (hi : i * C + C ≤ inp.length) (haw : a + w ≤ C) :
    ((rowUpd op inp C o ρ i).drop (ρ * C + a)).take w
      = List.zipWith op (((rowOf o C ρ).drop a).take w) (((rowOf inp C i).drop a).take w) := by
  rw [drop_take_row _ C ρ a w haw, rowUpd, List.append_assoc,
    rowOf_mid (List.length_take_of_le (Nat.le_of_add_right_le ho)) (length_zipWith_rows op o inp C ρ i ho hi),
    List.drop_zipWith, List.take_zipWith]

theorem vert_row (N : Nat) (packOp : List α → List α → List α) (op : α → α → α)
    (inp : List α) (outShape inpShape : List Nat) (axis R C Ro A : Nat)
    (hp : LaneOp2 N packOp op)
    (hN : 0 < N) (hA : 0 < A) (hRo : 0 < Ro) (hR : R = Ro * A)
    (hRC : reductionNdReshape .vertical inpShape axis = (R, C))
    (hOut : reductionNdReshape .vertical outShape axis = (Ro, C))
    (i : Nat) (hi : i < R) (hinp : inp.length = R * C) (o : List α) (ho : o.length = Ro * C) :
    (List.range (cellSteps N C)).foldlM (fun s j => vertStep N packOp op inp outShape inpShape axis s (i * cellSteps N C + j)) o
      = some (rowUpd op inp C o (i / A) i) ∧ (rowUpd op inp C o (i / A) i).length = o.length := by
  have hoC : i / A * C + C ≤ o.length :=
    ho ▸ Nat.mul_add_self_le_mul C (by rw [Nat.div_lt_iff_lt_mul hA, ← hR]; exact hi)
  have hiC : i * C + C ≤ inp.length := hinp ▸ Nat.mul_add_self_le_mul C hi
  have hdiv : R / Ro = A := by rw [hR]; exact Nat.mul_div_cancel_left A hRo
  have ht : (o.take (i / A * C)).length = i / A * C := List.length_take_of_le (Nat.le_of_add_right_le hoC)
  have hz := length_zipWith_rows op o inp C (i / A) i hoC hiC
  have hlen : (rowUpd op inp C o (i / A) i).length = o.length := by
    rw [rowUpd, List.length_append, List.length_append, ht, hz, List.length_drop, Nat.add_sub_cancel' hoC]
  refine ⟨?_, hlen⟩
  have hcontig : Contig (fun j => (i / A) * C + cellCol N C j) (cellLen N C)
      ((i / A) * C) (List.range (cellSteps N C)) ((i / A) * C + C) := by
    rw [List.range_eq_range']
    exact Contig.row_cells N C _ 0 (fun j _ => by simp only [Nat.zero_add, and_self])
  have := seq_blocks (rowUpd op inp C o (i / A) i) o
    (fun s j => vertStep N packOp op inp outShape inpShape axis s (i * cellSteps N C + j)) hlen hcontig hoC
    (by
      intro j hj hb
      have hj' := List.mem_range.1 hj
      have hvb := cellCol_add_cellLen_le N C j hj'
      have hle := Nat.le_of_add_right_le hb
      have hpre : ((rowUpd op inp C o (i / A) i).take ((i / A) * C + cellCol N C j)).length = (i / A) * C + cellCol N C j :=
        List.length_take_of_le (hlen.symm ▸ hle)
      rw [vertStep_row N packOp op inp outShape inpShape axis R C Ro A hp hN hA hdiv hRC hOut i j hj' hiC _
            (by rw [List.length_take_append_drop (hlen ▸ hle) hle]; exact hoC),
          ← drop_take_row _ C (i / A) _ _ hvb, List.drop_left' hpre, drop_take_row o C (i / A) _ _ hvb,
          rowUpd_block op inp C o (i / A) i _ _ hoC hiC hvb])
  unfold rowUpd at this ⊢
  rw [List.append_assoc, List.take_left' ht, List.take_append_drop, ← List.append_assoc,
    List.take_left' (by rw [List.length_append, ht, hz])] at this
  exact this

/-- `for i < m: out_row(i / A) ⊕= inp_row(i)` -/
def vloop (op : α → α → α) (inp : List α) (C A : Nat) (out : List α) (m : Nat) : List α :=
  (List.range m).foldl (fun o i => rowUpd op inp C o (i / A) i) out

theorem rowUpd_mid (op : α → α → α) (inp : List α) (C : Nat) (pre row post : List α) (ρ i : Nat)
    (hpre : pre.length = ρ * C) (hrow : row.length = C) :
    rowUpd op inp C (pre ++ (row ++ post)) ρ i = pre ++ (List.zipWith op row (rowOf inp C i) ++ post) := by
  unfold rowUpd
  rw [rowOf_mid hpre hrow, List.take_left' hpre, ← List.drop_drop, List.drop_left' hpre, List.drop_left' hrow, List.append_assoc]

/-- input rows that all go to output row `ρ` accumulate in that row and leave the rest of the buffer alone -/
theorem foldl_rowUpd_group (op : α → α → α) (inp : List α) (C A : Nat) (pre post : List α) (ρ : Nat)
    (hpre : pre.length = ρ * C) (ks : List Nat) (hk : ∀ k ∈ ks, k / A = ρ ∧ k * C + C ≤ inp.length)
    (row : List α) (hrow : row.length = C) :
    ks.foldl (fun o i => rowUpd op inp C o (i / A) i) (pre ++ (row ++ post))
        = pre ++ (ks.foldl (fun acc k => List.zipWith op acc (rowOf inp C k)) row ++ post)
      ∧ (ks.foldl (fun acc k => List.zipWith op acc (rowOf inp C k)) row).length = C := by
  induction ks generalizing row with
  | nil => exact ⟨rfl, hrow⟩
  | cons k ks ih =>
    obtain ⟨h1, h2⟩ := hk k (List.mem_cons_self ..)
    rw [List.foldl_cons, List.foldl_cons, h1, rowUpd_mid op inp C pre row post ρ k hpre hrow]
    exact ih (fun y hy => hk y (List.mem_cons_of_mem _ hy)) _
      (by rw [List.length_zipWith, hrow, rowOf_length inp C k h2, Nat.min_self])

/-- the VERTICAL loop makes the output rows final one after the other: after the input rows of the first `k` groups the
    buffer is `k` final rows followed by the untouched rest -/
theorem vloop_groups (op : α → α → α) (inp : List α) (C A Ro : Nat) (out : List α)
    (hinp : inp.length = Ro * A * C) (hout : out.length = Ro * C) (k : Nat) (hk : k ≤ Ro) :
    ∃ pre, vloop op inp C A out (k * A) = pre ++ out.drop (k * C) ∧ pre.length = k * C ∧
      ∀ ρ, ρ < k → rowOf pre C ρ
        = (List.range A).foldl (fun acc a => List.zipWith op acc (rowOf inp C (ρ * A + a))) (rowOf out C ρ) := by
  induction k with
  | zero => exact ⟨[], by rw [Nat.zero_mul, Nat.zero_mul]; rfl, (Nat.zero_mul C).symm, fun _ h => nomatch h⟩
  | succ k ih =>
    obtain ⟨pre, h1, h2, h3⟩ := ih (Nat.le_of_succ_le hk)
    have hrow : k * C + C ≤ out.length := hout ▸ Nat.mul_add_self_le_mul C hk
    have hsplit : out.drop (k * C) = rowOf out C k ++ out.drop ((k + 1) * C) := by
      rw [rowOf, Nat.succ_mul, ← List.drop_drop, List.take_append_drop]
    -- group `k`: the input rows `k·A … k·A + A − 1`
    obtain ⟨h4, h5⟩ := foldl_rowUpd_group op inp C A pre (out.drop ((k + 1) * C)) k h2
      ((List.range A).map (k * A + ·)) (by
        intro i hi
        obtain ⟨a, ha, rfl⟩ := List.mem_map.1 hi
        have ha' := List.mem_range.1 ha
        have : k * A + a < Ro * A :=
          Nat.lt_of_lt_of_le (Nat.add_lt_add_left ha' _) (Nat.succ_mul k A ▸ Nat.mul_le_mul_right A hk)
        exact ⟨Nat.mul_add_div_of_lt k ha', hinp ▸ Nat.mul_add_self_le_mul C this⟩)
      (rowOf out C k) (rowOf_length out C k hrow)
    simp only [List.foldl_map] at h4 h5
    refine ⟨_, by
        unfold vloop at h1 ⊢
        rw [Nat.succ_mul, List.range_add, List.foldl_append, h1, hsplit, List.foldl_map, h4, ← List.append_assoc],
      by rw [List.length_append, h2, h5, Nat.succ_mul], fun ρ hρ => ?_⟩
    rcases Nat.lt_succ_iff_lt_or_eq.1 hρ with h | rfl
    · have hle : ρ * C + C ≤ pre.length := h2 ▸ Nat.mul_add_self_le_mul C h
      rw [← h3 ρ h, rowOf, List.drop_append_of_le_length (Nat.le_of_add_right_le hle),
        List.take_append_of_le_length (by rw [List.length_drop]; exact Nat.le_sub_of_add_le' hle)]
      rfl
    · rw [rowOf, List.drop_left' h2, List.take_of_length_le (Nat.le_of_eq h5)]

theorem vloop_rows (op : α → α → α) (inp : List α) (C A Ro : Nat) (out : List α)
    (hinp : inp.length = Ro * A * C) (hout : out.length = Ro * C) :
    (vloop op inp C A out (Ro * A)).length = Ro * C ∧
    ∀ ρ, ρ < Ro → rowOf (vloop op inp C A out (Ro * A)) C ρ
      = (List.range A).foldl (fun acc a => List.zipWith op acc (rowOf inp C (ρ * A + a))) (rowOf out C ρ) := by
  obtain ⟨pre, h1, h2, h3⟩ := vloop_groups op inp C A Ro out hinp hout Ro (Nat.le_refl _)
  rw [List.drop_of_length_le (Nat.le_of_eq hout), List.append_nil] at h1
  rw [h1]
  exact ⟨h2, h3⟩

end NmVerif.Simd
