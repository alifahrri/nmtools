import NmVerif.Simd.Eval
import NmVerif.Simd.SeqLemmas
import NmVerif.Simd.EnumLemmas
import NmVerif.Lemmas.Addressing
/-
  `outer_simd_enumerator`: the output blocks of successive steps tile the output buffer contiguously, for operands
  of any rank.  `eval_outer`: the lhs / rhs offsets of every step are the operands of the outer product, and the evaluator
  fills the output with `f(lhs[o / |rhs|], rhs[o % |rhs|])`.
-/
namespace NmVerif.Simd
open NmVerif

variable {α β : Type}

/-- the step count and the output access of a step read `out` and `lhs ++ rhs`, not where the latter is cut into lhs and rhs: the
    lemmas below are stated for a rhs `rpre ++ [n]`; a statement about the output for any cut (`C12.outer_covers_once`, where rhs may
    be `[]`) moves the cut to `pre`, `[n]` -/
theorem outerAt_cut (N : Nat) (out lhs rhs lhs' rhs' : List Nat) (h : lhs ++ rhs = lhs' ++ rhs') :
    outerSize N out lhs rhs = outerSize N out lhs' rhs'
      ∧ ∀ i, (outerAt N out lhs rhs i).1 = (outerAt N out lhs' rhs' i).1 := by
  unfold outerSize outerAt outerSimdShape
  rw [h]
  exact ⟨rfl, fun _ => rfl⟩

theorem outerSimdShape_eq (N : Nat) (lhs rpre : List Nat) (n : Nat) :
    outerSimdShape N (lhs ++ (rpre ++ [n])) lhs (rpre ++ [n]) = lhs ++ rpre ++ [padSteps N n] := by
  unfold outerSimdShape padSteps
  rw [← List.append_assoc]
  generalize lhs ++ rpre = pre
  simp

theorem outerSize_eq (N : Nat) (lhs rpre : List Nat) (n : Nat) :
    outerSize N (lhs ++ (rpre ++ [n])) lhs (rpre ++ [n]) = prod (lhs ++ rpre) * padSteps N n := by
  rw [outerSize, outerSimdShape_eq, prod_snoc]

/-- cells covered by an access tagged as `rowStep` tags it — a register when PACKED, the `N − k` lanes in use for `PAD_k`: what a
    step of `eval_outer` writes, and what a step of `matmul_simd_inner` reads of the lhs row and of the rhs column -/
def outerLen (N : Nat) (t : TIdx) : Nat := if t.tag = Tag.PACKED then N else N - t.tag.toNat

theorem outerLen_row {N n s : Nat} (hN : 0 < N) (hs : s < padSteps N n) (off : Nat) :
    outerLen N (rowStep N n s off) = padLen N n s := by
  unfold outerLen padLen rowStep
  rcases lt_padSteps hs with h | ⟨rfl, h⟩
  · simp only [if_pos (chunk_le h), if_pos h, if_true]
  · obtain ⟨h1, h2, -, h4, h5⟩ := pad_step hN h
    simp only [if_neg h1, if_neg h2, h4, h5, if_neg (Nat.lt_irrefl _)]

/-- lhs offset (`lhs_dim == 1`, `== 2`, general): the row-major offset of the lhs part `IL` of the simd index -/
theorem outer_lhsOff (IL rest lhs more : List Nat) (h : IL.length = lhs.length) :
    (if lhs.length = 1 then (IL ++ rest).getD 0 0
     else if lhs.length = 2 then (IL ++ rest).getD 0 0 * (lhs ++ more).getD 1 0 + (IL ++ rest).getD 1 0
     else partialOffset (IL ++ rest) (strides lhs) 0 lhs.length) = computeOffset IL (strides lhs) := by
  -- the rank of `lhs` first, then `IL` from its length: a `match lhs, IL, h with` is slow to check
  rcases lhs with _ | ⟨m1, _ | ⟨m2, _ | ⟨m3, t⟩⟩⟩
  · obtain rfl := List.eq_nil_of_length_eq_zero h
    simp [partialOffset, computeOffset, strides]
  · obtain ⟨x, rfl⟩ := List.length_eq_one_iff.1 h
    simp [computeOffset, strides, prod]
  · obtain ⟨x, IL, rfl⟩ := List.exists_cons_of_length_eq_add_one h
    obtain ⟨y, rfl⟩ := List.length_eq_one_iff.1 (Nat.succ.inj h)
    simp [computeOffset, strides, prod, Nat.mul_comm]
  · rw [if_neg (by simp), if_neg (by simp)]
    unfold partialOffset
    rw [List.drop_zero, ← h, List.take_left' rfl]

/-- rhs offset (`rhs_dim == 1`, `== 2`, general): the row-major offset of `(IR, sj·N)` in `rpre ++ [n]` -/
theorem outer_rhsOff (IL IR rpre : List Nat) (n sj N lhsDim : Nat) (hL : IL.length = lhsDim) (hR : IR.length = rpre.length) :
    (if (rpre ++ [n]).length = 1 then sj * N
     else if (rpre ++ [n]).length = 2 then
       (IL ++ IR ++ [sj]).getD ((IL ++ IR ++ [sj]).length - 2) 0 * n + sj * N
     else partialOffset (IL ++ IR ++ [sj]) (strides (rpre ++ [n])) lhsDim ((rpre ++ [n]).length - 1) + sj * N)
      = computeOffset IR (strides rpre) * n + sj * N := by
  rcases rpre with _ | ⟨r1, _ | ⟨r2, t⟩⟩
  · obtain rfl := List.eq_nil_of_length_eq_zero hR
    simp [computeOffset]
  · obtain ⟨x, rfl⟩ := List.length_eq_one_iff.1 hR
    rw [if_neg (by simp), if_pos (by simp)]
    have e : (IL ++ [x] ++ [sj]).length - 2 = IL.length := by simp
    rw [e, List.append_assoc, List.getD_eq_getElem?_getD, List.getElem?_append_right (Nat.le_refl _)]
    simp [computeOffset, strides, prod]
  · rw [if_neg (by simp), if_neg (by simp)]
    unfold partialOffset
    have hl : (r1 :: r2 :: t ++ [n]).length - 1 = IR.length := by rw [hR]; simp
    rw [hl, ← hL, List.append_assoc, List.drop_left, List.take_left' rfl, computeOffset_strides_snoc _ _ _ hR]

theorem outerAt_full (N : Nat) (lhs rpre : List Nat) (n q sj : Nat) (hposR : Pos rpre)
    (hq : q < prod (lhs ++ rpre)) (hsj : sj < padSteps N n) :
    outerAt N (lhs ++ (rpre ++ [n])) lhs (rpre ++ [n]) (q * padSteps N n + sj)
      = (rowStep N n sj (q * n + sj * N), ⟨Tag.BROADCAST, q / prod rpre⟩,
         rowStep N n sj (q % prod rpre * n + sj * N)) := by
  have hR : 0 < prod rpre := prod_pos hposR
  have hqL : q / prod rpre < prod lhs := by
    rw [Nat.div_lt_iff_lt_mul hR, ← prod_append]; exact hq
  have hqR : q % prod rpre < prod rpre := Nat.mod_lt _ hR
  have hl : (ndindex (lhs ++ rpre) q).length = (lhs ++ rpre).length := Shape.ndindex_length _ q
  have hlL : (ndindex lhs (q / prod rpre)).length = lhs.length := Shape.ndindex_length lhs _
  have hlR : (ndindex rpre (q % prod rpre)).length = rpre.length := Shape.ndindex_length rpre _
  -- the simd index of the step is `ndindex (lhs ++ rpre) q ++ [sj]`
  have hidx := ndindex_snoc (lhs ++ rpre) (padSteps N n) (q * padSteps N n + sj)
  rw [Nat.mul_add_div_of_lt q hsj, Nat.mul_add_mod_of_lt hsj] at hidx
  unfold outerAt
  rw [outerSimdShape_eq]
  show outerSimd N (ndindex _ _) _ _ _ = _
  rw [hidx]
  unfold outerSimd rowStep
  have hlast : (ndindex (lhs ++ rpre) q ++ [sj]).getLastD 0 = sj := by simp
  have hnl : (lhs ++ (rpre ++ [n])).getLastD 0 = n := by rw [← List.append_assoc]; simp
  have hpo : partialOffset (ndindex (lhs ++ rpre) q ++ [sj]) (strides (lhs ++ (rpre ++ [n]))) 0
      ((ndindex (lhs ++ rpre) q ++ [sj]).length - 1) = q * n := by
    unfold partialOffset
    rw [List.length_append, List.length_singleton, Nat.add_sub_cancel, List.drop_zero,
        List.take_left' rfl, ← List.append_assoc, computeOffset_strides_snoc _ _ _ hl, Shape.offset_ndindex hq]
  simp only [hlast, hnl, hpo, ← Nat.mod_eq_sub_div_mul, gt_iff_lt, ← Nat.not_le, ite_not]
  rw [Shape.ndindex_append lhs rpre q]
  have hL := outer_lhsOff (ndindex lhs (q / prod rpre)) (ndindex rpre (q % prod rpre) ++ [sj]) lhs (rpre ++ [n]) hlL
  have hRr := outer_rhsOff (ndindex lhs (q / prod rpre)) (ndindex rpre (q % prod rpre)) rpre n sj N lhs.length hlL hlR
  rw [List.append_assoc] at hRr ⊢
  rw [hL, hRr, Shape.offset_ndindex hqL, Shape.offset_ndindex hqR]

theorem outer_contig (N : Nat) (lhs rpre : List Nat) (n : Nat) (hN : 0 < N) (hposR : Pos rpre) :
    Contig (fun i => (outerAt N (lhs ++ (rpre ++ [n])) lhs (rpre ++ [n]) i).1.off)
      (fun i => outerLen N (outerAt N (lhs ++ (rpre ++ [n])) lhs (rpre ++ [n]) i).1)
      0 (List.range (prod (lhs ++ rpre) * padSteps N n)) (prod (lhs ++ rpre) * n) := by
  refine Contig.rows _ _ _ (fun q hq => Contig.row_padded N n _ _ fun sj hsj => ?_)
  rw [outerAt_full N lhs rpre n q sj hposR hq hsj]
  exact ⟨rfl, outerLen_row hN hsj _⟩

theorem outer_divmod (q n R t : Nat) (ht : t < n) :
    (q * n + t) / (R * n) = q / R ∧ (q * n + t) % (R * n) = q % R * n + t := by
  have h1 := Nat.mul_add_div_of_lt q ht
  constructor
  · rw [Nat.mul_comm R n, ← Nat.div_div_eq_div_mul, h1]
  · rw [Nat.mul_comm R n, Nat.mod_mul, h1, Nat.mul_add_mod_of_lt ht, Nat.mul_comm]; omega

theorem outer_cells (f : α → α → β) (Y : List α) (hY : 0 < Y.length) (X : List α) (o : Nat) :
    (X.flatMap (fun u => Y.map (fun v => f u v)))[o]?
      = X[o / Y.length]?.bind fun u => Y[o % Y.length]?.map (f u) := by
  induction X generalizing o with
  | nil => simp
  | cons u X ih =>
    rw [List.flatMap_cons]
    by_cases h : o < Y.length
    · rw [List.getElem?_append_left (by simpa using h), Nat.div_eq_of_lt h, Nat.mod_eq_of_lt h, List.getElem?_map]
      rfl
    · have hge : Y.length ≤ o := Nat.le_of_not_lt h
      rw [List.getElem?_append_right (by simpa using hge), List.length_map, ih, Nat.div_eq_sub_div hY hge,
          ← Nat.mod_eq_sub_mod hge]
      rfl

theorem outerPadLoop_eq (f : α → α → β) (X Y : List α) (lo ro oo : Nat) (x : α) (hx : X[lo]? = some x)
    (res old : List β) (hlen : res.length = old.length) (cnt : Nat) (hb : oo + cnt ≤ old.length)
    (h : ∀ i, i < cnt → ∃ y, Y[ro + i]? = some y ∧ res[oo + i]? = some (f x y)) :
    outerPadLoop f X Y lo ro oo cnt (res.take oo ++ old.drop oo)
      = some (res.take (oo + cnt) ++ old.drop (oo + cnt)) := by
  have hc : Contig (oo + ·) (fun _ => 1) oo (List.range cnt) (oo + cnt) := by
    simpa [List.range_eq_range'] using
      Contig.run (pos := (oo + ·)) (len := fun _ => 1) 1 oo 0 cnt (fun j _ => ⟨by simp, rfl⟩)
  exact seq_blocks res old _ hlen hc hb (by
    intro i hi _
    obtain ⟨y, hy, hr⟩ := h i (List.mem_range.1 hi)
    have hlt : oo + i < res.length := (List.getElem?_eq_some_iff.1 hr).1
    simp only [readAt, hx, hy, Option.bind_eq_bind, Option.bind_some]
    rw [writeAt_eq_storeu, List.drop_eq_getElem_cons hlt, ← Option.some.inj (hr.symm.trans (List.getElem?_eq_getElem hlt))]
    rfl)

/-- one step in the form `seq_blocks` asks for: on the buffer that is `res` before the step's block and `old` from it on, the
    step stores its block of `res` -/
theorem outerStep_row (N : Nat) (hN : 0 < N) (packF : List α → List α → List β) (f : α → α → β)
    (hpf : LaneOp2 N packF f)
    (X Y : List α) (lhs rpre : List Nat) (n : Nat) (hposR : Pos rpre)
    (hX : X.length = prod lhs) (hY : Y.length = prod rpre * n)
    (q sj : Nat) (hq : q < prod (lhs ++ rpre)) (hsj : sj < padSteps N n)
    (res old : List β) (hres : res = X.flatMap (fun u => Y.map (fun v => f u v))) (hlen : res.length = old.length)
    (hb : q * n + sj * N + padLen N n sj ≤ old.length) :
    outerStep N packF f X Y (lhs ++ (rpre ++ [n])) lhs (rpre ++ [n]) (res.take (q * n + sj * N) ++ old.drop (q * n + sj * N))
        (q * padSteps N n + sj)
      = some (res.take (q * n + sj * N + padLen N n sj) ++ old.drop (q * n + sj * N + padLen N n sj)) := by
  have hR : 0 < prod rpre := prod_pos hposR
  have hqL : q / prod rpre < X.length := by rw [hX, Nat.div_lt_iff_lt_mul hR, ← prod_append]; exact hq
  have hcell : ∀ t, t < n → ∃ y, Y[q % prod rpre * n + t]? = some y ∧ res[q * n + t]? = some (f X[q / prod rpre] y) := by
    intro t ht
    have hin : q % prod rpre * n + t < Y.length := hY ▸ Nat.mul_add_lt_mul (Nat.mod_lt q hR) ht
    have hdm := outer_divmod q n (prod rpre) t ht
    refine ⟨Y[q % prod rpre * n + t], List.getElem?_eq_getElem hin, ?_⟩
    rw [hres, outer_cells f Y (Nat.zero_lt_of_lt hin) X, hY, hdm.1, hdm.2, List.getElem?_eq_getElem hqL, List.getElem?_eq_getElem hin]
    rfl
  have hxv : X[q / prod rpre]? = some X[q / prod rpre] := List.getElem?_eq_getElem hqL
  have hdm := Nat.div_add_mod' n N
  unfold outerStep
  rw [outerAt_full N lhs rpre n q sj hposR hq hsj]
  simp only [rowStep]
  rcases lt_padSteps hsj with hw | ⟨rfl, hpart⟩
  · have hle := chunk_le hw
    rw [padLen, if_pos hw] at hb ⊢
    simp only [if_pos hle, if_true, readAt, hxv, Option.bind_eq_bind, Option.bind_some]
    -- the register lies in row `q % prod rpre` of `Y`, the row in the buffer (`omega` is slow in this context)
    have hld : q % prod rpre * n + sj * N + N ≤ Y.length := by
      rw [hY, Nat.add_assoc]; exact Nat.le_trans (Nat.add_le_add_left hle _) (Nat.mul_add_self_le_mul n (Nat.mod_lt q hR))
    rw [loadu_eq hld]
    simp only [Option.bind_some]
    rw [hpf _ _ List.length_replicate (length_take_drop hld), ← storeu_block res old _ N hlen hb]
    congr 1
    apply List.ext_getElem?
    intro j
    rw [List.getElem?_zipWith, List.getElem?_take, List.getElem?_take, List.getElem?_drop, List.getElem?_drop,
        List.getElem?_replicate]
    by_cases hj : j < N
    · obtain ⟨y, hy, hr⟩ := hcell (sj * N + j) (lane_lt hj hle)
      rw [← Nat.add_assoc] at hy hr
      simp only [hj, if_true, hy, hr]
    · simp only [hj, if_false]
  · -- the partial register that ends the row: a scalar loop over its `n % N` cells
    rw [padLen, if_neg (Nat.lt_irrefl _)] at hb ⊢
    obtain ⟨h1, h2, h3, h4, h5⟩ := pad_step hN hpart
    simp only [if_neg h1, if_neg h2, if_pos h3, h4, h5]
    exact outerPadLoop_eq f X Y _ _ _ _ hxv res old hlen _ hb (fun i hi => by
      obtain ⟨y, hy, hr⟩ := hcell (n / N * N + i) (lane_lt hi (Nat.le_of_eq hdm))
      rw [← Nat.add_assoc] at hy hr
      exact ⟨y, hy, hr⟩)

/-- **`eval_outer` fills the output with the outer product**, on raw buffers: lhs of shape `lhs` (any rank), rhs of shape
    `rpre ++ [n]` -/
theorem simdOuter_eq_cells (N : Nat) (hN : 0 < N) (packF : List α → List α → List β) (f : α → α → β)
    (hpf : LaneOp2 N packF f)
    (X Y : List α) (lhs rpre : List Nat) (n : Nat) (hposR : Pos rpre)
    (hX : X.length = prod lhs) (hY : Y.length = prod rpre * n)
    (out : List β) (ho : out.length = prod lhs * (prod rpre * n)) :
    simdOuter N packF f X Y (lhs ++ (rpre ++ [n])) lhs (rpre ++ [n]) out
      = some (X.flatMap (fun u => Y.map (fun v => f u v))) := by
  generalize hresdef : X.flatMap (fun u => Y.map (fun v => f u v)) = res
  have hres : res.length = out.length := by
    rw [← hresdef, List.length_flatMap, ho, ← hX, ← hY]
    simp only [List.length_map, List.map_const', List.sum_replicate_nat]
  have hP : prod (lhs ++ rpre) * n = out.length := by rw [ho, prod_append, Nat.mul_assoc]
  unfold simdOuter
  rw [outerSize_eq]
  have key := seq_blocks res out (outerStep N packF f X Y (lhs ++ (rpre ++ [n])) lhs (rpre ++ [n])) hres
    (outer_contig N lhs rpre n hN hposR) (by rw [hP]; exact Nat.le_refl _)
    (by
      intro g hg hb
      obtain ⟨q, sj, hq, hsj, rfl⟩ := exists_row_col (List.mem_range.1 hg)
      simp only [outerAt_full N lhs rpre n q sj hposR hq hsj, outerLen_row hN hsj, rowStep_off] at hb ⊢
      rw [storeu_block res out _ _ hres hb]
      exact outerStep_row N hN packF f hpf X Y lhs rpre n hposR hX hY q sj hq hsj res out hresdef.symm hres hb)
  simp only [List.take_zero, List.nil_append, List.drop_zero] at key
  rw [key, hP, List.take_of_length_le (Nat.le_of_eq hres), List.drop_of_length_le (Nat.le_refl _), List.append_nil]

end NmVerif.Simd
