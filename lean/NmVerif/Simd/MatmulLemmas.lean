import NmVerif.Simd.Eval
import NmVerif.Simd.HorizLemmas
/-
  `eval_matmul`: every output element is the horizontal sum of `N` lane accumulators, lane `l` holding the fused
  multiply-adds of elements `l, N+l, 2N+l, …` of the lhs row and the rhs column (zero-padded to a multiple of `N`);
  over a commutative monoid with `fma x y z = x·y + z` that is the sum of the `K` products.
-/
namespace NmVerif.Simd
open NmVerif IsCommMonoid

variable {α : Type}

theorem fmaddLanes_length (fma : α → α → α → α) (l r acc : List α) (N : Nat)
    (hl : l.length = N) (hr : r.length = N) (ha : acc.length = N) : (fmaddLanes fma l r acc).length = N := by
  unfold fmaddLanes
  rw [List.length_zipWith, List.length_zip, hl, hr, ha, Nat.min_self, Nat.min_self]

/-- the accumulator register after `m` inner steps: lane `l` = `fma(row[(m−1)N+l], col[(m−1)N+l], … fma(row[l], col[l], 0))` -/
def laneAccs (fma : α → α → α → α) (zero : α) (N : Nat) (row col : List α) (m : Nat) : List α :=
  (List.range m).foldl (fun acc s => fmaddLanes fma (pchunk zero N row s) (pchunk zero N col s) acc)
    (List.replicate N zero)

theorem laneAccs_succ (fma : α → α → α → α) (zero : α) (N : Nat) (row col : List α) (m : Nat) :
    laneAccs fma zero N row col (m + 1)
      = fmaddLanes fma (pchunk zero N row m) (pchunk zero N col m) (laneAccs fma zero N row col m) := by
  unfold laneAccs; rw [List.range_succ, List.foldl_append]; rfl

theorem laneAccs_length (fma : α → α → α → α) (zero : α) (N : Nat) (row col : List α) (m : Nat) :
    (laneAccs fma zero N row col m).length = N :=
  List.foldlRecOn (motive := (·.length = N)) _ _ List.length_replicate fun acc h _ _ =>
    fmaddLanes_length fma _ _ acc N (pchunk_length _ _ _ _) (pchunk_length _ _ _ _) h

/-- **the order / association `eval_matmul` uses for output element `o`** (row `o / Nn` of lhs, column `o % Nn` of rhs):
    `N` lane-strided fused multiply-add chains over the zero-padded row/column, then their left-to-right horizontal sum -/
def matmulCell (fma : α → α → α → α) (add : α → α → α) (zero : α) (N K : Nat) (lhs rhsCol : List α) (Nn o : Nat) :
    Option α :=
  hfold add (laneAccs fma zero N (rowOf lhs K (o / Nn)) (rowOf rhsCol K (o % Nn)) (matmulInnerSize N K))

/-- the `(M, Nn)` result in that order / association: `matmulCell` of every output offset, row-major -/
def matmulRef (fma : α → α → α → α) (add : α → α → α) (zero : α) (N : Nat) (lhs rhsCol : List α) (M K Nn : Nat) :
    Option (List α) :=
  allSome ((List.range (M * Nn)).map (matmulCell fma add zero N K lhs rhsCol Nn))

theorem hfold_isSome (add : α → α → α) (reg : List α) (h : 0 < reg.length) : (hfold add reg).isSome := by
  cases reg with
  | nil => simp at h
  | cons r rs => rfl

theorem matmulInnerSize_eq (N K : Nat) : matmulInnerSize N K = padSteps N K := rfl

/-- one inner step on the registers `pchunk` of the row and the column.  The horizontal sum `v` it stores is a hypothesis (`hv`), so
    that the conclusion is a plain equation; a non-empty register has one (`hfold_isSome`) -/
theorem matmulStep_eq (N : Nat) (hN : 0 < N) (fma : α → α → α → α) (add : α → α → α) (zero : α)
    (lhs rhs : List α) (K Nn o : Nat) (hl : o / Nn * K + K ≤ lhs.length) (hr : o % Nn * K + K ≤ rhs.length)
    (s : Nat) (hs : s < padSteps N K) (buf acc : List α) (ho : o < buf.length) (v : α)
    (hv : hfold add (fmaddLanes fma (pchunk zero N (rowOf lhs K (o / Nn)) s) (pchunk zero N (rowOf rhs K (o % Nn)) s) acc)
            = some v) :
    matmulStep N fma add zero lhs rhs K Nn o (buf, acc) s
      = some (buf.set o v,
              fmaddLanes fma (pchunk zero N (rowOf lhs K (o / Nn)) s) (pchunk zero N (rowOf rhs K (o % Nn)) s) acc) := by
  have h1 := rowOf_length lhs K _ hl
  have h2 := rowOf_length rhs K _ hr
  have hdm := Nat.div_add_mod' K N
  unfold matmulStep matmulInner
  simp only [← Nat.mod_eq_sub_div_mul]
  rcases lt_padSteps hs with h | ⟨rfl, h⟩
  · have hle := chunk_le h
    rw [pchunk_whole zero _ h1 h, pchunk_whole zero _ h2 h] at hv ⊢
    simp only [if_pos hle, if_true, loadu_row lhs K _ _ N hle hl, loadu_row rhs K _ _ N hle hr, Option.bind_eq_bind,
      Option.pure_def, Option.bind_some, hv, writeAt, ho]
  · obtain ⟨h3, h4, h5, h6, h7⟩ := pad_step hN h
    rw [pchunk_partial zero hN _ h1, pchunk_partial zero hN _ h2] at hv ⊢
    simp only [if_neg h3, if_neg h4, if_pos h5, h6, h7, loadu_row lhs K _ _ (K % N) (Nat.le_of_eq hdm) hl,
      loadu_row rhs K _ _ (K % N) (Nat.le_of_eq hdm) hr, Option.bind_eq_bind, Option.pure_def, Option.bind_some, hv, writeAt, ho,
      if_true]

theorem matmulCellLoop_eq (N : Nat) (hN : 0 < N) (fma : α → α → α → α) (add : α → α → α) (zero : α)
    (lhs rhs : List α) (K Nn o : Nat) (hK : 0 < K) (hl : o / Nn * K + K ≤ lhs.length) (hr : o % Nn * K + K ≤ rhs.length)
    (buf : List α) (ho : o < buf.length) (v : α) (hv : matmulCell fma add zero N K lhs rhs Nn o = some v) :
    matmulCellLoop N fma add zero lhs rhs K Nn buf o = some (buf.set o v) := by
  unfold matmulCellLoop
  unfold matmulCell at hv
  rw [matmulInnerSize_eq] at hv ⊢
  obtain ⟨k, hk⟩ := padSteps_succ hN hK
  rw [hk] at hv ⊢
  -- every step stores the horizontal sum of its accumulator `laneAccs` at cell `o`: the last store stays
  have key : ∀ m, m ≤ k → ∀ w, hfold add (laneAccs fma zero N (rowOf lhs K (o / Nn)) (rowOf rhs K (o % Nn)) (m + 1)) = some w →
      (List.range (m + 1)).foldlM (matmulStep N fma add zero lhs rhs K Nn o) (buf, List.replicate N zero)
        = some (buf.set o w, laneAccs fma zero N (rowOf lhs K (o / Nn)) (rowOf rhs K (o % Nn)) (m + 1)) := by
    intro m
    induction m with
    | zero =>
      intro _ w hw
      rw [laneAccs_succ] at hw ⊢
      simp only [Nat.zero_add, List.range_one, List.foldlM_cons, List.foldlM_nil]
      rw [matmulStep_eq N hN fma add zero lhs rhs K Nn o hl hr 0 (hk ▸ Nat.succ_pos k) buf (List.replicate N zero) ho w hw]; rfl
    | succ m ih =>
      intro hm w hw
      obtain ⟨w', hw'⟩ := Option.isSome_iff_exists.1 (hfold_isSome add
        (laneAccs fma zero N (rowOf lhs K (o / Nn)) (rowOf rhs K (o % Nn)) (m + 1)) (by rw [laneAccs_length]; exact hN))
      rw [laneAccs_succ] at hw
      rw [List.range_succ, List.foldlM_append, ih (Nat.le_of_succ_le hm) w' hw', laneAccs_succ _ _ _ _ _ (m + 1)]
      simp only [Option.bind_eq_bind, Option.bind_some, List.foldlM_cons, List.foldlM_nil]
      rw [matmulStep_eq N hN fma add zero lhs rhs K Nn o hl hr (m + 1) (hk ▸ Nat.lt_succ_of_le hm) _ _ (by rw [List.length_set]; exact ho) w hw,
        List.set_set]; rfl
  rw [key k (Nat.le_refl _) v hv]; rfl

theorem matmul_bounds {i M Nn K : Nat} {lhs rhs : List α} (hi : i < M * Nn) (hl : lhs.length = M * K)
    (hr : rhs.length = Nn * K) : i / Nn * K + K ≤ lhs.length ∧ i % Nn * K + K ≤ rhs.length := by
  have hNn : 0 < Nn := Nat.pos_of_ne_zero (fun h => by rw [h] at hi; exact Nat.not_lt_zero _ hi)
  rw [hl, hr]
  exact ⟨Nat.mul_add_self_le_mul K ((Nat.div_lt_iff_lt_mul hNn).2 hi), Nat.mul_add_self_le_mul K (Nat.mod_lt _ hNn)⟩

theorem fmaddLanes_eq (fma : α → α → α → α) (mul add : α → α → α) (hfma : ∀ x y z, fma x y z = add (mul x y) z)
    (l r acc : List α) : fmaddLanes fma l r acc = List.zipWith add (List.zipWith mul l r) acc := by
  rw [← List.map_uncurry_zip_eq_zipWith (f := mul), List.zipWith_map_left]
  exact congrArg (fun g => List.zipWith g (List.zip l r) acc) (funext fun p => funext fun c => hfma p.1 p.2 c)

theorem zipWith_pchunk (mul : α → α → α) (zero : α) (hz : mul zero zero = zero) (N : Nat) (row col : List α)
    (hlen : row.length = col.length) (s : Nat) :
    List.zipWith mul (pchunk zero N row s) (pchunk zero N col s) = pchunk zero N (List.zipWith mul row col) s := by
  unfold pchunk
  have hl : ((row.drop (s * N)).take N).length = ((col.drop (s * N)).take N).length := by
    simp only [List.length_take, List.length_drop, hlen]
  rw [List.zipWith_append hl, ← hl, List.zipWith_replicate, hz, Nat.min_self, List.drop_zipWith, List.take_zipWith,
      List.length_zipWith, ← hl, Nat.min_self]

theorem laneAccs_eq {add : α → α → α} {zero : α} (hm : IsCommMonoid add zero) (fma : α → α → α → α) (mul : α → α → α)
    (hfma : ∀ x y z, fma x y z = add (mul x y) z) (hz : mul zero zero = zero)
    (N : Nat) (row col : List α) (hlen : row.length = col.length) (m : Nat) :
    laneAccs fma zero N row col m
      = (List.range m).foldl (fun acc s => List.zipWith add acc (pchunk zero N (List.zipWith mul row col) s))
          (List.replicate N zero) := by
  unfold laneAccs
  congr 1
  funext acc s
  rw [fmaddLanes_eq fma mul add hfma, zipWith_pchunk mul zero hz N row col hlen, List.zipWith_comm_of_comm hm.comm]

theorem matmulCell_eq_msum {add : α → α → α} {zero : α} (hm : IsCommMonoid add zero) (fma : α → α → α → α) (mul : α → α → α)
    (hfma : ∀ x y z, fma x y z = add (mul x y) z) (hz : mul zero zero = zero)
    (N : Nat) (hN : 0 < N) (K : Nat) (lhs rhs : List α) (Nn o : Nat)
    (hl : o / Nn * K + K ≤ lhs.length) (hr : o % Nn * K + K ≤ rhs.length) :
    matmulCell fma add zero N K lhs rhs Nn o
      = some (msum add zero (List.zipWith mul (rowOf lhs K (o / Nn)) (rowOf rhs K (o % Nn)))) := by
  unfold matmulCell
  have h1 := rowOf_length lhs K _ hl
  have h2 := rowOf_length rhs K _ hr
  have hK := length_zipWith_rows mul lhs rhs K (o / Nn) (o % Nn) hl hr
  rw [hfold_eq_msum hm _ (by rw [laneAccs_length]; exact hN), laneAccs_eq hm fma mul hfma hz N _ _ (by rw [h1, h2]),
      matmulInnerSize_eq, msum_lanes hm N hN _ hK]

theorem scalarMatmulNDA_rowCol (mul add : α → α → α) (zero : α) (a b : NDA α) (M K Nn : Nat)
    (ha : a.shape = [M, K]) (hb : b.shape = [K, Nn]) (hra : a.colMajor = false) (hcb : b.colMajor = true) :
    scalarMatmulNDA mul add zero a b M K Nn = scalarMatmul mul add zero a.data b.data M K Nn := by
  unfold scalarMatmulNDA scalarMatmul
  apply allSome_congr
  intro o _
  simp only
  congr 1
  apply allSome_congr
  intro k _
  have e1 : a.get? [o / Nn, k] = a.data[o / Nn * K + k]? := get?_rowMajor_2d a M K _ _ ha hra
  have e2 : b.get? [k, o % Nn] = b.data[o % Nn * K + k]? := by
    unfold NDA.get? NDA.offset NDA.stridesOf colStrides
    rw [hcb, hb]
    simp only [if_true, strides, prod, computeOffset, Nat.mul_one, Nat.one_mul, Nat.add_zero, List.reverse_cons,
      List.reverse_nil, List.nil_append, List.cons_append]
    rw [Nat.mul_comm K, Nat.add_comm]
  rw [e1, e2]

end NmVerif.Simd
