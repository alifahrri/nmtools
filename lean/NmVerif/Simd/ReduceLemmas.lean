import NmVerif.Simd.Loop
import NmVerif.Simd.LoopLemmas
/-
  Algebra of lane-wise accumulation over a commutative monoid, the loop lemmas every accumulating evaluator goes through
  (`foldlM_sim`: a monadic loop simulated by a pure one; `foldlM_range_mul`: a loop over `R·Cs` steps as rows of `Cs`), and
  the fold lemmas of the `out_size == 1` reduction (Simd/Loop.lean `simdReduceAll`).
-/
namespace NmVerif.Simd
open NmVerif

variable {α : Type}

/-- `(op, e)` is a commutative monoid: what "equal up to re-association and re-ordering of the reduction" needs
    (the lanes interleave the elements); the left identity is needed because the code starts from `set1(identity)` -/
structure IsCommMonoid (op : α → α → α) (e : α) : Prop where
  assoc : ∀ a b c, op (op a b) c = op a (op b c)
  comm : ∀ a b, op a b = op b a
  id_left : ∀ a, op e a = a

namespace IsCommMonoid
variable {op : α → α → α} {e : α}

theorem id_right (h : IsCommMonoid op e) (a : α) : op a e = a := by rw [h.comm, h.id_left]

/-- left fold from `e`: starting from the identity, the laws for `++` and `zipWith` hold for every list -/
def msum (op : α → α → α) (e : α) (l : List α) : α := l.foldl op e

theorem foldl_eq (h : IsCommMonoid op e) (x : α) (l : List α) : l.foldl op x = op x (msum op e l) := by
  induction l generalizing x with
  | nil => simp [msum, h.id_right]
  | cons y ys ih =>
    simp only [List.foldl_cons, msum]
    rw [ih (op x y), ih (op e y), h.id_left, h.assoc]

theorem msum_cons_eq_foldl (h : IsCommMonoid op e) (x : α) (xs : List α) : msum op e (x :: xs) = xs.foldl op x := by
  show (x :: xs).foldl op e = xs.foldl op x
  rw [List.foldl_cons, h.id_left]

theorem msum_cons (h : IsCommMonoid op e) (x : α) (l : List α) : msum op e (x :: l) = op x (msum op e l) :=
  (h.msum_cons_eq_foldl x l).trans (h.foldl_eq x l)

theorem msum_append (h : IsCommMonoid op e) (a b : List α) :
    msum op e (a ++ b) = op (msum op e a) (msum op e b) := by
  simp only [msum, List.foldl_append]
  exact h.foldl_eq _ _

theorem msum_replicate_id (h : IsCommMonoid op e) (n : Nat) : msum op e (List.replicate n e) = e := by
  induction n with
  | zero => rfl
  | succ n ih => rw [List.replicate_succ, h.msum_cons, ih, h.id_left]

/-- lane-wise accumulation commutes with the horizontal sum -/
theorem msum_zipWith (h : IsCommMonoid op e) (xs ys : List α) (hl : xs.length = ys.length) :
    msum op e (List.zipWith op xs ys) = op (msum op e xs) (msum op e ys) := by
  induction xs generalizing ys with
  | nil => rw [List.eq_nil_of_length_eq_zero hl.symm]; exact (h.id_left e).symm
  | cons x xs ih =>
    obtain ⟨y, ys, rfl⟩ := List.exists_cons_of_length_eq_add_one hl.symm
    rw [List.zipWith_cons_cons, h.msum_cons, h.msum_cons, h.msum_cons, ih ys (Nat.succ.inj hl), h.assoc, h.assoc]
    congr 1
    rw [← h.assoc, ← h.assoc, h.comm y]

theorem msum_foldl_zipWith (h : IsCommMonoid op e) {γ : Type} (chunk : γ → List α) (N : Nat) (ks : List γ) (acc : List α)
    (ha : acc.length = N) (hk : ∀ k ∈ ks, (chunk k).length = N) :
    msum op e (ks.foldl (fun acc k => List.zipWith op acc (chunk k)) acc)
      = op (msum op e acc) (msum op e (ks.flatMap chunk)) := by
  induction ks generalizing acc with
  | nil => exact (h.id_right _).symm
  | cons k ks ih =>
    have hc := hk k (List.mem_cons_self ..)
    rw [List.foldl_cons, ih _ (by rw [List.length_zipWith, ha, hc, Nat.min_self])
        (fun y hy => hk y (List.mem_cons_of_mem _ hy)),
      h.msum_zipWith _ _ (ha.trans hc.symm), List.flatMap_cons, h.msum_append, h.assoc]

theorem msum_flatMap_congr (h : IsCommMonoid op e) {γ : Type} (c c' : γ → List α) (ks : List γ)
    (hc : ∀ k ∈ ks, msum op e (c k) = msum op e (c' k)) : msum op e (ks.flatMap c) = msum op e (ks.flatMap c') := by
  induction ks with
  | nil => rfl
  | cons k ks ih =>
    rw [List.flatMap_cons, List.flatMap_cons, h.msum_append, h.msum_append, hc k (List.mem_cons_self ..),
        ih (fun y hy => hc y (List.mem_cons_of_mem _ hy))]

end IsCommMonoid

open IsCommMonoid

theorem foldlM_sim {σ τ γ : Type} (Rel : σ → τ → Prop) (f : σ → γ → Option σ) (g : τ → γ → τ) (l : List γ) (s : σ) (t : τ)
    (hs : Rel s t) (h : ∀ x ∈ l, ∀ s t, Rel s t → ∃ s', f s x = some s' ∧ Rel s' (g t x)) :
    ∃ s', l.foldlM f s = some s' ∧ Rel s' (l.foldl g t) := by
  induction l generalizing s t with
  | nil => exact ⟨s, rfl, hs⟩
  | cons x xs ih =>
    obtain ⟨s', h1, h2⟩ := h x (List.mem_cons_self ..) s t hs
    rw [List.foldlM_cons, h1]
    exact ih s' _ h2 (fun y hy => h y (List.mem_cons_of_mem _ hy))

theorem foldlM_congr_mem {σ γ : Type} (l : List γ) (f g : σ → γ → Option σ) (s : σ)
    (h : ∀ x ∈ l, ∀ s, f s x = g s x) : l.foldlM f s = l.foldlM g s := by
  induction l generalizing s with
  | nil => rfl
  | cons x xs ih =>
    rw [List.foldlM_cons, List.foldlM_cons, h x (by simp)]
    cases g s x with
    | none => rfl
    | some s' => exact ih s' (fun y hy => h y (by simp [hy]))

theorem foldlM_range_mul {σ : Type} (f : σ → Nat → Option σ) (Cs R : Nat) (s : σ) :
    (List.range (R * Cs)).foldlM f s
      = (List.range R).foldlM (fun s i => (List.range Cs).foldlM (fun s j => f s (i * Cs + j)) s) s := by
  induction R generalizing s with
  | zero => simp
  | succ R ih =>
    rw [Nat.succ_mul, List.range_add, List.foldlM_append, ih, List.range_succ, List.foldlM_append]
    simp only [List.foldlM_cons, List.foldlM_nil, List.foldlM_map]
    simp

theorem flatMap_chunks (l : List α) (N m : Nat) :
    (List.range m).flatMap (fun k => (l.drop (k * N)).take N) = l.take (m * N) := by
  induction m with
  | zero => simp
  | succ m ih => rw [List.range_succ, List.flatMap_append, ih, Nat.succ_mul, List.take_add]; simp

/-- leftover loop of the full reduction: a plain left fold over the remaining elements `l = data.drop s` -/
theorem tail_reduce_fold (op : α → α → α) (data : List α) (l : List α) (s : Nat) (init : α) (h : data.drop s = l) :
    (List.range' s l.length).foldlM (fun res i => do let x ← readAt data i; pure (op res x)) init
      = some (l.foldl op init) := by
  induction l generalizing s init with
  | nil => rfl
  | cons x l ih =>
    obtain ⟨h1, h2⟩ := List.drop_eq_cons h
    rw [List.length_cons, List.range'_succ, List.foldlM_cons, readAt, h1]
    exact ih (s + 1) (op init x) h2

/-- packed loop of the full reduction: the register's horizontal sum is the sum of the chunks seen so far -/
theorem packed_reduce_fold {op : α → α → α} {e : α} (h : IsCommMonoid op e)
    (packOp : List α → List α → List α) (N : Nat)
    (hp : LaneOp2 N packOp op)
    (data : List α) (m : Nat) (hm : m * N ≤ data.length) :
    ∃ reg, ((List.range m).map (· * N)).foldlM (fun reg i => do let x ← loadu data i N; pure (packOp reg x))
              (List.replicate N e) = some reg
      ∧ reg.length = N ∧ msum op e reg = msum op e (data.take (m * N)) := by
  have hb : ∀ k ∈ List.range m, k * N + N ≤ data.length := fun k hk =>
    Nat.le_trans (Nat.mul_add_self_le_mul N (List.mem_range.1 hk)) hm
  obtain ⟨reg, hf, rfl, hl⟩ := foldlM_sim (fun (reg acc : List α) => reg = acc ∧ acc.length = N)
    (fun reg i => do let x ← loadu data i N; pure (packOp reg x))
    (fun acc i => List.zipWith op acc ((data.drop i).take N)) ((List.range m).map (· * N)) _ (List.replicate N e)
    ⟨rfl, List.length_replicate⟩ (by
      rintro i hi _ acc ⟨rfl, hacc⟩
      obtain ⟨k, hk, rfl⟩ := List.mem_map.1 hi
      have hx := length_take_drop (hb k hk)
      rw [loadu_eq (hb k hk)]
      exact ⟨_, rfl, hp _ _ hacc hx, by rw [List.length_zipWith, hacc, hx, Nat.min_self]⟩)
  have hs := h.msum_foldl_zipWith (fun k => (data.drop (k * N)).take N) N (List.range m) (List.replicate N e)
    List.length_replicate (fun k hk => length_take_drop (hb k hk))
  rw [List.foldl_map] at hf hl
  exact ⟨_, hf, hl, by rw [hs, h.msum_replicate_id, h.id_left, flatMap_chunks]⟩

end NmVerif.Simd
