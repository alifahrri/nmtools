import NmVerif.Basic
import NmVerif.NDA
/-
  NmVerif.Simd.Loop — MODEL of the "packed loop + scalar tail" evaluators of
    include/nmtools/array/eval/simd/evaluator/ufunc.hpp
      eval_unary            (l.38-86)    packed loop on raw data(), tail through apply_at
      eval_binary SAME_SHAPE(l.404-419)  same structure with two operands
      eval_reduction, out_size == 1              vertical accumulate from set1(identity), horizontal fold, leftover
  and of the default (scalar) evaluator of include/nmtools/array/eval.hpp they are compared with.

  Buffers are `List`s; a packed load/store that would leave its buffer is `none`
  (the C++ has undefined behaviour there), so "never reads or writes outside its buffers"
  is the statement "the evaluator returns `some _`".

  The intrinsic wrappers (`op.eval` of `simd::ufunc_simd_t`) are a *parameter* `packF`; theorems
  take the hypothesis `LaneWise1` / `LaneWise2` (lane-wise = the scalar op) — see Props/C12.lean.

  Core Lean only: linked into the driver.
-/
namespace NmVerif.Simd
open NmVerif

variable {α β : Type}

/-! ### raw buffer accesses -/

/-- `op.loadu(&buf[i])`: `lanes` consecutive elements; `none` = the load leaves the buffer -/
def loadu (buf : List α) (i lanes : Nat) : Option (List α) :=
  if i + lanes ≤ buf.length then some ((buf.drop i).take lanes) else none

/-- `op.storeu(&buf[i], reg)`; `none` = the store leaves the buffer -/
def storeu (buf : List α) (i : Nat) (reg : List α) : Option (List α) :=
  if i + reg.length ≤ buf.length then some (buf.take i ++ reg ++ buf.drop (i + reg.length)) else none

/-- `buf[i] = v` on a raw pointer; `none` = outside the buffer -/
def writeAt (buf : List α) (i : Nat) (v : α) : Option (List α) :=
  if i < buf.length then some (buf.set i v) else none

/-- `buf[i]` on a raw pointer -/
def readAt (buf : List α) (i : Nat) : Option α := buf[i]?

/-! ### the loop skeleton -/

/-- index sequence of `for (size_t i=0; (i+N)<=size; i+=N)`, by fuel (`size+1` iterations suffice) -/
def packedLoopIdx (lanes n : Nat) : Nat → Nat → List Nat
  | 0, _ => []
  | fuel+1, i => if i + lanes ≤ n then i :: packedLoopIdx lanes n fuel (i + lanes) else []

def packedStarts (lanes n : Nat) : List Nat := packedLoopIdx lanes n (n+1) 0

/-- index sequence of the leftover loop `for (size_t i=(size/N)*N; i<size; i++)` -/
def tailIdx (lanes n : Nat) : List Nat := List.range' ((n / lanes) * lanes) (n - (n / lanes) * lanes)

/-! ### scalar (default) evaluator: `out(ndindex k) = f(view(ndindex k))`, output row-major -/

/-- all reads succeed (no access left a buffer) -/
def allSome : List (Option α) → Option (List α)
  | [] => some []
  | none :: _ => none
  | some x :: xs => (allSome xs).map (x :: ·)

/-- logical elements of an array in row-major enumeration order (what `eval` copies out) -/
def logical (a : NDA α) : Option (List α) :=
  allSome ((List.range (prod a.shape)).map (fun k => a.get? (ndindex a.shape k)))

def scalarUnary (f : α → β) (a : NDA α) : Option (List β) := (logical a).map (·.map f)

/-! ### eval_unary -/

/-- `eval_unary`: `packF` is `op.eval` on a register, `f` the scalar functor `view.op`.
    `out` is the freshly resized output buffer (row-major `ndarray_t`). -/
def simdUnary (lanes : Nat) (packF : List α → List β) (f : α → β) (a : NDA α) (out : List β) : Option (List β) := do
  let n := prod a.shape                       -- inp_index.size()
  let out ← (packedStarts lanes n).foldlM (fun o i => do
      let r ← loadu a.data i lanes            -- op.loadu(&inp_ptr[i])
      storeu o i (packF r)) out               -- op.storeu(&out_ptr[i], op.eval(a))
  (tailIdx lanes n).foldlM (fun o i => do
      let idx := ndindex a.shape i            -- inp_index[i] == out_index[i]
      let v ← a.get? idx                      -- apply_at(view, inp_idx)
      writeAt o (computeOffset idx (strides a.shape)) (f v)) out   -- apply_at(output, out_idx) = …

/-! ### eval_binary, SAME_SHAPE case -/

def scalarBinarySame (f : α → α → β) (a b : NDA α) : Option (List β) := do
  let x ← logical a
  let y ← logical b
  pure (List.zipWith f x y)

/-- `eval_binary`, `utils::isequal(lhs_shape, rhs_shape)` branch -/
def simdBinarySame (lanes : Nat) (packF : List α → List α → List β) (f : α → α → β)
    (a b : NDA α) (out : List β) : Option (List β) := do
  let n := prod a.shape
  let out ← (packedStarts lanes n).foldlM (fun o i => do
      let l ← loadu a.data i lanes
      let r ← loadu b.data i lanes
      storeu o i (packF l r)) out
  (tailIdx lanes n).foldlM (fun o i => do
      let idx := ndindex a.shape i
      let x ← a.get? idx
      let y ← b.get? idx
      writeAt o (computeOffset idx (strides a.shape)) (f x y)) out

/-! ### eval_reduction, `out_size == 1` (reduce everything to one scalar) -/

/-- left fold the scalar evaluator performs: first element, then `op(acc, x)` (no `initial`) -/
def scalarReduceAll (op : α → α → α) (a : NDA α) : Option α := do
  match (← logical a) with
  | [] => none
  | x :: xs => pure (xs.foldl op x)

/-- `eval_reduction` when the output has one element.  `identity` is `view.op.identity()`: the vector
    accumulator starts from `op.set1(identity)`.  (Ops without `identity()` never get here: the evaluator
    hands them to the scalar evaluator, see `simdReduceAxis` / `simdEvalReduceAll` in Simd/Eval.lean.) -/
def simdReduceAll (lanes : Nat) (packOp : List α → List α → List α) (op : α → α → α) (identity : α)
    (a : NDA α) : Option α := do
  let n := a.data.length                                   -- nmtools::size(*input_array_ptr)
  let reg ← (packedStarts lanes n).foldlM (fun reg i => do
      let x ← loadu a.data i lanes
      pure (packOp reg x)) (List.replicate lanes identity)   -- reg = op.set1(identity); reg = op.eval(reg, operand)
  -- horizontal: result = tmp_res[0]; for i in 1..N: result = view.op(result, tmp_res[i])
  match reg with
  | [] => none
  | r0 :: rs =>
    let result := rs.foldl op r0
    -- leftover: result = view.op(result, inp_data_ptr[i])
    (tailIdx lanes n).foldlM (fun res i => do
        let x ← readAt a.data i
        pure (op res x)) result

end NmVerif.Simd
