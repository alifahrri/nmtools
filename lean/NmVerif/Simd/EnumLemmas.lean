import NmVerif.Simd.Enum
import NmVerif.Simd.SeqLemmas
/-
  Index-level facts about the enumerators of Simd/Enum.lean.  Shared: the partial register that ends a row of `outer_simd`,
  `reduction_2d` HORIZONTAL and `matmul_simd_inner` (`rowStep`, `pad_step`), and the row / column of a flat step number
  (`binary2dAt_row`, `reductionAt_row`).  For `binary_2d_simd`: the output blocks of successive steps tile the output buffer
  contiguously (`Contig`), and operand offsets follow the broadcasting rule.
  (The tiling of `outer_simd` is in OuterLemmas, that of `matmul_simd_inner` in Props/C12.)
-/
namespace NmVerif.Simd
open NmVerif

/-- number of output cells a step writes: a register when PACKED, else one scalar -/
def stepLen (N : Nat) (t : TIdx) : Nat := if t.tag = Tag.PACKED then N else 1

/-- PACKED for a whole register, `PAD_k` with `k = N − n % N` missing lanes for the partial register that ends the row -/
def rowStep (N n s off : Nat) : TIdx := ⟨if s * N + N ≤ n then Tag.PACKED else Tag.PAD (N - n % N), off⟩

/-- how the `switch` of an evaluator reads the step `n / N` that ends a row with `n % N ≠ 0`: no whole register is left, the tag is
    not PACKED and lies in `1 … N − 1`, `n % N` lanes are in use -/
theorem pad_step {N n : Nat} (hN : 0 < N) (h : n % N ≠ 0) :
    ¬ n / N * N + N ≤ n ∧ Tag.PAD (N - n % N) ≠ Tag.PACKED ∧ (1 ≤ Tag.PAD (N - n % N) ∧ Tag.PAD (N - n % N) < (N : Int))
      ∧ (Tag.PAD (N - n % N)).toNat = N - n % N ∧ N - (N - n % N) = n % N := by
  have hm := Nat.mod_lt n hN
  have key : ∀ k : Nat, 0 < k → k < N → Tag.PAD k ≠ Tag.PACKED ∧ (1 ≤ Tag.PAD k ∧ Tag.PAD k < (N : Int)) := by
    intro k h1 h2
    simp only [Tag.PAD, Tag.PACKED]
    omega
  obtain ⟨h2, h3⟩ := key _ (Nat.sub_pos_of_lt hm) (Nat.sub_lt hN (Nat.pos_of_ne_zero h))
  exact ⟨Nat.not_le.2 (Nat.lt_div_mul_add hN), h2, h3, Int.toNat_natCast _, Nat.sub_sub_self (Nat.le_of_lt hm)⟩

theorem rowStep_off (N n s off : Nat) : (rowStep N n s off).off = off := rfl

theorem binary2dAt_row (N oc lr lc rr rc r sc : Nat) (h : sc < cellSteps N oc) :
    binary2dAt N oc lr lc rr rc (r * cellSteps N oc + sc) = binary2d N r sc oc lr lc rr rc := by
  unfold binary2dAt binary2dShape
  simp only
  rw [show oc / N + oc % N = cellSteps N oc from rfl, Nat.mul_add_div_of_lt r h, Nat.mul_add_mod_of_lt h]

theorem reductionAt_row (kind : RKind) (N : Nat) (outShape inpShape : List Nat) (axis Cs i j : Nat) (inp : Nat × Nat)
    (hinp : reductionNdReshape kind inpShape axis = inp) (hCs : (reduction2dShape kind N inp).2 = Cs) (hj : j < Cs) :
    reductionAt kind N outShape inpShape axis (i * Cs + j)
      = reduction2d kind N i j (reductionNdReshape kind outShape axis) inp := by
  unfold reductionAt
  simp only
  rw [hinp, hCs, Nat.mul_add_div_of_lt i hj, Nat.mul_add_mod_of_lt hj]

theorem binary2d_out (N r sc oc lr lc rr rc : Nat) :
    (binary2d N r sc oc lr lc rr rc).1.off = r * oc + cellCol N oc sc
      ∧ stepLen N (binary2d N r sc oc lr lc rr rc).1 = cellLen N oc sc := by
  unfold binary2d cellCol stepLen cellLen
  by_cases h : sc < oc / N
  · simp [h, Nat.not_le.2 h, Nat.add_comm]
  · simp [h, Nat.not_lt.1 h, Nat.add_comm, show ¬ Tag.SCALAR = Tag.PACKED by decide]

theorem binary2d_contig (N oc lr lc rr rc R : Nat) :
    Contig (fun i => (binary2dAt N oc lr lc rr rc i).1.off) (fun i => stepLen N (binary2dAt N oc lr lc rr rc i).1)
      0 (List.range (R * cellSteps N oc)) (R * oc) := by
  refine Contig.rows _ _ R (fun r _ => Contig.row_cells N oc _ _ fun sc hsc => ?_)
  rw [binary2dAt_row _ _ _ _ _ _ _ _ hsc]
  exact binary2d_out ..

/-- buffer offset read by lane `j` of an operand access (a register when PACKED, else one element for all lanes) -/
def laneOff (t : TIdx) (j : Nat) : Nat := if t.tag = Tag.PACKED then t.off + j else t.off

theorem laneOff_zero (t : TIdx) : laneOff t 0 = t.off := by
  unfold laneOff; split <;> rfl

/-- NumPy broadcasting of a row-major `(rows, cols)` operand against a result with `oc` columns:
    the buffer element that output cell `o` (row-major) reads -/
def bcastOff (rows cols oc o : Nat) : Nat :=
  (if rows = 1 then 0 else o / oc) * cols + (if cols = 1 then 0 else o % oc)

/-- operand shapes the enumerator handles: broadcast-compatible with the `(R, oc)` result
    (each extent equals the result's or is 1; this includes a `(1,1)` operand) -/
def OperandOK (R oc rows cols : Nat) : Prop :=
  (cols = oc ∨ cols = 1) ∧ (rows = R ∨ rows = 1)

theorem bcastOff_row (rows cols oc c r : Nat) (h : c < oc) :
    bcastOff rows cols oc (r * oc + c) = (if rows = 1 then 0 else r) * cols + if cols = 1 then 0 else c := by
  unfold bcastOff
  rw [Nat.mul_add_div_of_lt r h, Nat.mul_add_mod_of_lt h]

/-- at step `(r, sc)` lane `j` of an operand access reads the element that NumPy broadcasting gives to the output cell
    the same lane writes, `r·oc + cellCol N oc sc + j` -/
theorem binary2dOperand_lane (N r sc oc R rows cols j : Nat) (hr : r < R)
    (hsc : sc < cellSteps N oc) (hok : OperandOK R oc rows cols) (hj : j < cellLen N oc sc) :
    laneOff (binary2dOperand N r sc oc (decide (sc ≥ oc / N)) rows cols) j
      = bcastOff rows cols oc (r * oc + cellCol N oc sc + j) := by
  obtain ⟨hc, hrw⟩ := hok
  rw [Nat.add_assoc, bcastOff_row _ _ _ _ _ (lane_lt hj (cellCol_add_cellLen_le N oc sc hsc))]
  have hrows : (if rows > 1 then r else 0) = (if rows = 1 then 0 else r)
      ∧ r * oc * (if rows > 1 then 1 else 0) = (if rows = 1 then 0 else r) * oc := by
    by_cases h1 : rows = 1
    · subst h1; exact ⟨rfl, by rw [if_neg (by decide), if_pos rfl, Nat.mul_zero, Nat.zero_mul]⟩
    · have hgt : rows > 1 := by omega
      rw [if_pos hgt, if_neg h1, if_pos hgt, Nat.mul_one]; exact ⟨rfl, rfl⟩
  unfold laneOff cellCol
  unfold cellLen at hj
  fun_cases binary2dOperand N r sc oc (decide (sc ≥ oc / N)) rows cols
  next _ h _ =>
    -- SCALAR (past the registers of the output and of the operand): one element, a one-column operand's at its row
    rw [Bool.and_eq_true, decide_eq_true_eq, decide_eq_true_eq] at h
    dsimp +zetaDelta only
    rw [if_neg (show ¬ Tag.SCALAR = Tag.PACKED by decide), hrows.1, hrows.2]
    by_cases hc1 : cols = 1
    · rw [if_pos hc1, if_pos hc1, hc1, Nat.mul_one, Nat.add_zero]
    · obtain rfl := hc.resolve_right hc1
      rw [if_neg hc1, if_neg hc1, if_neg (Nat.not_lt.2 h.1)]
      rw [if_neg (Nat.not_lt.2 h.1), Nat.lt_one_iff] at hj
      rw [hj, Nat.add_zero, Nat.add_comm]
  next _ _ hc1 =>
    rw [if_neg (show ¬ Tag.BROADCAST = Tag.PACKED by decide), hrows.1, if_pos hc1, hc1, Nat.mul_one, Nat.add_zero]
  next _ h hc1 =>
    -- PACKED: a full-width operand is read like the output, a register at `sc·N`
    obtain rfl := hc.resolve_right hc1
    have hp : sc < cols / N := by simpa +zetaDelta using h
    rw [if_pos rfl, hrows.2, if_neg hc1, if_pos hp, Nat.add_right_comm, Nat.add_comm]

end NmVerif.Simd
