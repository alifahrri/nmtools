import NmVerif.Simd.Eval
import NmVerif.Simd.ReduceLemmas
import NmVerif.Simd.EnumLemmas
/-
  HORIZONTAL reduction (`simdReduceHorizontal`): per output row, the packed chunks (last one identity-padded)
  accumulate lane-wise, and the horizontal fold of the accumulator is the monoid sum of the row.
  The padded register of a row (`pchunk`, with `pchunk_whole` / `pchunk_partial` for the two kinds of step) is shared with
  `eval_matmul` (Simd/MatmulLemmas.lean).
-/
namespace NmVerif.Simd
open NmVerif IsCommMonoid

variable {α : Type}

theorem hfold_eq_msum {op : α → α → α} {e : α} (h : IsCommMonoid op e) (reg : List α) (hl : 0 < reg.length) :
    hfold op reg = some (msum op e reg) := by
  cases reg with
  | nil => simp at hl
  | cons r0 rs => exact congrArg some (h.msum_cons_eq_foldl r0 rs).symm

/-- register `s` of a row: elements `s·N … s·N+N−1`, padded with `zero` past the end of the row (the identity of the
    operation in a reduction, the 0 of `set1(0)` in `eval_matmul`) -/
def pchunk (zero : α) (N : Nat) (row : List α) (s : Nat) : List α :=
  (row.drop (s * N)).take N ++ List.replicate (N - ((row.drop (s * N)).take N).length) zero

theorem pchunk_length (zero : α) (N : Nat) (row : List α) (s : Nat) : (pchunk zero N row s).length = N := by
  rw [pchunk, List.length_append, List.length_replicate, Nat.add_sub_cancel' (List.length_take_le ..)]

theorem pchunk_whole (pad : α) {N K s : Nat} (row : List α) (hrow : row.length = K) (h : s < K / N) :
    pchunk pad N row s = (row.drop (s * N)).take N := by
  rw [pchunk, length_take_drop (hrow ▸ chunk_le h), Nat.sub_self, List.replicate_zero, List.append_nil]

theorem pchunk_partial (pad : α) {N K : Nat} (hN : 0 < N) (row : List α) (hrow : row.length = K) :
    pchunk pad N row (K / N) = (row.drop (K / N * N)).take (K % N) ++ List.replicate (N - K % N) pad := by
  have hmod := Nat.mod_lt K hN
  have hdl : (row.drop (K / N * N)).length = K % N := by
    rw [List.length_drop, hrow, ← Nat.mod_eq_sub_div_mul]
  rw [pchunk, List.take_of_length_le (Nat.le_of_eq hdl), List.take_of_length_le (hdl ▸ Nat.le_of_lt hmod), hdl]

/-- the padded registers of a row, accumulated lane-wise from `set1(e)` and summed horizontally, give the sum of the row -/
theorem msum_lanes {op : α → α → α} {e : α} (hm : IsCommMonoid op e) (N : Nat) (hN : 0 < N) (row : List α) {K : Nat}
    (hK : row.length = K) :
    msum op e ((List.range (padSteps N K)).foldl (fun acc s => List.zipWith op acc (pchunk e N row s)) (List.replicate N e))
      = msum op e row := by
  subst hK
  rw [hm.msum_foldl_zipWith _ N _ _ List.length_replicate (fun s _ => pchunk_length e N row s), hm.msum_replicate_id, hm.id_left,
      hm.msum_flatMap_congr _ (fun s => (row.drop (s * N)).take N) _
        (fun s _ => by rw [pchunk, hm.msum_append, hm.msum_replicate_id, hm.id_right]),
      flatMap_chunks, List.take_of_length_le (padSteps_mul_ge N _ hN)]

theorem reduction2d_h (N i j : Nat) (out : Nat × Nat) (R C : Nat) :
    reduction2d .horizontal N i j out (R, C)
      = some (⟨if j + 1 = padSteps N C then Tag.ACCUMULATE else Tag.NOP, i⟩,
              rowStep N C j (i * C + j * N)) := by
  unfold reduction2d padSteps rowStep
  simp only [← Nat.mod_eq_sub_div_mul, gt_iff_lt, ← Nat.not_le, ite_not]

section
variable (N : Nat) (packOp : List α → List α → List α) (op : α → α → α) (e : α)
  (inp : List α) (outShape inpShape : List Nat) (axis R C : Nat)

theorem horizStep_row (hRC : reductionNdReshape .horizontal inpShape axis = (R, C)) (hN : 0 < N)
    (i j : Nat) (hj : j < padSteps N C) (hin : i * C + C ≤ inp.length) (st : List α × List α) :
    horizStep N packOp op e inp outShape inpShape axis st (i * padSteps N C + j)
      = (if j + 1 = padSteps N C then do
          let r ← hfold op (packOp st.2 (pchunk e N (rowOf inp C i) j))
          let o ← writeAt st.1 i r
          pure (o, List.replicate N e)
        else some (st.1, packOp st.2 (pchunk e N (rowOf inp C i) j))) := by
  have hat := reductionAt_row .horizontal N outShape inpShape axis (padSteps N C) i j _ hRC rfl hj
  have hrl := rowOf_length inp C i hin
  have hdm := Nat.div_add_mod' C N
  have htag : (if j + 1 = padSteps N C then Tag.ACCUMULATE else Tag.NOP) = Tag.ACCUMULATE ↔ j + 1 = padSteps N C := by
    by_cases h : j + 1 = padSteps N C
    · rw [if_pos h]; exact iff_of_true rfl h
    · rw [if_neg h]; exact iff_of_false (by decide) h
  unfold horizStep
  rw [hat, reduction2d_h]
  simp only [Option.bind_eq_bind, Option.bind_some, rowStep, htag]
  -- the input register: a whole one, or the `C % N` elements that end the row with `N − C % N` pads
  rcases lt_padSteps hj with h | ⟨rfl, h⟩
  · have hle := chunk_le h
    rw [pchunk_whole e _ hrl h]
    simp only [if_pos hle, if_true, loadu_row inp C i _ N hle hin, Option.pure_def, Option.bind_some]
  · obtain ⟨h1, h2, h3, h4, h5⟩ := pad_step hN h
    rw [pchunk_partial e hN _ hrl]
    simp only [if_neg h1, if_neg h2, if_pos h3, h4, h5, loadu_row inp C i _ (C % N) (Nat.le_of_eq hdm) hin, Option.pure_def, Option.bind_some]

/-- a whole row of the HORIZONTAL enumerator: `out[i] = Σ row i`, accumulator reset -/
theorem horiz_row (hm : IsCommMonoid op e)
    (hp : LaneOp2 N packOp op)
    (hRC : reductionNdReshape .horizontal inpShape axis = (R, C)) (hN : 0 < N) (hC : 0 < C)
    (i : Nat) (hi : i < R) (hinp : inp.length = R * C) (o : List α) (ho : o.length = R) :
    (List.range (padSteps N C)).foldlM (fun s j => horizStep N packOp op e inp outShape inpShape axis s (i * padSteps N C + j))
        (o, List.replicate N e)
      = some (o.set i (msum op e (rowOf inp C i)), List.replicate N e) := by
  have hin := hinp ▸ Nat.mul_add_self_le_mul C hi
  obtain ⟨k, hk⟩ := padSteps_succ hN hC
  obtain ⟨_, hf, rfl, hl⟩ := foldlM_sim (fun (st : List α × List α) acc => st = (o, acc) ∧ acc.length = N)
    (fun s j => horizStep N packOp op e inp outShape inpShape axis s (i * padSteps N C + j))
    (fun acc j => List.zipWith op acc (pchunk e N (rowOf inp C i) j)) (List.range k) _ (List.replicate N e)
    ⟨rfl, List.length_replicate⟩ (by
      rintro j hj _ acc ⟨rfl, hacc⟩
      have hj' := List.mem_range.1 hj
      rw [horizStep_row N packOp op e inp outShape inpShape axis R C hRC hN i j (hk ▸ Nat.lt_succ_of_lt hj') hin,
          if_neg (hk ▸ Nat.ne_of_lt (Nat.succ_lt_succ hj')), hp _ _ hacc (pchunk_length ..)]
      exact ⟨_, rfl, rfl, by rw [List.length_zipWith, hacc, pchunk_length, Nat.min_self]⟩)
  have hs := msum_lanes hm N hN (rowOf inp C i) (rowOf_length inp C i hin)
  rw [hk, List.range_succ, List.foldl_append] at hs
  simp only [List.foldl_cons, List.foldl_nil] at hs
  rw [hk, List.range_succ, List.foldlM_append, ← hk, hf]
  simp only [Option.bind_eq_bind, Option.bind_some, List.foldlM_cons, List.foldlM_nil]
  rw [horizStep_row N packOp op e inp outShape inpShape axis R C hRC hN i k (hk ▸ Nat.lt_succ_self k) hin, if_pos hk.symm,
      hp _ _ hl (pchunk_length ..), hfold_eq_msum hm _ (by rw [List.length_zipWith, hl, pchunk_length, Nat.min_self]; exact hN), hs]
  simp [writeAt, ho, hi]

end
end NmVerif.Simd
