import NmVerif.Simd.IntLanes
/-
  The integer lane model of Simd/IntLanes.lean: encode/decode round trips, the lane operation = `static_cast<T>` of the exact
  result, `IntTy.wrap` is THE representable value congruent to the exact result (NumPy's wrap-around arithmetic), and when the
  scalar functor is defined.
-/
namespace NmVerif.Simd
open IntTy

/-- `BitVec.ofInt` commutes with subtraction (core has the lemma for `+` and `*` only) -/
theorem ofInt_sub (w : Nat) (x y : Int) : BitVec.ofInt w (x - y) = BitVec.ofInt w x - BitVec.ofInt w y := by
  apply BitVec.eq_of_toInt_eq
  rw [BitVec.toInt_sub]
  simp only [BitVec.toInt_ofInt]
  simp

theorem encode_decode (t : IntTy) (a : BitVec t.bits) : t.encode (t.decode a) = a := by
  unfold encode decode
  split
  · exact BitVec.ofInt_toInt
  · rw [BitVec.ofInt_natCast]; simp

theorem decode_encode (t : IntTy) (z : Int) : t.decode (t.encode z) = t.wrap z := by
  unfold encode decode wrap
  split
  · exact BitVec.toInt_ofInt z
  · rw [BitVec.toNat_ofInt]
    exact Int.toNat_of_nonneg (Int.emod_nonneg _ (Int.ne_of_gt (Int.natCast_pos.2 (Nat.two_pow_pos _))))

theorem lane_eq_encode (t : IntTy) (o : IOp) (a b : BitVec t.bits) :
    o.lane a b = t.encode (o.exact (t.decode a) (t.decode b)) := by
  conv => lhs; rw [← encode_decode t a, ← encode_decode t b]
  cases o
  · exact (BitVec.ofInt_add _ _).symm
  · exact (ofInt_sub _ _ _).symm
  · exact (BitVec.ofInt_mul _ _).symm

theorem natCast_two_pow (w : Nat) : ((2 ^ w : Nat) : Int) = (2 : Int) ^ w := Int.natCast_pow 2 w

theorem decode_inRange (t : IntTy) (a : BitVec t.bits) : t.InRange (t.decode a) := by
  unfold InRange decode
  split
  · exact ⟨BitVec.le_toInt a, BitVec.toInt_lt⟩
  · exact ⟨Int.natCast_nonneg _, by rw [← natCast_two_pow]; exact Int.ofNat_lt.2 a.isLt⟩

/-- `wrap z` is the number a bit pattern stands for: its range is core's range of `BitVec.toInt` / `toNat` -/
theorem wrap_inRange (t : IntTy) (z : Int) : t.InRange (t.wrap z) :=
  decode_encode t z ▸ decode_inRange t (t.encode z)

theorem wrap_dvd (t : IntTy) (z : Int) : ((2 ^ t.bits : Nat) : Int) ∣ t.wrap z - z := by
  unfold wrap
  split
  · exact Int.dvd_bmod_sub_self
  · exact Int.dvd_emod_sub_self

theorem wrap_eq_of_dvd (t : IntTy) (x y : Int) (h : ((2 ^ t.bits : Nat) : Int) ∣ x - y) : t.wrap x = t.wrap y := by
  have he : x % ((2 ^ t.bits : Nat) : Int) = y % ((2 ^ t.bits : Nat) : Int) :=
    Int.emod_eq_emod_iff_emod_sub_eq_zero.2 (Int.emod_eq_zero_of_dvd h)
  unfold wrap
  split
  · rw [Int.bmod_def, Int.bmod_def, he]
  · exact he

theorem wrap_eq_self (t : IntTy) (hb : 0 < t.bits) (x : Int) (h : t.InRange x) : t.wrap x = x := by
  unfold InRange at h
  unfold wrap
  split
  · rename_i hs
    rw [if_pos hs] at h
    exact (BitVec.toInt_ofInt x).symm.trans (BitVec.toInt_ofInt_eq_self hb h.1 h.2)
  · rename_i hs
    rw [if_neg hs] at h
    exact Int.emod_eq_of_lt h.1 (by rw [natCast_two_pow]; exact h.2)

/-- coarse bound valid for both signednesses -/
theorem inRange_bound (t : IntTy) (x : Int) (h : t.InRange x) (B : Nat) (hB : t.bits ≤ B) :
    -((2 ^ B : Nat) : Int) ≤ x ∧ x < ((2 ^ B : Nat) : Int) := by
  have h1 : 2 ^ t.bits ≤ 2 ^ B := Nat.pow_le_pow_right (by decide) hB
  have h2 : 2 ^ (t.bits - 1) ≤ 2 ^ t.bits := Nat.pow_le_pow_right (by decide) (Nat.sub_le _ _)
  have c1 := natCast_two_pow t.bits
  have c2 := natCast_two_pow (t.bits - 1)
  unfold InRange at h
  split at h
  · rw [← c2] at h; omega
  · rw [← c1] at h; omega

theorem scalarOp_some (t : IntTy) (o : IOp) (a b : BitVec t.bits)
    (h : t.promoted.signed = false ∨ t.promoted.InRange (o.exact (t.decode a) (t.decode b))) :
    scalarOp t o a b = some (o.lane a b) := by
  unfold scalarOp
  rw [lane_eq_encode t o a b]
  rcases h with h | h
  · simp only [h, Bool.false_and]; rfl
  · simp only [h, decide_true, Bool.not_true, Bool.and_false]; rfl

theorem inRange32 (z : Int) (h : -2147483648 ≤ z ∧ z < 2147483648) : (⟨32, true⟩ : IntTy).InRange z := by
  unfold InRange; simpa using h

end NmVerif.Simd
